/-
C02 — One backward step exactly undoes one forward step.

Theorems about the shared Yee model (`FdtdxModel/Yee.lean`): for EVERY grid shape, every halo mix (zero,
periodic, Bloch multipliers — the halo rule is arbitrary here), PEC/PMC walls, every metric, isotropic or diagonal
materials with or without electric and magnetic conductivity, ANY additive source terms jE, jH (any source set,
switch and temporal profile: the reverse step subtracts the same terms), and any state satisfying the walls,
`backward (forward (E,H)) = (E,H)` exactly, over any field (`C02_roundtrip`; `C02_roundtrip_steps` for n steps with
step-indexed sources).  The hypothesis `FactorOK` is what the reverse update divides by (`C02_factor_needed`): where
a conductivity array is present, `1 ± c·σ·η₀·ε⁻¹/2 ≠ 0` (resp. `1 ± c·σ/η₀·μ⁻¹/2 ≠ 0`).
The fully anisotropic (9-component) tier: `FdtdxProps/C02Aniso.lean`, `FdtdxProps/C02AnisoLossy.lean`.
-/
import FdtdxProps.C01
import Mathlib.Tactic.Ring

namespace Fdtdx.C02
open Fdtdx Fdtdx.Yee Fdtdx.C01

section
variable {K : Type} [Field K]

/-- divisors of the lossy forward / reverse updates are non-zero -/
def okE (c eta0 ie : K) (sig : Option K) : Prop :=
  ∀ s, sig = some s → 1 + c * s * eta0 * ie / 2 ≠ 0 ∧ 1 - c * s * eta0 * ie / 2 ≠ 0
def okH (c eta0 im : K) (sig : Option K) : Prop :=
  ∀ s, sig = some s → 1 + c * s / eta0 * im / 2 ≠ 0 ∧ 1 - c * s / eta0 * im / 2 ≠ 0

structure FactorOK (cf : Cfg K) (m : Mat K) : Prop where
  ex : ∀ i j k, okE cf.c cf.eta0 (m.invEps.x i j k) (optAt (m.sigE.map (·.x)) i j k)
  ey : ∀ i j k, okE cf.c cf.eta0 (m.invEps.y i j k) (optAt (m.sigE.map (·.y)) i j k)
  ez : ∀ i j k, okE cf.c cf.eta0 (m.invEps.z i j k) (optAt (m.sigE.map (·.z)) i j k)
  hx : ∀ i j k, okH cf.c cf.eta0 (m.invMu.x i j k) (optAt (m.sigH.map (·.x)) i j k)
  hy : ∀ i j k, okH cf.c cf.eta0 (m.invMu.y i j k) (optAt (m.sigH.map (·.y)) i j k)
  hz : ∀ i j k, okH cf.c cf.eta0 (m.invMu.z i j k) (optAt (m.sigH.map (·.z)) i j k)

/-- scalar core: the reverse E update inverts the forward one (source term added then subtracted) -/
theorem revE1_updE1 (c eta0 e cu ie j : K) (sig : Option K) (h : okE c eta0 ie sig) :
    revE1 c eta0 (updE1 c eta0 e cu ie sig + j - j) cu ie sig = e := by
  cases sig with
  | none => simp only [revE1, updE1, div_one, add_sub_cancel_right]
  | some s =>
    obtain ⟨h1, h2⟩ := h s rfl
    simp only [revE1, updE1]
    rw [add_sub_cancel_right, div_mul_cancel₀ _ h1, add_sub_cancel_right, mul_div_cancel_left₀ _ h2]

theorem revH1_updH1 (c eta0 hh cu im j : K) (sig : Option K) (h : okH c eta0 im sig) :
    revH1 c eta0 (updH1 c eta0 hh cu im sig + j - j) cu im sig = hh := by
  cases sig with
  | none => simp only [revH1, updH1, div_one, add_sub_cancel_right, sub_add_cancel]
  | some s =>
    obtain ⟨h1, h2⟩ := h s rfl
    simp only [revH1, updH1]
    rw [add_sub_cancel_right, div_mul_cancel₀ _ h1, sub_add_cancel, mul_div_cancel_left₀ _ h2]

/-- one masked component of a half step and its reverse: where the wall mask is set the old value was 0, elsewhere
the scalar reverse update undoes the scalar forward update; `cuF`, `cuB` are the curls the two directions use -/
theorem revE1_masked (c eta0 e cuF cuB ie j e1 : K) (sig : Option K) (b : Bool) (hok : okE c eta0 ie sig)
    (hw : b = true → e = 0) (hcu : cuB = cuF) (he : e1 = if b = true then 0 else updE1 c eta0 e cuF ie sig + j) :
    (if b = true then 0 else revE1 c eta0 (e1 - j) cuB ie sig) = e := by
  subst hcu he
  cases b
  · exact revE1_updE1 _ _ _ _ _ _ _ hok
  · exact (hw rfl).symm

theorem revH1_masked (c eta0 h cuF cuB im j h1 : K) (sig : Option K) (b : Bool) (hok : okH c eta0 im sig)
    (hw : b = true → h = 0) (hcu : cuB = cuF) (hh : h1 = if b = true then 0 else updH1 c eta0 h cuF im sig + j) :
    (if b = true then 0 else revH1 c eta0 (h1 - j) cuB im sig) = h := by
  subst hcu hh
  cases b
  · exact revH1_updH1 _ _ _ _ _ _ _ hok
  · exact (hw rfl).symm

omit [Field K] in
theorem V3.ext' (A B : V3 K) (hx : ∀ i j k, A.x i j k = B.x i j k) (hy : ∀ i j k, A.y i j k = B.y i j k)
    (hz : ∀ i j k, A.z i j k = B.z i j k) : A = B := by
  cases A; cases B
  simp only [V3.mk.injEq]
  exact ⟨funext fun i => funext fun j => funext fun k => hx i j k,
    funext fun i => funext fun j => funext fun k => hy i j k,
    funext fun i => funext fun j => funext fun k => hz i j k⟩

/-- reversing the H half step: for any E-field `E'` used by both directions -/
theorem revStepH_stepH (cf : Cfg K) (m : Mat K) (jH : V3 K) (E' H : V3 K) (hf : FactorOK cf m)
    (hwx : ∀ i j k, pmcMask cf 0 i j k = true → H.x i j k = 0)
    (hwy : ∀ i j k, pmcMask cf 1 i j k = true → H.y i j k = 0)
    (hwz : ∀ i j k, pmcMask cf 2 i j k = true → H.z i j k = 0) :
    revStepH cf m jH E' (stepH cf m jH E' H) = H :=
  V3.ext' _ _ (fun i j k => revH1_masked _ _ _ _ _ _ _ _ _ _ (hf.hx i j k) (hwx i j k) rfl rfl)
    (fun i j k => revH1_masked _ _ _ _ _ _ _ _ _ _ (hf.hy i j k) (hwy i j k) rfl rfl)
    (fun i j k => revH1_masked _ _ _ _ _ _ _ _ _ _ (hf.hz i j k) (hwz i j k) rfl rfl)

theorem revStepE_stepE (cf : Cfg K) (m : Mat K) (jE : V3 K) (E H : V3 K) (hf : FactorOK cf m)
    (hwx : ∀ i j k, pecMask cf 0 i j k = true → E.x i j k = 0)
    (hwy : ∀ i j k, pecMask cf 1 i j k = true → E.y i j k = 0)
    (hwz : ∀ i j k, pecMask cf 2 i j k = true → E.z i j k = 0) :
    revStepE cf m jE (stepE cf m jE E H) H = E :=
  V3.ext' _ _ (fun i j k => revE1_masked _ _ _ _ _ _ _ _ _ _ (hf.ex i j k) (hwx i j k) rfl rfl)
    (fun i j k => revE1_masked _ _ _ _ _ _ _ _ _ _ (hf.ey i j k) (hwy i j k) rfl rfl)
    (fun i j k => revE1_masked _ _ _ _ _ _ _ _ _ _ (hf.ez i j k) (hwz i j k) rfl rfl)

/-- **C02_roundtrip**: stepping backward after stepping forward returns the original E and H, exactly. -/
theorem C02_roundtrip (cf : Cfg K) (m : Mat K) (jE jH : V3 K) (E H : V3 K)
    (hf : FactorOK cf m) (hw : WallOK cf E H) :
    backward cf m jE jH (forward cf m jE jH E H).1 (forward cf m jE jH E H).2 = (E, H) := by
  simp only [backward, forward]
  rw [revStepH_stepH cf m jH _ H hf hw.hx hw.hy hw.hz, revStepE_stepE cf m jE E H hf hw.ex hw.ey hw.ez]

/-- n forward steps with step-indexed source terms, starting at step `t` -/
def fwdN (cf : Cfg K) (m : Mat K) (jE jH : Nat → V3 K) (t : Nat) : Nat → V3 K × V3 K → V3 K × V3 K
  | 0, s => s
  | n + 1, s => let s' := fwdN cf m jE jH t n s; forward cf m (jE (t + n)) (jH (t + n)) s'.1 s'.2

/-- n backward steps undoing steps t+n-1, …, t -/
def bwdN (cf : Cfg K) (m : Mat K) (jE jH : Nat → V3 K) (t : Nat) : Nat → V3 K × V3 K → V3 K × V3 K
  | 0, s => s
  | n + 1, s => bwdN cf m jE jH t n (backward cf m (jE (t + n)) (jH (t + n)) s.1 s.2)

theorem fwdN_walls (cf : Cfg K) (m : Mat K) (jE jH : Nat → V3 K) (t n : Nat) (E H : V3 K) (hw : WallOK cf E H) :
    WallOK cf (fwdN cf m jE jH t n (E, H)).1 (fwdN cf m jE jH t n (E, H)).2 := by
  cases n with
  | zero => exact hw
  | succ n => exact C01_walls_preserved cf m _ _ _ _

/-- **C02_roundtrip_steps**: every time step index of a run: n forward steps then n backward steps are the identity. -/
theorem C02_roundtrip_steps (cf : Cfg K) (m : Mat K) (jE jH : Nat → V3 K) (t n : Nat) (E H : V3 K)
    (hf : FactorOK cf m) (hw : WallOK cf E H) :
    bwdN cf m jE jH t n (fwdN cf m jE jH t n (E, H)) = (E, H) := by
  induction n with
  | zero => rfl
  | succ n ih =>
    simp only [fwdN, bwdN]
    rw [C02_roundtrip cf m _ _ _ _ hf (fwdN_walls cf m jE jH t n E H hw)]
    exact ih

/-- the excluded point is real: with `1 − a = 0` the reverse update divides by zero and (in a field, where
`x / 0 = 0`) does NOT return the original value — the hypothesis cannot be dropped. -/
theorem C02_factor_needed : revE1 (1 : ℚ) 1 (updE1 1 1 3 0 1 (some 2) + 0 - 0) 0 1 (some 2) ≠ 3 := by
  norm_num [revE1, updE1]

end

/-! ### non-vacuity: the concrete domain of C01 (periodic x, PEC y) with a lossy medium meets the hypotheses -/
example : FactorOK (K := ℚ) exCfg ⟨constV 2, constV 1, some (constV (1 / 3)), none⟩ := by
  constructor <;> intro i j k s hs <;> simp [optAt, constV, exCfg] at hs ⊢ <;> subst hs <;> norm_num

end Fdtdx.C02
