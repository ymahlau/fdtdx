/-
C43 — Shapes are rasterised by cell-centre inclusion.

Theorems about `FdtdxModel/C43.lean` (edge lists, `absv` and `half` are those of the C37 model, with their lemmas from
`FdtdxLemmas/C37Basic.lean`), for any grid (edge lists of any length, uniform or not), any index box, any
ordered field.  With `X = center e (lo+i)` the absolute centre of cell `i` of the box and `Xc = boxCenter e lo up` the
centre of the box the object was allotted, the code's local coordinates are exact (`C43_local_offset`), so each mask
is the analytic test on `X − Xc`: strictly inside the ellipsoid / circle, or — for `ExtrudedPolygon` — the interior
test against the user's origin-centred vertices.  That test is the even–odd crossing rule of the MODEL; the code
calls matplotlib `Path.contains_points`, tied to it only differentially, away from the boundary (`C43_polygon_partial`).
-/
import FdtdxModel.C43
import FdtdxLemmas.C37Basic

set_option linter.unusedSectionVars false

namespace Fdtdx.C43
open Fdtdx.C37

variable {K : Type} [Field K] [LinearOrder K] [IsStrictOrderedRing K]

/-- centre of the allotted box -/
def boxCenter (e : List K) (lo up : Nat) : K := (edge e lo + edge e up) / 2

/-- the code's local coordinates lose nothing: offset from the shape centre = absolute centre − box centre -/
theorem C43_local_offset (e : List K) (lo up i : Nat) :
    localCenter e lo i - shapeCenter e lo up = center e (lo + i) - boxCenter e lo up := by
  unfold localCenter shapeCenter center boxCenter
  rw [half_eq]; ring

/-- one term of the ellipsoid and cylinder tests -/
theorem sq_normOffset (e : List K) (lo up : Nat) (r : K) (i : Nat) :
    sq (normOffset e lo up r i) = ((center e (lo + i) - boxCenter e lo up) / r) ^ 2 := by
  unfold sq normOffset
  rw [C43_local_offset, pow_two]

/-- **ellipsoid**: the mask is exactly "cell centre strictly inside the analytic ellipsoid" -/
theorem C43_ellipsoid_iff (ex ey ez : List K) (lx ux ly uy lz uz : Nat) (rx ry rz : K) (i j k : Nat) :
    ellipsoidMaskAt ex ey ez lx ux ly uy lz uz rx ry rz i j k = true ↔
      ((center ex (lx + i) - boxCenter ex lx ux) / rx) ^ 2 + ((center ey (ly + j) - boxCenter ey ly uy) / ry) ^ 2
        + ((center ez (lz + k) - boxCenter ez lz uz) / rz) ^ 2 < 1 := by
  unfold ellipsoidMaskAt
  rw [decide_eq_true_eq, sq_normOffset, sq_normOffset, sq_normOffset]

/-- **strictness**: centres on the surface or outside are not marked -/
theorem C43_ellipsoid_strict (ex ey ez : List K) (lx ux ly uy lz uz : Nat) (rx ry rz : K) (i j k : Nat)
    (h : 1 ≤ ((center ex (lx + i) - boxCenter ex lx ux) / rx) ^ 2 + ((center ey (ly + j) - boxCenter ey ly uy) / ry) ^ 2
        + ((center ez (lz + k) - boxCenter ez lz uz) / rz) ^ 2) :
    ellipsoidMaskAt ex ey ez lx ux ly uy lz uz rx ry rz i j k = false :=
  Bool.eq_false_iff.mpr fun ht => not_lt.mpr h ((C43_ellipsoid_iff ..).mp ht)

/-- **sphere**: with equal radii r > 0 the test is the Euclidean one -/
theorem C43_sphere_iff (ex ey ez : List K) (lx ux ly uy lz uz : Nat) (r : K) (hr : 0 < r) (i j k : Nat) :
    ellipsoidMaskAt ex ey ez lx ux ly uy lz uz r r r i j k = true ↔
      (center ex (lx + i) - boxCenter ex lx ux) ^ 2 + (center ey (ly + j) - boxCenter ey ly uy) ^ 2
        + (center ez (lz + k) - boxCenter ez lz uz) ^ 2 < r ^ 2 := by
  rw [C43_ellipsoid_iff, div_pow, div_pow, div_pow, ← add_div, ← add_div, div_lt_one (pow_pos hr 2)]

/-- **cylinder**: Euclidean test in the transverse plane -/
theorem C43_cylinder_iff (eh ev : List K) (lh uh lv uv : Nat) (r : K) (hr : 0 < r) (i j : Nat) :
    cylinderMaskAt eh ev lh uh lv uv r i j = true ↔
      (center eh (lh + i) - boxCenter eh lh uh) ^ 2 + (center ev (lv + j) - boxCenter ev lv uv) ^ 2 < r ^ 2 := by
  unfold cylinderMaskAt
  rw [decide_eq_true_eq, sq_normOffset, sq_normOffset, div_pow, div_pow, ← add_div, div_lt_one (pow_pos hr 2)]

theorem C43_cylinder_strict (eh ev : List K) (lh uh lv uv : Nat) (r : K) (hr : 0 < r) (i j : Nat)
    (h : r ^ 2 ≤ (center eh (lh + i) - boxCenter eh lh uh) ^ 2 + (center ev (lv + j) - boxCenter ev lv uv) ^ 2) :
    cylinderMaskAt eh ev lh uh lv uv r i j = false :=
  Bool.eq_false_iff.mpr fun ht => not_lt.mpr h ((C43_cylinder_iff eh ev lh uh lv uv r hr i j).mp ht)

/-- **extrusion law**: the 3-D mask ignores the index along `axis` and reads the transverse indices in ascending order -/
theorem C43_extrusion_law (m2 : Nat → Nat → Bool) (i j k t : Nat) :
    (extrude 0 m2 i j k = m2 j k ∧ extrude 0 m2 t j k = extrude 0 m2 i j k) ∧
    (extrude 1 m2 i j k = m2 i k ∧ extrude 1 m2 i t k = extrude 1 m2 i j k) ∧
    (extrude 2 m2 i j k = m2 i j ∧ extrude 2 m2 i j t = extrude 2 m2 i j k) := by
  simp [extrude]

/-- **uniform = non-uniform formula** on equal widths: if the box edges are `e_lo + h·i`, the resolved-grid local centre
is the legacy `(i + ½)·h` -/
theorem C43_uniform_formula (e : List K) (lo n : Nat) (h : K)
    (hw : ∀ i, i ≤ n → edge e (lo + i) = edge e lo + h * (i : K)) (i : Nat) (hi : i < n) :
    localCenter e lo i = uniformCenter (Nat.cast : Nat → K) h i := by
  unfold localCenter uniformCenter
  rw [hw i (by omega), show lo + i + 1 = lo + (i + 1) by omega, hw (i + 1) (by omega), half_eq]
  push_cast; ring

/-! ### polygons -/

theorem crosses_translate (px py a b : K) (p q : K × K) :
    crosses (px + a) (py + b) (p.1 + a, p.2 + b) (q.1 + a, q.2 + b) = crosses px py p q := by
  simp only [crosses, add_sub_add_right_eq_sub, ← add_assoc, add_lt_add_iff_right]

theorem pointInPolygon_translate (vs : List (K × K)) (a b px py : K) :
    pointInPolygon (vs.map fun v => (v.1 + a, v.2 + b)) (px + a) (py + b) = pointInPolygon vs px py := by
  cases vs with
  | nil => rfl
  | cons v0 rest =>
    simp only [pointInPolygon, List.map_cons, List.drop_succ_cons, List.drop_zero]
    rw [← List.map_singleton (f := fun v : K × K => (v.1 + a, v.2 + b)), ← List.map_append,
      show (v0.1 + a, v0.2 + b) :: rest.map (fun v => (v.1 + a, v.2 + b))
        = (v0 :: rest).map fun v => (v.1 + a, v.2 + b) from rfl, List.zip_map, List.foldl_map]
    simp only [Prod.map, crosses_translate]

/-- **polygon**: the 2-D mask tests the offset of the cell centre from the box centre against the user's
origin-centred vertices — the shift to local coordinates is exact on any grid -/
theorem C43_polygon_local_iff (vs : List (K × K)) (eh ev : List K) (lh uh lv uv i j : Nat) :
    polygonMaskAt vs eh ev lh uh lv uv i j =
      pointInPolygon vs (center eh (lh + i) - boxCenter eh lh uh) (center ev (lv + j) - boxCenter ev lv uv) := by
  rw [polygonMaskAt, eq_add_of_sub_eq (C43_local_offset eh lh uh i), eq_add_of_sub_eq (C43_local_offset ev lv uv j),
    pointInPolygon_translate]

theorem bne_decide_lt {t u v : K} (h : u ≤ v) : (decide (t < u) != decide (t < v)) = decide (u ≤ t ∧ t < v) := by
  rcases lt_or_ge t u with h1 | h1
  · simp [h1, h1.trans_le h, not_le.mpr h1]
  · simp [h1, not_lt.mpr h1]

/-- the even–odd rule on an axis-parallel rectangle: the half-open box -/
theorem pointInPolygon_rect (x0 x1 y0 y1 px py : K) (hx : x0 ≤ x1) (hy : y0 ≤ y1) :
    pointInPolygon [(x0, y0), (x1, y0), (x1, y1), (x0, y1)] px py
      = (decide (x0 ≤ px ∧ px < x1) && decide (y0 ≤ py ∧ py < y1)) := by
  -- the horizontal sides are never crossed; a vertical side at `x` is when `py` is between its ends and `px < x`
  simp only [pointInPolygon, List.zip_cons_cons, List.drop_succ_cons, List.drop_zero, List.cons_append,
    List.nil_append, List.zip_nil_right, List.foldl_cons, List.foldl_nil, crosses, bne_self_eq_false,
    Bool.false_and, sub_self, zero_mul, zero_div, zero_add, Bool.bne_false, Bool.false_bne]
  rw [bne_comm (a := decide (py < y1)), bne_decide_lt hy, ← bne_decide_lt hx]
  cases decide (y0 ≤ py ∧ py < y1) <;> simp [bne_comm]

/-- **polygon, PARTIAL**: full statement wanted — "mask ⇔ centre strictly inside the polygon as decided by the code".
The code decides with matplotlib `Path.contains_points` (external C++); what is proved is the statement for the model's
even–odd crossing rule, which for an axis-parallel rectangle is the open box up to its boundary: -/
theorem C43_polygon_partial (a b px py : K) (ha : 0 < a) (hb : 0 < b) :
    (-a < px → px < a → -b < py → py < b →
      pointInPolygon [(-a, -b), (a, -b), (a, b), (-a, b)] px py = true) ∧
    ((px < -a ∨ a < px ∨ py < -b ∨ b < py) →
      pointInPolygon [(-a, -b), (a, -b), (a, b), (-a, b)] px py = false) := by
  have hbox := pointInPolygon_rect (-a) a (-b) b px py (neg_le_self ha.le) (neg_le_self hb.le)
  constructor
  · intro h1 h2 h3 h4
    rw [hbox, Bool.and_eq_true, decide_eq_true_eq, decide_eq_true_eq]
    exact ⟨⟨h1.le, h2⟩, h3.le, h4⟩
  · intro h
    rw [hbox, Bool.and_eq_false_iff, decide_eq_false_iff_not, decide_eq_false_iff_not, not_and_or, not_and_or,
      not_le, not_le, not_lt, not_lt]
    rcases h with h | h | h | h
    · exact Or.inl (Or.inl h)
    · exact Or.inl (Or.inr h.le)
    · exact Or.inr (Or.inl h)
    · exact Or.inr (Or.inr h.le)

/-! ### non-vacuity (K = ℚ): a non-uniform grid, a centre exactly on the surface, a polygon -/

def exE : List ℚ := [0, 1, 3, 4, 8, 9, 11]     -- box [0,4): centres ½, 2, 3½, 6; box centre 4
def exU : List ℚ := [0, 1, 2, 3, 4, 5]

/-- centre at offset exactly −2 with r = 2: on the surface, not marked; the neighbour at offset −½ is -/
example : ellipsoidMaskAt exE exU exU 0 4 1 4 1 4 2 2 2 1 1 1 = false := by decide +kernel
example : ellipsoidMaskAt exE exU exU 0 4 1 4 1 4 2 2 2 2 1 1 = true := by decide +kernel
example : cylinderMaskAt exE exU 0 4 1 4 2 1 1 = false ∧ cylinderMaskAt exE exU 0 4 1 4 (21 / 10) 1 1 = true := by
  decide +kernel
example : polygonMaskAt [(-2, -1), (2, -1), (0, 1)] exE exU 0 4 1 4 2 1 = true := by decide +kernel
example : polygonMaskAt [(-2, -1), (2, -1), (0, 1)] exE exU 0 4 1 4 0 2 = false := by decide +kernel
/-- the hypothesis of `C43_uniform_formula` on a concrete equal-width axis -/
example : ∀ i, i ≤ 4 → edge exU (1 + i) = edge exU 1 + 1 * (i : ℚ) := by decide +kernel

end Fdtdx.C43
