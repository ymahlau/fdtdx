/-
C03 — The full backward pass reconstructs E and H outside the absorbing layers at every earlier time step.

Theorems about the CPML model (`FdtdxModel/Cpml.lean`: `forwardP`, `backwardP`, `restore`, `resetP`) on top of the
shared Yee model, over any field `K`, for EVERY grid shape, PML objects on ANY subset of the six faces with ANY
thicknesses `1 ≤ th ≤ n` (full-face boxes, so edges and corners overlap), the other faces zero / periodic / PEC / PMC
(any halo multipliers), every metric, isotropic or diagonal ε, μ (optionally with conductivity as long as the
divisors of the reverse update do not vanish), ANY additive source terms, any graded profile whose inner face is
clean (`a = 0`, and `1/κ = 1` unless the κ branch is off) — which the default grading satisfies (C12).

The argument: ψ stays 0 on every interface layer (`psi_zero_at_interface`), so at a cell that is on the interface layer
of every PML containing it the corrected curl is the plain curl and reads the cell and its forward (resp. backward)
neighbours / wrapped cells only (`stencil_footprint_*`); the interface layer of a full-face box is its boundary layer,
so a cell at most one cell away (in every coordinate: edges and corners included) from an interior cell is on the
interface layer of every box holding it (`soft_of_adjacent`), which makes every forward neighbour of an interior cell
interior or an interface cell, and every backward neighbour interior or an interface cell whose own forward
neighbours are such again (`hgood_of_step`, `geometry_footprint_*`); hence one `backward` (interfaces
restored from the lossless recording, reverse H, reverse E, PML reset) undoes one `forward` on the interior
(`C03_reverse_step`), and by induction so does the whole reverse sweep, at EVERY step (`C03_full_backward`).

"Interior" = in bounds and outside every PML box.  The recording is lossless by hypothesis of the property: the
restored values are the forward state after the step being undone, read on the interface slices.
-/
import FdtdxLemmas.Cpml
import FdtdxProps.C02

namespace Fdtdx.C03
open Fdtdx Fdtdx.Yee Fdtdx.Cpml Fdtdx.C01 Fdtdx.C02

section
variable {K : Type} [Field K]

/-- in bounds and outside every PML box -/
def Interior (cf : Cfg K) (ps : List (Pml K)) (i j k : Nat) : Prop :=
  i < cf.nx ∧ j < cf.ny ∧ k < cf.nz ∧ ∀ q ∈ ps, ¬ q.box.mem i j k

/-- on the interface slice of some PML -/
def OnIf (ps : List (Pml K)) (i j k : Nat) : Prop := ∃ q ∈ ps, q.iface.mem i j k

/-- cells whose values are known after `add_interfaces`: interior or interface layer -/
def Known (cf : Cfg K) (ps : List (Pml K)) (i j k : Nat) : Prop := Interior cf ps i j k ∨ OnIf ps i j k

/-- every PML containing the cell has it on its interface layer -/
def Soft (ps : List (Pml K)) (i j k : Nat) : Prop := ∀ q ∈ ps, q.box.mem i j k → q.iface.mem i j k

/-- the auxiliary fields vanish on the interface layer -/
def PsiZero (st : PmlSt K) : Prop :=
  ∀ i j k, st.p.iface.mem i j k → st.e1 i j k = 0 ∧ st.e2 i j k = 0 ∧ st.h1 i j k = 0 ∧ st.h2 i j k = 0

/-- zero profile at the inner face ("no loss or stretching at the inner face"; default grading: C12) -/
def IfaceCoef (q : Pml K) : Prop := CleanAt q q.ifOff

def agree (A B : V3 K) (i j k : Nat) : Prop := A.x i j k = B.x i j k ∧ A.y i j k = B.y i j k ∧ A.z i j k = B.z i j k

theorem agree.trans {A B C : V3 K} {i j k : Nat} (h : agree A B i j k) (h' : agree B C i j k) : agree A C i j k :=
  ⟨h.1.trans h'.1, h.2.1.trans h'.2.1, h.2.2.trans h'.2.2⟩

theorem agree.symm {A B : V3 K} {i j k : Nat} (h : agree A B i j k) : agree B A i j k :=
  ⟨h.1.symm, h.2.1.symm, h.2.2.symm⟩

/-- a predicate holds at a cell and at the cells its forward differences read -/
structure FwdN (cf : Cfg K) (P : Nat → Nat → Nat → Prop) (i j k : Nat) : Prop where
  c : P i j k
  x1 : i + 1 < cf.nx → P (i + 1) j k
  x0 : ¬ i + 1 < cf.nx → cf.bx.wrap = true → P 0 j k
  y1 : j + 1 < cf.ny → P i (j + 1) k
  y0 : ¬ j + 1 < cf.ny → cf.by_.wrap = true → P i 0 k
  z1 : k + 1 < cf.nz → P i j (k + 1)
  z0 : ¬ k + 1 < cf.nz → cf.bz.wrap = true → P i j 0

/-- a predicate holds at a cell and at the cells its backward differences read -/
structure BwdN (cf : Cfg K) (P : Nat → Nat → Nat → Prop) (i j k : Nat) : Prop where
  c : P i j k
  x1 : ∀ i', i = i' + 1 → P i' j k
  x0 : i = 0 → cf.bx.wrap = true → P (cf.nx - 1) j k
  y1 : ∀ j', j = j' + 1 → P i j' k
  y0 : j = 0 → cf.by_.wrap = true → P i (cf.ny - 1) k
  z1 : ∀ k', k = k' + 1 → P i j k'
  z0 : k = 0 → cf.bz.wrap = true → P i j (cf.nz - 1)

theorem FwdN.mono {cf : Cfg K} {P Q : Nat → Nat → Nat → Prop} {i j k : Nat} (h : ∀ i j k, P i j k → Q i j k)
    (hp : FwdN cf P i j k) : FwdN cf Q i j k :=
  ⟨h _ _ _ hp.c, fun a => h _ _ _ (hp.x1 a), fun a b => h _ _ _ (hp.x0 a b), fun a => h _ _ _ (hp.y1 a),
   fun a b => h _ _ _ (hp.y0 a b), fun a => h _ _ _ (hp.z1 a), fun a b => h _ _ _ (hp.z0 a b)⟩

theorem BwdN.mono {cf : Cfg K} {P Q : Nat → Nat → Nat → Prop} {i j k : Nat} (h : ∀ i j k, P i j k → Q i j k)
    (hp : BwdN cf P i j k) : BwdN cf Q i j k :=
  ⟨h _ _ _ hp.c, fun a b => h _ _ _ (hp.x1 a b), fun a b => h _ _ _ (hp.x0 a b), fun a b => h _ _ _ (hp.y1 a b),
   fun a b => h _ _ _ (hp.y0 a b), fun a b => h _ _ _ (hp.z1 a b), fun a b => h _ _ _ (hp.z0 a b)⟩

/-! ### a cell with zero profile and ψ = 0 is invisible to the PML loop -/

theorem updPsiE_clean (cf : Cfg K) (sim : Bool) (H : V3 K) (st : PmlSt K) (i j k : Nat) (hm : st.p.box.mem i j k)
    (hc : CleanAt st.p (st.p.off i j k)) (z1 : st.e1 i j k = 0) (z2 : st.e2 i j k = 0) :
    (updPsiE cf sim H st).e1 i j k = 0 ∧ (updPsiE cf sim H st).e2 i j k = 0 := by
  simp only [updPsiE, hm, if_true, z1, z2, stepCpml1_clean _ _ _ _ _ hc, and_self]

theorem updPsiH_clean (cf : Cfg K) (sim : Bool) (E : V3 K) (st : PmlSt K) (i j k : Nat) (hm : st.p.box.mem i j k)
    (hc : CleanAt st.p (st.p.off i j k)) (z1 : st.h1 i j k = 0) (z2 : st.h2 i j k = 0) :
    (updPsiH cf sim E st).h1 i j k = 0 ∧ (updPsiH cf sim E st).h2 i j k = 0 := by
  simp only [updPsiH, hm, if_true, z1, z2, stepCpml1_clean _ _ _ _ _ hc, and_self]

theorem applyE_clean (cf : Cfg K) (sim : Bool) (E : V3 K) (comp i j k : Nat) (acc : K) (st : PmlSt K)
    (h : st.p.box.mem i j k → CleanAt st.p (st.p.off i j k) ∧ st.h1 i j k = 0 ∧ st.h2 i j k = 0) :
    applyE cf sim E comp i j k acc st = acc := by
  unfold applyE
  by_cases hm : st.p.box.mem i j k
  · obtain ⟨hc, z1, z2⟩ := h hm
    simp only [hm, z1, z2, stepCpml1_clean _ _ _ _ _ hc, sub_zero, add_zero, ite_self]
  · rw [if_neg hm]

theorem applyH_clean (cf : Cfg K) (sim : Bool) (H : V3 K) (comp i j k : Nat) (acc : K) (st : PmlSt K)
    (h : st.p.box.mem i j k → CleanAt st.p (st.p.off i j k) ∧ st.e1 i j k = 0 ∧ st.e2 i j k = 0) :
    applyH cf sim H comp i j k acc st = acc := by
  unfold applyH
  by_cases hm : st.p.box.mem i j k
  · obtain ⟨hc, z1, z2⟩ := h hm
    simp only [hm, z1, z2, stepCpml1_clean _ _ _ _ _ hc, sub_zero, add_zero, ite_self]
  · rw [if_neg hm]

theorem curlEp_clean (cf : Cfg K) (sim : Bool) (pmls : List (PmlSt K)) (E : V3 K) (i j k : Nat)
    (h : ∀ st ∈ pmls, st.p.box.mem i j k → CleanAt st.p (st.p.off i j k) ∧ st.h1 i j k = 0 ∧ st.h2 i j k = 0) :
    agree (curlEp cf sim pmls E) (curlE cf E) i j k :=
  have key (comp : Nat) (acc : K) : pmls.foldl (applyE cf sim E comp i j k) acc = acc :=
    foldl_fixed _ _ _ fun st hst => applyE_clean cf sim E comp i j k acc st (h st hst)
  ⟨key 0 _, key 1 _, key 2 _⟩

theorem curlHp_clean (cf : Cfg K) (sim : Bool) (pmls : List (PmlSt K)) (H : V3 K) (i j k : Nat)
    (h : ∀ st ∈ pmls, st.p.box.mem i j k → CleanAt st.p (st.p.off i j k) ∧ st.e1 i j k = 0 ∧ st.e2 i j k = 0) :
    agree (curlHp cf sim pmls H) (curlH cf H) i j k :=
  have key (comp : Nat) (acc : K) : pmls.foldl (applyH cf sim H comp i j k) acc = acc :=
    foldl_fixed _ _ _ fun st hst => applyH_clean cf sim H comp i j k acc st (h st hst)
  ⟨key 0 _, key 1 _, key 2 _⟩

/-! ### psi stays zero on the interface layer -/

/-- static data and the ψ = 0 invariant of a list of PMLs with respect to the static list `ps` -/
structure ListOK (cf : Cfg K) (ps : List (Pml K)) (pmls : List (PmlSt K)) : Prop where
  stat : pmls.map (·.p) = ps
  zero : ∀ st ∈ pmls, PsiZero st

/-- the static requirements: full-face boxes on non-wrapping axes, clean inner face -/
structure StaticOK (cf : Cfg K) (ps : List (Pml K)) : Prop where
  geo : ∀ q ∈ ps, FaceGeo cf q
  coef : ∀ q ∈ ps, IfaceCoef q

theorem ListOK.mem_p {cf : Cfg K} {ps : List (Pml K)} {pmls : List (PmlSt K)} (h : ListOK cf ps pmls)
    {st : PmlSt K} (hs : st ∈ pmls) : st.p ∈ ps := by
  rw [← h.stat]; exact List.mem_map_of_mem hs

theorem iface_clean {cf : Cfg K} {ps : List (Pml K)} {pmls : List (PmlSt K)} {i j k : Nat} (hs : StaticOK cf ps)
    (h : ListOK cf ps pmls) {st : PmlSt K} (hst : st ∈ pmls) (hif : st.p.iface.mem i j k) :
    st.p.box.mem i j k ∧ CleanAt st.p (st.p.off i j k) ∧
      st.e1 i j k = 0 ∧ st.e2 i j k = 0 ∧ st.h1 i j k = 0 ∧ st.h2 i j k = 0 :=
  have hb := iface_sub cf _ (hs.geo _ (h.mem_p hst)) i j k hif
  ⟨hb.1, hb.2 ▸ hs.coef _ (h.mem_p hst), h.zero _ hst i j k hif⟩

theorem listOK_mapE (cf : Cfg K) (ps : List (Pml K)) (pmls : List (PmlSt K)) (sim : Bool) (H : V3 K)
    (hs : StaticOK cf ps) (h : ListOK cf ps pmls) : ListOK cf ps (pmls.map (updPsiE cf sim H)) := by
  refine ⟨by rw [← h.stat, List.map_map]; rfl, fun st hst i j k hm => ?_⟩
  obtain ⟨s0, hs0, rfl⟩ := List.mem_map.1 hst
  obtain ⟨hbox, hc, z1, z2, z3, z4⟩ := iface_clean hs h hs0 hm
  have c := updPsiE_clean cf sim H s0 i j k hbox hc z1 z2
  exact ⟨c.1, c.2, z3, z4⟩

theorem listOK_mapH (cf : Cfg K) (ps : List (Pml K)) (pmls : List (PmlSt K)) (sim : Bool) (E : V3 K)
    (hs : StaticOK cf ps) (h : ListOK cf ps pmls) : ListOK cf ps (pmls.map (updPsiH cf sim E)) := by
  refine ⟨by rw [← h.stat, List.map_map]; rfl, fun st hst i j k hm => ?_⟩
  obtain ⟨s0, hs0, rfl⟩ := List.mem_map.1 hst
  obtain ⟨hbox, hc, z1, z2, z3, z4⟩ := iface_clean hs h hs0 hm
  exact ⟨z1, z2, updPsiH_clean cf sim E s0 i j k hbox hc z3 z4⟩

/-! ### stencil footprint -/

theorem curlEp_soft (cf : Cfg K) (sim : Bool) (ps : List (Pml K)) (pmls : List (PmlSt K)) (E : V3 K) (i j k : Nat)
    (hs : StaticOK cf ps) (h : ListOK cf ps pmls) (hsoft : Soft ps i j k) :
    agree (curlEp cf sim pmls E) (curlE cf E) i j k :=
  curlEp_clean cf sim pmls E i j k fun _ hst hm =>
    have c := iface_clean hs h hst (hsoft _ (h.mem_p hst) hm)
    ⟨c.2.1, c.2.2.2.2⟩

theorem curlHp_soft (cf : Cfg K) (sim : Bool) (ps : List (Pml K)) (pmls : List (PmlSt K)) (H : V3 K) (i j k : Nat)
    (hs : StaticOK cf ps) (h : ListOK cf ps pmls) (hsoft : Soft ps i j k) :
    agree (curlHp cf sim pmls H) (curlH cf H) i j k :=
  curlHp_clean cf sim pmls H i j k fun _ hst hm =>
    have c := iface_clean hs h hst (hsoft _ (h.mem_p hst) hm)
    ⟨c.2.1, c.2.2.1, c.2.2.2.1⟩

theorem curlE_congr (cf : Cfg K) (A B : V3 K) (i j k : Nat) (h : FwdN cf (agree A B) i j k) :
    agree (curlE cf A) (curlE cf B) i j k := by
  have hx := h.mono fun _ _ _ h => h.1
  have hy := h.mono fun _ _ _ h => h.2.1
  have hz := h.mono fun _ _ _ h => h.2.2
  refine ⟨?_, ?_, ?_⟩ <;> simp only [curlE]
  · rw [next1_congr cf.ny cf.by_ (fun j' => A.z i j' k) (fun j' => B.z i j' k) j hz.y1 hz.y0,
      next1_congr cf.nz cf.bz (fun k' => A.y i j k') (fun k' => B.y i j k') k hy.z1 hy.z0, hz.c, hy.c]
  · rw [next1_congr cf.nz cf.bz (fun k' => A.x i j k') (fun k' => B.x i j k') k hx.z1 hx.z0,
      next1_congr cf.nx cf.bx (fun i' => A.z i' j k) (fun i' => B.z i' j k) i hz.x1 hz.x0, hx.c, hz.c]
  · rw [next1_congr cf.nx cf.bx (fun i' => A.y i' j k) (fun i' => B.y i' j k) i hy.x1 hy.x0,
      next1_congr cf.ny cf.by_ (fun j' => A.x i j' k) (fun j' => B.x i j' k) j hx.y1 hx.y0, hy.c, hx.c]

theorem curlH_congr (cf : Cfg K) (A B : V3 K) (i j k : Nat) (h : BwdN cf (agree A B) i j k) :
    agree (curlH cf A) (curlH cf B) i j k := by
  have hx := h.mono fun _ _ _ h => h.1
  have hy := h.mono fun _ _ _ h => h.2.1
  have hz := h.mono fun _ _ _ h => h.2.2
  refine ⟨?_, ?_, ?_⟩ <;> simp only [curlH]
  · rw [prev1_congr cf.ny cf.by_ (fun j' => A.z i j' k) (fun j' => B.z i j' k) j hz.y1 hz.y0,
      prev1_congr cf.nz cf.bz (fun k' => A.y i j k') (fun k' => B.y i j k') k hy.z1 hy.z0, hz.c, hy.c]
  · rw [prev1_congr cf.nz cf.bz (fun k' => A.x i j k') (fun k' => B.x i j k') k hx.z1 hx.z0,
      prev1_congr cf.nx cf.bx (fun i' => A.z i' j k) (fun i' => B.z i' j k) i hz.x1 hz.x0, hx.c, hz.c]
  · rw [prev1_congr cf.nx cf.bx (fun i' => A.y i' j k) (fun i' => B.y i' j k) i hy.x1 hy.x0,
      prev1_congr cf.ny cf.by_ (fun j' => A.x i j' k) (fun j' => B.x i j' k) j hx.y1 hx.y0, hy.c, hx.c]

/-- **stencil_footprint** (E → H direction): at a soft cell the PML-corrected `curl_E` of two fields that agree on the
cell and its forward neighbours (wrapped cells on periodic axes) coincide — whatever the two ψ states are, as long as
they vanish on the interface layers. -/
theorem stencil_footprint_E (cf : Cfg K) (sim sim' : Bool) (ps : List (Pml K)) (pmls pmls' : List (PmlSt K))
    (A B : V3 K) (i j k : Nat) (hs : StaticOK cf ps) (h : ListOK cf ps pmls) (h' : ListOK cf ps pmls')
    (hsoft : Soft ps i j k) (hn : FwdN cf (agree A B) i j k) :
    agree (curlEp cf sim pmls A) (curlEp cf sim' pmls' B) i j k :=
  ((curlEp_soft cf sim ps pmls A i j k hs h hsoft).trans (curlE_congr cf A B i j k hn)).trans
    (curlEp_soft cf sim' ps pmls' B i j k hs h' hsoft).symm

/-- **stencil_footprint** (H → E direction) -/
theorem stencil_footprint_H (cf : Cfg K) (sim sim' : Bool) (ps : List (Pml K)) (pmls pmls' : List (PmlSt K))
    (A B : V3 K) (i j k : Nat) (hs : StaticOK cf ps) (h : ListOK cf ps pmls) (h' : ListOK cf ps pmls')
    (hsoft : Soft ps i j k) (hn : BwdN cf (agree A B) i j k) :
    agree (curlHp cf sim pmls A) (curlHp cf sim' pmls' B) i j k :=
  ((curlHp_soft cf sim ps pmls A i j k hs h hsoft).trans (curlH_congr cf A B i j k hn)).trans
    (curlHp_soft cf sim' ps pmls' B i j k hs h' hsoft).symm

/-! ### geometry -/

theorem interior_soft {cf : Cfg K} {ps : List (Pml K)} {i j k : Nat} (h : Interior cf ps i j k) : Soft ps i j k :=
  fun q hq hm => absurd hm (h.2.2.2 q hq)

/-- an in-bounds cell that is on the interface layer of every box holding it is interior or on an interface layer -/
theorem known_of_soft {cf : Cfg K} {ps : List (Pml K)} {i j k : Nat} (hb : i < cf.nx ∧ j < cf.ny ∧ k < cf.nz)
    (h : Soft ps i j k) : Known cf ps i j k := by
  by_cases hm : ∃ q ∈ ps, q.box.mem i j k
  · obtain ⟨q, hq, hm⟩ := hm
    exact Or.inr ⟨q, hq, h q hq hm⟩
  · exact Or.inl ⟨hb.1, hb.2.1, hb.2.2, fun q hq h => hm ⟨q, hq, h⟩⟩

/-- The geometric fact everything below rests on: a cell at most one cell away, in every coordinate, from an interior
cell is soft — a box holding it does not hold the interior cell, and the interface layer is the boundary layer of
the box. -/
theorem soft_of_adjacent {cf : Cfg K} {ps : List (Pml K)} (hs : StaticOK cf ps) {i j k i' j' k' : Nat}
    (h : Interior cf ps i' j' k')
    (hadj : (i ≤ i' + 1 ∧ i' ≤ i + 1) ∧ (j ≤ j' + 1 ∧ j' ≤ j + 1) ∧ (k ≤ k' + 1 ∧ k' ≤ k + 1)) : Soft ps i j k :=
  fun q hq hm => iface_of_adjacent (hs.geo q hq) hadj ⟨h.1, h.2.1, h.2.2.1⟩ hm (h.2.2.2 q hq)

theorem interior_wrap {cf : Cfg K} {ps : List (Pml K)} (hs : StaticOK cf ps) {i j k i' j' k' : Nat}
    (h : Interior cf ps i j k) (hb : i' < cf.nx ∧ j' < cf.ny ∧ k' < cf.nz) (hx : i = i' ∨ cf.bx.wrap = true)
    (hy : j = j' ∨ cf.by_.wrap = true) (hz : k = k' ∨ cf.bz.wrap = true) : Interior cf ps i' j' k' :=
  ⟨hb.1, hb.2.1, hb.2.2, fun q hq hm =>
    h.2.2.2 q hq ((mem_wrap (hs.geo q hq) ⟨h.1, h.2.1, h.2.2.1⟩ hb hx hy hz).1.2 hm)⟩

theorem known_wrap {cf : Cfg K} {ps : List (Pml K)} (hs : StaticOK cf ps) {i j k i' j' k' : Nat}
    (h : Known cf ps i j k) (hb : i < cf.nx ∧ j < cf.ny ∧ k < cf.nz) (hb' : i' < cf.nx ∧ j' < cf.ny ∧ k' < cf.nz)
    (hx : i = i' ∨ cf.bx.wrap = true) (hy : j = j' ∨ cf.by_.wrap = true) (hz : k = k' ∨ cf.bz.wrap = true) :
    Known cf ps i' j' k' :=
  h.imp (fun hint => interior_wrap hs hint hb' hx hy hz)
    fun ⟨q, hq, hm⟩ => ⟨q, hq, (mem_wrap (hs.geo q hq) hb hb' hx hy hz).2.1 hm⟩

/-- cells at which the reverse H update reproduces the forward H: soft, and the cell and all its forward reads known -/
def HGood (cf : Cfg K) (ps : List (Pml K)) (i j k : Nat) : Prop :=
  Soft ps i j k ∧ FwdN cf (Known cf ps) i j k

/-- the two ways one coordinate of `p'` lies within `p ≤ p' ≤ p + 1` -/
theorem within_self (a : Nat) : a ≤ a ∧ a ≤ a + 1 := ⟨le_rfl, Nat.le_succ a⟩
theorem within_succ (a : Nat) : a ≤ a + 1 ∧ a + 1 ≤ a + 1 := ⟨Nat.le_succ a, le_rfl⟩

/-- A cell from which one step forward, by at most one cell in each coordinate, reaches an interior cell is `HGood`:
the cell and its forward neighbours are all at most one cell away from that interior cell, and the wrapped cells it
reads are copies of the cell along an axis without PML. -/
theorem hgood_of_step {cf : Cfg K} {ps : List (Pml K)} (hs : StaticOK cf ps) {i j k i' j' k' : Nat}
    (h : Interior cf ps i' j' k') (hi : i ≤ i' ∧ i' ≤ i + 1) (hj : j ≤ j' ∧ j' ≤ j + 1) (hk : k ≤ k' ∧ k' ≤ k + 1) :
    HGood cf ps i j k := by
  have ⟨hi', hj', hk', _⟩ := h
  have hb : i < cf.nx ∧ j < cf.ny ∧ k < cf.nz := by omega
  have near : ∀ a b c, a < cf.nx ∧ b < cf.ny ∧ c < cf.nz → (i ≤ a ∧ a ≤ i + 1) → (j ≤ b ∧ b ≤ j + 1) →
      (k ≤ c ∧ c ≤ k + 1) → Soft ps a b c ∧ Known cf ps a b c := fun a b c hb _ _ _ =>
    have hsoft := soft_of_adjacent hs h (i := a) (j := b) (k := c) (by omega)
    ⟨hsoft, known_of_soft hb hsoft⟩
  have ⟨hsoft, hc⟩ := near i j k hb (within_self i) (within_self j) (within_self k)
  exact ⟨hsoft, hc,
    fun h1 => (near _ _ _ ⟨h1, hb.2⟩ (within_succ i) (within_self j) (within_self k)).2,
    fun _ hw => known_wrap hs hc hb ⟨Nat.zero_lt_of_lt hb.1, hb.2⟩ (Or.inr hw) (Or.inl rfl) (Or.inl rfl),
    fun h1 => (near _ _ _ ⟨hb.1, h1, hb.2.2⟩ (within_self i) (within_succ j) (within_self k)).2,
    fun _ hw => known_wrap hs hc hb ⟨hb.1, Nat.zero_lt_of_lt hb.2.1, hb.2.2⟩ (Or.inl rfl) (Or.inr hw) (Or.inl rfl),
    fun h1 => (near _ _ _ ⟨hb.1, hb.2.1, h1⟩ (within_self i) (within_self j) (within_succ k)).2,
    fun _ hw => known_wrap hs hc hb ⟨hb.1, hb.2.1, Nat.zero_lt_of_lt hb.2.2⟩ (Or.inl rfl) (Or.inl rfl) (Or.inr hw)⟩

theorem interior_hgood {cf : Cfg K} {ps : List (Pml K)} (hs : StaticOK cf ps) {i j k : Nat}
    (h : Interior cf ps i j k) : HGood cf ps i j k :=
  hgood_of_step hs h (within_self i) (within_self j) (within_self k)

/-- **geometry_footprint** (forward): every cell read by the forward differences at an interior cell is interior or on
an interface layer. -/
theorem geometry_footprint_fwd (cf : Cfg K) (ps : List (Pml K)) (hs : StaticOK cf ps) (i j k : Nat)
    (h : Interior cf ps i j k) : FwdN cf (Known cf ps) i j k :=
  (interior_hgood hs h).2

/-- **geometry_footprint** (backward): every cell read by the backward differences at an interior cell is `HGood`
(the backward neighbours are one step before the cell; the wrapped cells are interior again). -/
theorem geometry_footprint_bwd (cf : Cfg K) (ps : List (Pml K)) (hs : StaticOK cf ps) (i j k : Nat)
    (h : Interior cf ps i j k) : BwdN cf (HGood cf ps) i j k := by
  have ⟨hi, hj, hk, _⟩ := h
  refine ⟨interior_hgood hs h, fun i' he => ?_, fun _ hw => ?_, fun j' he => ?_, fun _ hw => ?_,
    fun k' he => ?_, fun _ hw => ?_⟩
  · subst he; exact hgood_of_step hs h (within_succ i') (within_self j) (within_self k)
  · exact interior_hgood hs (interior_wrap hs h ⟨by omega, hj, hk⟩ (Or.inr hw) (Or.inl rfl) (Or.inl rfl))
  · subst he; exact hgood_of_step hs h (within_self i) (within_succ j') (within_self k)
  · exact interior_hgood hs (interior_wrap hs h ⟨hi, by omega, hk⟩ (Or.inl rfl) (Or.inr hw) (Or.inl rfl))
  · subst he; exact hgood_of_step hs h (within_self i) (within_self j) (within_succ k')
  · exact interior_hgood hs (interior_wrap hs h ⟨hi, hj, by omega⟩ (Or.inl rfl) (Or.inl rfl) (Or.inr hw))

/-! ### restoring the interfaces, resetting the layers -/

theorem onIface_iff (ps : List (Pml K)) (i j k : Nat) : onIface ps i j k = true ↔ OnIf ps i j k := by
  simp only [onIface, OnIf, Pml.iface, List.any_eq_true, decide_eq_true_eq]

theorem inPml_iff (ps : List (Pml K)) (i j k : Nat) : inPml ps i j k = true ↔ ∃ q ∈ ps, q.box.mem i j k := by
  simp only [inPml, List.any_eq_true, decide_eq_true_eq]

/-- after `add_boundary_interfaces` the field equals the recorded field on interface layers, and is untouched elsewhere;
so if it agreed with the recorded field on the interior, it now agrees on all known cells -/
theorem restore_known (cf : Cfg K) (ps : List (Pml K)) (R F : V3 K)
    (hag : ∀ i j k, Interior cf ps i j k → agree F R i j k) (i j k : Nat) (hk : Known cf ps i j k) :
    agree (restore ps R F) R i j k := by
  unfold restore selV agree
  by_cases hon : onIface ps i j k = true
  · simp only [hon, if_true, and_self]
  · rcases hk with hint | hif
    · simp only [hon]
      exact hag i j k hint
    · exact absurd ((onIface_iff ps i j k).2 hif) hon

theorem resetP_interior (cf : Cfg K) (ps : List (Pml K)) (F : V3 K) (i j k : Nat) (h : Interior cf ps i j k) :
    agree (resetP ps F) F i j k := by
  have hn : ¬ inPml ps i j k = true := by
    rw [inPml_iff]; rintro ⟨q, hq, hm⟩; exact h.2.2.2 q hq hm
  unfold resetP selV agree
  simp only [hn, Bool.false_eq_true, if_false, and_self]

/-! ### local inverses of the two half steps -/

/-- at one cell: if the reverse H update is fed the forward result and the same curl, it returns the old H -/
theorem revH_cell (cf : Cfg K) (m : Mat K) (jH cuF cuB H H1 : V3 K) (i j k : Nat) (hf : FactorOK cf m)
    (hwx : pmcMask cf 0 i j k = true → H.x i j k = 0) (hwy : pmcMask cf 1 i j k = true → H.y i j k = 0)
    (hwz : pmcMask cf 2 i j k = true → H.z i j k = 0)
    (hcu : agree cuB cuF i j k) (h1 : agree H1 (updHwith cf m jH cuF H) i j k) :
    agree (revHwith cf m jH cuB H1) H i j k :=
  ⟨revH1_masked _ _ _ _ _ _ _ _ _ _ (hf.hx i j k) hwx hcu.1 h1.1,
   revH1_masked _ _ _ _ _ _ _ _ _ _ (hf.hy i j k) hwy hcu.2.1 h1.2.1,
   revH1_masked _ _ _ _ _ _ _ _ _ _ (hf.hz i j k) hwz hcu.2.2 h1.2.2⟩

theorem revE_cell (cf : Cfg K) (m : Mat K) (jE cuF cuB E E1 : V3 K) (i j k : Nat) (hf : FactorOK cf m)
    (hwx : pecMask cf 0 i j k = true → E.x i j k = 0) (hwy : pecMask cf 1 i j k = true → E.y i j k = 0)
    (hwz : pecMask cf 2 i j k = true → E.z i j k = 0)
    (hcu : agree cuB cuF i j k) (h1 : agree E1 (updEwith cf m jE cuF E) i j k) :
    agree (revEwith cf m jE cuB E1) E i j k :=
  ⟨revE1_masked _ _ _ _ _ _ _ _ _ _ (hf.ex i j k) hwx hcu.1 h1.1,
   revE1_masked _ _ _ _ _ _ _ _ _ _ (hf.ey i j k) hwy hcu.2.1 h1.2.1,
   revE1_masked _ _ _ _ _ _ _ _ _ _ (hf.ez i j k) hwz hcu.2.2 h1.2.2⟩

/-! ### the reverse step -/

/-- **C03_reverse_step**.  `(E,H,pmls)` is the forward state at step t (satisfying the walls), `forwardP … E H` the forward
state at t+1, `(E1,H1,_)` for short.  `(Eh,Hh)` is ANY reconstructed state that agrees with `(E1,H1)` on the interior; `pmlsB` are the PMLs
with ANY auxiliary fields that vanish on the interface layers (in the code: those of the end of the forward run).
Then one `backward` — interface slices overwritten by the recorded `(E1,H1)`, reverse H, reverse E, optional reset of
the PML boxes — agrees with `(E,H)` on the interior. -/
theorem C03_reverse_step (cf : Cfg K) (m : Mat K) (jE jH : V3 K) (sim reset : Bool) (ps : List (Pml K))
    (pmls pmlsB : List (PmlSt K)) (E H Eh Hh : V3 K)
    (hf : FactorOK cf m) (hw : WallOK cf E H) (hs : StaticOK cf ps)
    (hl : ListOK cf ps pmls) (hlB : ListOK cf ps pmlsB)
    (hag : ∀ i j k, Interior cf ps i j k →
      agree Eh (forwardP cf m jE jH sim pmls E H).1 i j k ∧ agree Hh (forwardP cf m jE jH sim pmls E H).2.1 i j k) :
    ∀ i j k, Interior cf ps i j k →
      agree (backwardP cf m jE jH pmlsB (forwardP cf m jE jH sim pmls E H).1 (forwardP cf m jE jH sim pmls E H).2.1
        reset Eh Hh).1 E i j k ∧
      agree (backwardP cf m jE jH pmlsB (forwardP cf m jE jH sim pmls E H).1 (forwardP cf m jE jH sim pmls E H).2.1
        reset Eh Hh).2 H i j k := by
  obtain rfl := hlB.stat
  set F := forwardP cf m jE jH sim pmls E H
  have hl1 := listOK_mapE cf _ pmls sim H hs hl
  -- after `add_interfaces` the restored fields agree with the forward state on every known cell
  have hErk := restore_known cf _ F.1 Eh fun i j k h => (hag i j k h).1
  have hHrk := restore_known cf _ F.2.1 Hh fun i j k h => (hag i j k h).2
  -- (1) the reversed H equals the old H on every HGood cell
  have hHgood : ∀ i j k, HGood cf _ i j k → agree (backwardP cf m jE jH pmlsB F.1 F.2.1 false Eh Hh).2 H i j k :=
    fun i j k ⟨hsoft, hn⟩ =>
      revH_cell cf m jH _ _ H _ i j k hf (hw.hx i j k) (hw.hy i j k) (hw.hz i j k)
        (stencil_footprint_E cf false sim _ pmlsB _ _ F.1 i j k hs hlB hl1 hsoft (hn.mono hErk)) (hHrk i j k hn.c)
  -- (2) the reversed E equals the old E on the interior
  have hEint : ∀ i j k, Interior cf _ i j k → agree (backwardP cf m jE jH pmlsB F.1 F.2.1 false Eh Hh).1 E i j k :=
    fun i j k hint =>
      revE_cell cf m jE _ _ E _ i j k hf (hw.ex i j k) (hw.ey i j k) (hw.ez i j k)
        (stencil_footprint_H cf false sim _ pmlsB pmls _ H i j k hs hlB hl (interior_soft hint)
          ((geometry_footprint_bwd cf _ hs i j k hint).mono hHgood))
        (hErk i j k (Or.inl hint))
  intro i j k hint
  have hH := hHgood i j k (interior_hgood hs hint)
  cases reset
  · exact ⟨hEint i j k hint, hH⟩
  · exact ⟨(resetP_interior cf _ _ i j k hint).trans (hEint i j k hint), (resetP_interior cf _ _ i j k hint).trans hH⟩

/-! ### the whole sweep -/

/-- forward run with step-indexed source terms: state `(E, H, pmls)` after `n` steps -/
def fwdRun (cf : Cfg K) (m : Mat K) (jE jH : Nat → V3 K) (sim : Bool) (s0 : V3 K × V3 K × List (PmlSt K)) :
    Nat → V3 K × V3 K × List (PmlSt K)
  | 0 => s0
  | n + 1 =>
    let s := fwdRun cf m jE jH sim s0 n
    forwardP cf m (jE n) (jH n) sim s.2.2 s.1 s.2.1

/-- reverse sweep from the final state of a `T`-step run: `(E, H)` after `n` backward steps (i.e. at time `T - n`).
Each step restores the interface slices from the recording of the forward state it undoes and uses the auxiliary
fields of the END of the forward run (they are not reversed by the code). -/
def bwdRun (cf : Cfg K) (m : Mat K) (jE jH : Nat → V3 K) (sim reset : Bool) (s0 : V3 K × V3 K × List (PmlSt K))
    (T : Nat) : Nat → V3 K × V3 K
  | 0 => ((fwdRun cf m jE jH sim s0 T).1, (fwdRun cf m jE jH sim s0 T).2.1)
  | n + 1 =>
    let b := bwdRun cf m jE jH sim reset s0 T n
    let t := T - (n + 1)
    let R := fwdRun cf m jE jH sim s0 (t + 1)
    backwardP cf m (jE t) (jH t) (fwdRun cf m jE jH sim s0 T).2.2 R.1 R.2.1 reset b.1 b.2

/-- **psi_zero_at_interface**: with a clean inner face, the auxiliary fields of every PML vanish on its interface layer
after any number of forward steps (induction over the steps), and the static data never change. -/
theorem psi_zero_at_interface (cf : Cfg K) (m : Mat K) (jE jH : Nat → V3 K) (sim : Bool) (ps : List (Pml K))
    (s0 : V3 K × V3 K × List (PmlSt K)) (hs : StaticOK cf ps) (hl : ListOK cf ps s0.2.2) (n : Nat) :
    ListOK cf ps (fwdRun cf m jE jH sim s0 n).2.2 := by
  induction n with
  | zero => exact hl
  | succ n ih => exact listOK_mapH cf ps _ sim _ hs (listOK_mapE cf ps _ sim _ hs ih)

theorem wallOK_fwdRun (cf : Cfg K) (m : Mat K) (jE jH : Nat → V3 K) (sim : Bool) (s0 : V3 K × V3 K × List (PmlSt K))
    (hw : WallOK cf s0.1 s0.2.1) (n : Nat) :
    WallOK cf (fwdRun cf m jE jH sim s0 n).1 (fwdRun cf m jE jH sim s0 n).2.1 := by
  cases n with
  | zero => exact hw
  | succ n => exact wallOK_proj cf _ _

/-- **C03_full_backward**: at EVERY step of the reverse sweep (`n` backward steps from the final state of a `T`-step run,
`n ≤ T`) the reconstructed E and H equal the forward-run E and H of time `T - n` on every cell outside the absorbing
layers — any shape, PML on any subset of faces with any thicknesses, any other faces, any sources, with or without
the reset of the PML regions. -/
theorem C03_full_backward (cf : Cfg K) (m : Mat K) (jE jH : Nat → V3 K) (sim reset : Bool) (ps : List (Pml K))
    (s0 : V3 K × V3 K × List (PmlSt K)) (hf : FactorOK cf m) (hw : WallOK cf s0.1 s0.2.1) (hs : StaticOK cf ps)
    (hl : ListOK cf ps s0.2.2) (T n : Nat) (hn : n ≤ T) :
    ∀ i j k, Interior cf ps i j k →
      agree (bwdRun cf m jE jH sim reset s0 T n).1 (fwdRun cf m jE jH sim s0 (T - n)).1 i j k ∧
      agree (bwdRun cf m jE jH sim reset s0 T n).2 (fwdRun cf m jE jH sim s0 (T - n)).2.1 i j k := by
  induction n with
  | zero => intro i j k _; exact ⟨⟨rfl, rfl, rfl⟩, ⟨rfl, rfl, rfl⟩⟩
  | succ n ih =>
    have ih' := ih (by omega)
    have ht : T - n = (T - (n + 1)) + 1 := by omega
    rw [ht] at ih'
    exact C03_reverse_step cf m _ _ sim reset ps _ _ _ _ _ _ hf (wallOK_fwdRun cf m jE jH sim s0 hw _) hs
      (psi_zero_at_interface cf m jE jH sim ps s0 hs hl _) (psi_zero_at_interface cf m jE jH sim ps s0 hs hl T) ih'

theorem C03_full_backward_initial (cf : Cfg K) (m : Mat K) (jE jH : Nat → V3 K) (sim reset : Bool) (ps : List (Pml K))
    (s0 : V3 K × V3 K × List (PmlSt K)) (hf : FactorOK cf m) (hw : WallOK cf s0.1 s0.2.1) (hs : StaticOK cf ps)
    (hl : ListOK cf ps s0.2.2) (T : Nat) :
    ∀ i j k, Interior cf ps i j k →
      agree (bwdRun cf m jE jH sim reset s0 T T).1 s0.1 i j k ∧ agree (bwdRun cf m jE jH sim reset s0 T T).2 s0.2.1 i j k := by
  have h := C03_full_backward cf m jE jH sim reset ps s0 hf hw hs hl T T le_rfl
  rwa [Nat.sub_self] at h

end

/-! ### non-vacuity: a concrete 5×4×4 volume, PML of thickness 2 at min x and 1 at max y (overlapping along an edge),
PEC at max x; coefficient arrays with a clean inner face; the hypotheses are met and an interior cell exists -/

def exCf : Cfg ℚ :=
  { nx := 5, ny := 4, nz := 4,
    bx := ⟨false, 1, 1, false, true, false, false⟩, by_ := ⟨false, 1, 1, false, false, false, false⟩,
    bz := ⟨true, 1, 1, false, false, false, false⟩,
    sfx := fun _ => 1, sfy := fun _ => 1, sfz := fun _ => 1, sbx := fun _ => 1, sby := fun _ => 1, sbz := fun _ => 1,
    c := 1 / 2, eta0 := 1 }

/-- min-x layer, thickness 2: offsets 0 (outer), 1 (interface) -/
def exP1 : Pml ℚ :=
  { axis := 0, plus := false, box := faceBox 5 4 4 0 false 2, kappaDefault := true,
    aE := fun o => if o = 1 then 0 else -1 / 3, bE := fun _ => 1 / 2, ikE := fun _ => 1,
    aH := fun o => if o = 1 then 0 else -1 / 4, bH := fun _ => 1 / 2, ikH := fun _ => 1 }

/-- max-y layer, thickness 1, κ branch on with 1/κ = 1 at the (only) cell -/
def exP2 : Pml ℚ :=
  { axis := 1, plus := true, box := faceBox 5 4 4 1 true 1, kappaDefault := false,
    aE := fun _ => 0, bE := fun _ => 1 / 2, ikE := fun _ => 1, aH := fun _ => 0, bH := fun _ => 1 / 2, ikH := fun _ => 1 }

example : StaticOK exCf [exP1, exP2] := by
  constructor <;> intro q hq <;> simp only [List.mem_cons, List.mem_nil_iff, or_false] at hq <;>
    rcases hq with rfl | rfl
  · exact ⟨by decide, rfl, 2, by decide, by decide, rfl⟩
  · exact ⟨by decide, rfl, 1, by decide, by decide, rfl⟩
  · exact ⟨rfl, rfl, Or.inl rfl⟩
  · exact ⟨rfl, rfl, Or.inr ⟨rfl, rfl⟩⟩

example : ListOK exCf [exP1, exP2] [⟨exP1, constV 0 |>.x, constV 0 |>.x, constV 0 |>.x, constV 0 |>.x⟩,
    ⟨exP2, constV 0 |>.x, constV 0 |>.x, constV 0 |>.x, constV 0 |>.x⟩] := by
  constructor
  · rfl
  · intro st hst i j k _
    simp only [List.mem_cons, List.mem_nil_iff, or_false] at hst
    rcases hst with rfl | rfl <;> simp [constV]

example : Interior exCf [exP1, exP2] 2 1 3 := by
  unfold Interior
  decide

/-- its x-predecessor (1,1,3), on the interface layer of the min-x PML, is not interior -/
example : ¬ Interior exCf [exP1, exP2] 1 1 3 := by
  unfold Interior
  decide

end Fdtdx.C03
