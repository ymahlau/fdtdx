/-
C35 — Dispersion coefficients encode the declared pole model.

About `FdtdxModel/C35.lean`, for every pole, time step and frequency:
* round trip: the susceptibility that `susceptibility_from_coefficients` rebuilds from the stored `c1..c4` is the unified
  model `(a - iωb)/(ω0² - ω² - iγω)` (any field of characteristic 0; only `dt ≠ 0` and `1 + γdt/2 ≠ 0` are needed), and
  in ℂ the Lorentz, Drude, conjugate-pole-residue and critical-point formulas of the class doc-strings;
* stability: an accepted passive pole (`γ ≥ 0`, `ω0 ≥ 0`, `ω0 dt < 2`) meets the Jury conditions `|c2| ≤ 1`,
  `|c1| ≤ 1 - c2`, under which `z² - c1 z - c2` has no root outside the closed unit disc (a complex pair has
  `|z|² = -c2`; a real root and its negative are both `≤ 1`); `coefChecked` accepts exactly when the pole does not
  couple or `ω0 dt < 2`;
* zero-padded slots contribute nothing to `chiSum`;
* `resp` is the steady-state response of the stored recurrence to `E_n = zⁿ`, and for `b = 0` its relative error against
  the declared model is at most `θ²B/(m - θ²B)` with `θ = ω dt ≤ 1`, `B = 5/48 + (γ/ω)/6`, `m = |(ω0/ω)² - 1 - iγ/ω|`:
  the two denominators differ by at most `θ⁴B` (cos/sin remainders), the declared one has norm `θ²m`, and perturbing a
  denominator `De` by `ε < |De|` changes a quotient by at most the fraction `ε/(|De| - ε)`.
`C35_analytic_clauses` is the conjunction of the clauses over ℝ/ℂ (one name for the axiom audit).
-/
import FdtdxLemmas.C35
import Mathlib.Algebra.Order.Field.Basic
import Mathlib.Algebra.Order.AbsoluteValue.Basic
import Mathlib.Tactic.Positivity
import Mathlib.Tactic.NormNum
import Mathlib.Analysis.Complex.Trigonometric
import Mathlib.Analysis.SpecialFunctions.Trigonometric.Bounds
import Mathlib.Analysis.SpecialFunctions.Sqrt

namespace Fdtdx.C35
set_option linter.unusedSectionVars false

/-! ### the inverse mapping reproduces the declared pole model -/
section field
variable {K : Type} [Field K] [CharZero K] [DecidableEq K]

/-- C35 (first clause): the susceptibility reconstructed from the stored coefficients of a pole is the declared
unified pole model, at every frequency. -/
theorem C35_chi_roundtrip (u : Uni K) (dt ω : K) (hdt : dt ≠ 0) (hD : 1 + u.g * dt / 2 ≠ 0) :
    chiPole (coef u dt) ω dt = chiDeclared u ω := by
  cases hm : ((coef u dt).c1 != 0 || (coef u dt).c3 != 0 || (coef u dt).c4 != 0)
  · -- masked slot: `c3 = c4 = 0`, so the pole does not couple and both sides are 0
    simp only [Bool.or_eq_false_iff, bne_eq_false_iff_eq] at hm
    obtain ⟨ha, hb⟩ := uncoupled_of_c34 u dt hdt hD hm.1.2 hm.2
    simp [chiPole, hm, chiDeclared, cdiv, ha, hb]
  · have hs : ((1 - (coef u dt).c2) == 0) = false := by
      simpa using one_sub_c2_ne u dt hD
    simp only [chiPole, hm, hs, Bool.not_true, Bool.false_eq_true, if_false]
    rw [inv_gdt u dt hD, inv_w2 u dt hD, inv_a u dt hD, inv_b u dt hD, chiDeclared_scale u ω dt hdt]

end field

/-! ### the declared models of the pole classes, in ℂ -/
section complex
open Complex

theorem C35_chi_roundtrip_complex (u : Uni ℝ) (dt ω : ℝ) (hdt : dt ≠ 0) (hD : 1 + u.g * dt / 2 ≠ 0) :
    toC (chiPole (coef u dt) ω dt)
      = ((u.a : ℂ) - I * ω * u.b) / ((u.w0 : ℂ) ^ 2 - (ω : ℂ) ^ 2 - I * u.g * ω) := by
  rw [C35_chi_roundtrip u dt ω hdt hD, chiDeclared, toC_cdiv, toC_mk, toC_mk]
  congr 1 <;> (push_cast; ring)

/-- Lorentz pole: `χ(ω) = Δε ω0² / (ω0² - ω² - iγω)` -/
theorem C35_lorentz (w0 g de dt ω : ℝ) (hdt : dt ≠ 0) (hD : 1 + g * dt / 2 ≠ 0) :
    toC (chiPole (coef (lorentz w0 g de) dt) ω dt)
      = ((de : ℂ) * (w0 : ℂ) ^ 2) / ((w0 : ℂ) ^ 2 - (ω : ℂ) ^ 2 - I * g * ω) := by
  rw [C35_chi_roundtrip_complex _ dt ω hdt hD]
  simp only [lorentz]; congr 1; push_cast; ring

/-- Drude pole: `χ(ω) = -ωp² / (ω² + iγω)` -/
theorem C35_drude (wp g dt ω : ℝ) (hdt : dt ≠ 0) (hD : 1 + g * dt / 2 ≠ 0) :
    toC (chiPole (coef (drude wp g) dt) ω dt) = -((wp : ℂ) ^ 2) / ((ω : ℂ) ^ 2 + I * g * ω) := by
  rw [C35_chi_roundtrip_complex _ dt ω hdt hD]
  simp only [drude]
  rw [← neg_div_neg_eq]
  congr 1 <;> (push_cast; ring)

/-- CCPR pole: `χ(ω) = r/(-iω - q) + r̄/(-iω - q̄)`; `sqrt` is any function with `sqrt(|q|²)² = |q|²` -/
theorem C35_ccpr (sqrt : ℝ → ℝ) (qre qim rre rim dt ω : ℝ)
    (hsq : sqrt (qre * qre + qim * qim) * sqrt (qre * qre + qim * qim) = qre * qre + qim * qim)
    (hdt : dt ≠ 0) (hD : 1 + (-(2 * qre)) * dt / 2 ≠ 0)
    (h1 : -I * ω - (⟨qre, qim⟩ : ℂ) ≠ 0) (h2 : -I * ω - (⟨qre, -qim⟩ : ℂ) ≠ 0) :
    toC (chiPole (coef (ccpr sqrt qre qim rre rim) dt) ω dt)
      = (⟨rre, rim⟩ : ℂ) / (-I * ω - ⟨qre, qim⟩) + (⟨rre, -rim⟩ : ℂ) / (-I * ω - ⟨qre, -qim⟩) := by
  rw [C35_chi_roundtrip_complex _ dt ω hdt hD, div_add_div _ _ h1 h2]
  have hs : ((sqrt (qre * qre + qim * qim) : ℝ) : ℂ) ^ 2 = (qre : ℂ) ^ 2 + (qim : ℂ) ^ 2 := by
    rw [sq, ← Complex.ofReal_mul, hsq]; push_cast; ring
  simp only [ccpr, Complex.mk_eq_add_mul_I, hs]
  -- numerators and denominators agree as polynomials in `I` modulo `I² = -1`
  congr 1
  · push_cast; linear_combination (-2 * rim * qim : ℂ) * I_sq
  · push_cast; linear_combination ((qim : ℂ) ^ 2 - (ω : ℂ) ^ 2) * I_sq

/-- critical-point pole (`from_critical_point`, with `c = cos φ`, `s = sin φ`):
`χ(ω) = AΩ [ e^{iφ}/(Ω - ω - iΓ) + e^{-iφ}/(Ω + ω + iΓ) ]` -/
theorem C35_critical_point (sqrt : ℝ → ℝ) (A c s Om Ga dt ω : ℝ)
    (hsq : sqrt (Ga * Ga + Om * Om) * sqrt (Ga * Ga + Om * Om) = Ga * Ga + Om * Om)
    (hdt : dt ≠ 0) (hD : 1 + (2 * Ga) * dt / 2 ≠ 0)
    (h1 : (Om : ℂ) - ω - I * Ga ≠ 0) (h2 : (Om : ℂ) + ω + I * Ga ≠ 0) :
    let p := critical A c s Om Ga
    toC (chiPole (coef (ccpr sqrt p.1 p.2.1 p.2.2.1 p.2.2.2) dt) ω dt)
      = (A : ℂ) * Om * (((c : ℂ) + I * s) / (Om - ω - I * Ga) + ((c : ℂ) - I * s) / (Om + ω + I * Ga)) := by
  intro p
  have hg : (ccpr sqrt p.1 p.2.1 p.2.2.1 p.2.2.2).g = 2 * Ga := by simp only [ccpr, p, critical, mul_neg, neg_neg]
  rw [C35_chi_roundtrip_complex _ dt ω hdt (by rwa [hg]), div_add_div _ _ h1 h2, mul_div_assoc']
  have hs : ((sqrt (-Ga * -Ga + -Om * -Om) : ℝ) : ℂ) ^ 2 = (Ga : ℂ) ^ 2 + (Om : ℂ) ^ 2 := by
    rw [neg_mul_neg, neg_mul_neg, sq, ← Complex.ofReal_mul, hsq]; push_cast; ring
  simp only [ccpr, p, critical, hs]
  congr 1
  · push_cast; linear_combination (-2 * A * Om * s * Ga : ℂ) * I_sq
  · push_cast; linear_combination ((Ga : ℂ) ^ 2) * I_sq

end complex

/-! ### Jury conditions and the roots of `z² - c1 z - c2` -/
section ordered
variable {F : Type} [Field F] [LinearOrder F] [IsStrictOrderedRing F]

theorem sq_lt_four {w d : F} (h0 : 0 ≤ w * d) (h : w * d < 2) : w * w * (d * d) < 4 := by
  rw [mul_mul_mul_comm]
  exact (mul_self_lt_mul_self h0 h).trans_eq ((two_mul 2).trans two_add_two_eq_four)

/-- C35 (Jury): an accepted passive pole (`γ ≥ 0`, `ω0 dt < 2`) has `|c2| ≤ 1` and `|c1| ≤ 1 - c2`. -/
theorem C35_jury (u : Uni F) (dt : F) (hdt : 0 < dt) (hg : 0 ≤ u.g) (hw0 : 0 ≤ u.w0) (hw : u.w0 * dt < 2) :
    |(coef u dt).c2| ≤ 1 ∧ |(coef u dt).c1| ≤ 1 - (coef u dt).c2 := by
  have hgd : 0 ≤ u.g * dt / 2 := div_nonneg (mul_nonneg hg hdt.le) zero_le_two
  have hD : 0 < 1 + u.g * dt / 2 := add_pos_of_pos_of_nonneg one_pos hgd
  have ha4 := sq_lt_four (mul_nonneg hw0 hdt.le) hw
  constructor
  · -- `|-(1 - γdt/2)| ≤ 1 + γdt/2`
    rw [coef_c2, abs_div, abs_of_pos hD, div_le_one hD, abs_neg]
    exact (abs_sub _ _).trans_eq (by rw [abs_one, abs_of_nonneg hgd])
  · -- `|2 - (ω0 dt)²| ≤ 2`
    rw [one_sub_c2 u dt hD.ne', coef_c1, abs_div, abs_of_pos hD, div_le_div_iff_of_pos_right hD, abs_sub_le_iff]
    exact ⟨sub_le_self _ (mul_nonneg (mul_self_nonneg _) (mul_self_nonneg _)),
      sub_le_iff_le_add.mpr (ha4.le.trans_eq two_add_two_eq_four.symm)⟩

/-- a root of `x² - s x + p` with `s, p ≥ 0` is not negative: for `x < 0` all three summands are `≥ 0`, the first `> 0` -/
theorem root_nonneg {s p x : F} (hs : 0 ≤ s) (hp : 0 ≤ p) (h : x * x - s * x + p = 0) : 0 ≤ x :=
  le_of_not_gt fun hx => (add_pos_of_pos_of_nonneg (sub_pos.mpr
    ((mul_nonpos_of_nonneg_of_nonpos hs hx.le).trans_lt (mul_pos_of_neg_of_neg hx hx))) hp).ne' h

/-- a real root of `z² - c1 z - c2` with `-1 ≤ c2` and `c1 ≤ 1 - c2` is at most 1: in `y = 1 - x` the polynomial is
`y² - (2 - c1) y + (1 - c2 - c1)` -/
theorem real_root_le_one (c1 c2 x : F) (h2 : -1 ≤ c2) (h1 : c1 ≤ 1 - c2) (hp : x * x - c1 * x - c2 = 0) :
    x ≤ 1 :=
  sub_nonneg.mp (root_nonneg (s := 2 - c1) (p := 1 - c2 - c1) (by linarith only [h1, h2]) (sub_nonneg.mpr h1)
    (by linear_combination hp))

/-- C35 (roots): under the Jury conditions every complex root `x + iy` of `z² - c1 z - c2` lies in the closed
unit disc.  (`re`/`im` are the real and imaginary parts of `z² - c1 z - c2 = 0`.) -/
theorem C35_jury_roots (c1 c2 x y : F) (h2 : |c2| ≤ 1) (h1 : |c1| ≤ 1 - c2)
    (re : x * x - y * y - c1 * x - c2 = 0) (im : 2 * x * y - c1 * y = 0) : x * x + y * y ≤ 1 := by
  have h2a := (abs_le.mp h2).1
  have ⟨h1a, h1b⟩ := abs_le.mp h1
  rcases mul_eq_zero.mp ((sub_mul _ _ _).trans im) with hx | rfl
  · -- complex pair: `c1 = 2x`, so `|z|² = -c2`
    have : x * x + y * y = -c2 := by linear_combination -re + x * hx
    rw [this]
    exact neg_le.mp h2a
  · -- real root: `x` and `-x` (a root for `-c1`) are both at most 1
    rw [mul_zero, sub_zero] at re
    rw [mul_zero, add_zero]
    have hx1 := real_root_le_one c1 c2 x h2a h1b re
    have hx2 := real_root_le_one (-c1) c2 (-x) h2a (neg_le.mp h1a) (by rwa [neg_mul_neg, neg_mul_neg])
    exact abs_le_one_iff_mul_self_le_one.mp (abs_le.mpr ⟨neg_le.mp hx2, hx1⟩)

end ordered

section roots_complex
open Complex

/-- the same in `ℂ`: no root of `z² - c1 z - c2` outside the closed unit disc -/
theorem C35_jury_roots_complex (c1 c2 : ℝ) (h2 : |c2| ≤ 1) (h1 : |c1| ≤ 1 - c2) (z : ℂ)
    (hz : z ^ 2 - c1 * z - c2 = 0) : ‖z‖ ≤ 1 := by
  have hre := congrArg Complex.re hz
  have him := congrArg Complex.im hz
  simp [sq] at hre him
  have h := C35_jury_roots c1 c2 z.re z.im h2 h1 (by linear_combination hre) (by linear_combination him)
  rw [← Complex.normSq_apply, ← Complex.norm_mul_self_eq_normSq] at h
  exact le_of_abs_le (abs_le_one_iff_mul_self_le_one.mpr h)

/-- C35 (third clause): the recurrence of an accepted passive pole has no root outside the unit circle. -/
theorem C35_no_root_outside (u : Uni ℝ) (dt : ℝ) (hdt : 0 < dt) (hg : 0 ≤ u.g) (hw0 : 0 ≤ u.w0)
    (hw : u.w0 * dt < 2) (z : ℂ) (hz : z ^ 2 - (coef u dt).c1 * z - (coef u dt).c2 = 0) : ‖z‖ ≤ 1 := by
  obtain ⟨h2, h1⟩ := C35_jury u dt hdt hg hw0 hw
  exact C35_jury_roots_complex _ _ h2 h1 z hz

end roots_complex

/-! ### acceptance guard -/
section guard
variable {F : Type} [Field F] [LinearOrder F] [IsStrictOrderedRing F]

theorem C35_accepted (u : Uni F) (dt : F) :
    coefChecked u dt = (if (u.a = 0 ∧ u.b = 0) ∨ u.w0 * dt < 2 then some (coef u dt) else none) := by
  -- the guard of the code is the Boolean negation of the condition
  have h : ((u.a != 0 || u.b != 0) && decide (2 ≤ u.w0 * dt)) = !decide ((u.a = 0 ∧ u.b = 0) ∨ u.w0 * dt < 2) := by
    simp only [Bool.decide_or, Bool.decide_and, Bool.not_or, Bool.not_and, ← not_le, decide_not, Bool.not_not, bne,
      beq_eq_decide]
  unfold coefChecked
  rw [h]
  simp only [Bool.not_eq_true', decide_eq_false_iff_not, ite_not]

end guard

/-! ### zero-padded pole slots -/
section padding
variable {K : Type} [Field K] [CharZero K] [DecidableEq K]

theorem C35_padded_slot (ω dt : K) : chiPole (⟨0, 0, 0, 0⟩ : Coef K) ω dt = (0, 0) := by
  simp [chiPole]

/-- C35 (last clause): a zero-padded slot anywhere in the pole stack contributes nothing. -/
theorem C35_padding_anywhere (l1 l2 : List (Coef K)) (ω dt : K) :
    chiSum (l1 ++ (⟨0, 0, 0, 0⟩ : Coef K) :: l2) ω dt = chiSum (l1 ++ l2) ω dt := by
  simp only [chiSum, List.foldl_append, List.foldl_cons, C35_padded_slot, cadd, add_zero]

theorem C35_all_padded (n : Nat) (ω dt : K) :
    chiSum (List.replicate n (⟨0, 0, 0, 0⟩ : Coef K)) ω dt = (0, 0) := by
  induction n with
  | zero => rfl
  | succ n ih => exact (C35_padding_anywhere [] _ ω dt).trans ih

end padding

/-! ### the frequency response of the stored recurrence -/
section response
open Complex

/-- `resp` is the steady-state response of the recurrence to `E_n = zⁿ`, `z = e^{-iθ}`:
`P_n = χ_d zⁿ` solves `P_{n+2} = c1 P_{n+1} + c2 P_n + c3 z^{n+1} + c4 z^{n+2}` for every `n`. -/
theorem C35_resp_steady_state (c : Coef ℝ) (cs sn : ℝ) (hcs : cs * cs + sn * sn = 1)
    (hden : toC (cs - c.c1 - c.c2 * cs, -sn - c.c2 * sn) ≠ 0) (n : ℕ) :
    let z : ℂ := ⟨cs, -sn⟩
    let χ := toC (resp c cs sn)
    χ * z ^ (n + 2) = c.c1 * (χ * z ^ (n + 1)) + c.c2 * (χ * z ^ n) + c.c3 * z ^ (n + 1) + c.c4 * z ^ (n + 2) := by
  intro z χ
  have hzz : z * (⟨cs, sn⟩ : ℂ) = 1 := by
    apply Complex.ext
    · simp only [z, mul_re, neg_mul, sub_neg_eq_add, one_re]; exact hcs
    · simp only [z, mul_im, neg_mul, one_im]; ring
  have hN : toC (c.c3 + c.c4 * cs, -(c.c4 * sn)) = c.c3 + c.c4 * z := by
    apply Complex.ext <;> simp [toC, z]
  have hDn : toC (cs - c.c1 - c.c2 * cs, -sn - c.c2 * sn) = z - c.c1 - c.c2 * (⟨cs, sn⟩ : ℂ) := by
    apply Complex.ext <;> simp [toC, z]
  have hχ : χ * (z - c.c1 - c.c2 * (⟨cs, sn⟩ : ℂ)) = c.c3 + c.c4 * z := by
    rw [← hDn, ← hN]
    simp only [χ, resp]
    rw [toC_cdiv, div_mul_cancel₀ _ hden]
  linear_combination (z ^ (n + 1)) * hχ + (c.c2 * χ * z ^ n) * hzz

variable {K : Type} [Field K] [CharZero K]

/-- the response of the coefficients of a pole, with the common factor `D = 1 + γdt/2` cleared:
`χ_d = (a dt² - b dt (1 - cos θ) - i b dt sin θ) / (ω0² dt² - 2 (1 - cos θ) - i γdt sin θ)` -/
theorem C35_resp_denominator (u : Uni K) (dt cs sn : K) (hD : 1 + u.g * dt / 2 ≠ 0) :
    resp (coef u dt) cs sn
      = cdiv (u.a * (dt * dt) - u.b * dt * (1 - cs), -(u.b * dt * sn))
             ((u.w0 * u.w0) * (dt * dt) - 2 * (1 - cs), -(u.g * dt * sn)) := by
  have e := cdiv_scale (1 + u.g * dt / 2) ((coef u dt).c3 + (coef u dt).c4 * cs) (-((coef u dt).c4 * sn))
    (cs - (coef u dt).c1 - (coef u dt).c2 * cs) (-sn - (coef u dt).c2 * sn) hD
  have hb := inv_b u dt hD
  have ha := inv_a u dt hD
  have hw := inv_w2 u dt hD
  have h2 := coef_c2_mul u dt hD
  unfold resp
  rw [← e]
  congr 1 <;> apply Prod.ext <;> simp only
  · linear_combination ha - (1 - cs) * hb
  · linear_combination (-sn) * hb
  · linear_combination hw - cs * h2
  · linear_combination (-sn) * h2

end response

/-! ### the convergence clause: relative error of the recurrence response, O((ω dt)²) with explicit constant -/
section error
open Real

private theorem abs_sin_sub_le (θ : ℝ) : |sin θ - θ| ≤ |θ| ^ 3 / 6 := by
  -- both sides are even in `θ`
  wlog h : 0 ≤ θ generalizing θ
  · have := this (-θ) (neg_nonneg.mpr (le_of_not_ge h))
    rwa [sin_neg, abs_neg, ← neg_sub', abs_neg] at this
  rcases h.eq_or_lt with rfl | h
  · simp
  rw [abs_of_pos h, abs_of_nonpos (sub_nonpos.mpr (sin_lt h).le)]
  linarith [sin_gt_sub_cube h]

/-- C35 (second clause, denominators): with `θ = ω dt`, `|θ| ≤ 1`, the denominator of the recurrence's response
differs from the exact `ω0²dt² - θ² - iγdt θ` by at most `5θ⁴/48` (real part) and `γdt |θ|³/6` (imaginary part). -/
theorem C35_resp_denominator_error (w2 gdt θ : ℝ) (hθ : |θ| ≤ 1) (hg : 0 ≤ gdt) :
    |(w2 - 2 * (1 - cos θ)) - (w2 - θ ^ 2)| ≤ 5 / 48 * θ ^ 4 ∧
    |(-(gdt * sin θ)) - (-(gdt * θ))| ≤ gdt * |θ| ^ 3 / 6 := by
  constructor
  · have h := Real.cos_bound hθ
    rw [Even.pow_abs ⟨2, rfl⟩ θ] at h
    rw [show (w2 - 2 * (1 - cos θ)) - (w2 - θ ^ 2) = 2 * (cos θ - (1 - θ ^ 2 / 2)) by ring, abs_mul, abs_two]
    linarith
  · rw [← neg_sub', abs_neg, ← mul_sub, abs_mul, abs_of_nonneg hg, mul_div_assoc]
    exact mul_le_mul_of_nonneg_left (abs_sin_sub_le θ) hg

end error

section relative_error
open Complex

/-- relative error of a quotient whose denominator is perturbed by at most `ε < ‖De‖`:
`N/Dd - N/De = (De - Dd)/Dd · N/De` and `‖Dd‖ ≥ ‖De‖ - ε` -/
theorem quotient_relative_error (N Dd De : ℂ) (ε : ℝ) (h : ‖Dd - De‖ ≤ ε) (hε : ε < ‖De‖) :
    ‖N / Dd - N / De‖ ≤ ε / (‖De‖ - ε) * ‖N / De‖ := by
  have hgap : 0 < ‖De‖ - ε := sub_pos.mpr hε
  have hlow : ‖De‖ - ε ≤ ‖Dd‖ := by
    have := norm_sub_norm_le De Dd
    rw [norm_sub_rev] at this
    linarith
  have hDd : Dd ≠ 0 := norm_pos_iff.mp (hgap.trans_le hlow)
  have hDe : De ≠ 0 := norm_pos_iff.mp ((norm_nonneg _).trans_lt (h.trans_lt hε))
  have key : N / Dd - N / De = (De - Dd) / Dd * (N / De) := by
    field_simp
  rw [key, norm_mul, norm_div, norm_sub_rev]
  exact mul_le_mul_of_nonneg_right (div_le_div₀ ((norm_nonneg _).trans h) h hgap hlow) (norm_nonneg _)

theorem resp_denominator_dist (w0 g dt ω : ℝ) (hω : 0 < ω) (hdt : 0 < dt) (hg : 0 ≤ g) (hθ : ω * dt ≤ 1) :
    ‖toC (w0 * w0 * (dt * dt) - 2 * (1 - Real.cos (ω * dt)), -(g * dt * Real.sin (ω * dt)))
        - toC (w0 * w0 * (dt * dt) - (ω * dt) ^ 2, -(g * dt * (ω * dt)))‖
      ≤ (ω * dt) ^ 2 * ((ω * dt) ^ 2 * (5 / 48 + g / ω / 6)) := by
  have hθ0 : 0 < ω * dt := mul_pos hω hdt
  obtain ⟨hre, him⟩ := C35_resp_denominator_error (w0 * w0 * (dt * dt)) (g * dt) (ω * dt)
    (by rwa [abs_of_pos hθ0]) (mul_nonneg hg hdt.le)
  rw [abs_of_pos hθ0] at him
  calc _ ≤ _ := Complex.norm_le_abs_re_add_abs_im _
    _ ≤ 5 / 48 * (ω * dt) ^ 4 + g * dt * (ω * dt) ^ 3 / 6 := add_le_add hre him
    _ = _ := by field_simp

theorem resp_b_zero (w0 g K dt c s : ℝ) (hD : 1 + g * dt / 2 ≠ 0) :
    toC (resp (coef ⟨w0, g, K, 0⟩ dt) c s)
      = ((K * (dt * dt) : ℝ) : ℂ) / toC (w0 * w0 * (dt * dt) - 2 * (1 - c), -(g * dt * s)) := by
  rw [C35_resp_denominator _ dt _ _ hD, toC_cdiv]
  simp only [zero_mul, sub_zero, neg_zero, toC_ofReal]

theorem chiDeclared_b_zero (w0 g K dt ω : ℝ) (hdt : dt ≠ 0) :
    toC (chiDeclared ⟨w0, g, K, 0⟩ ω)
      = ((K * (dt * dt) : ℝ) : ℂ) / toC (w0 * w0 * (dt * dt) - (ω * dt) ^ 2, -(g * dt * (ω * dt))) := by
  rw [chiDeclared_scale _ ω dt hdt, toC_cdiv]
  simp only [zero_mul, mul_zero, neg_zero, toC_ofReal, sq]

theorem declared_denominator (w0 g dt ω : ℝ) (hω : ω ≠ 0) :
    toC (w0 * w0 * (dt * dt) - (ω * dt) ^ 2, -(g * dt * (ω * dt)))
      = (((ω * dt) ^ 2 : ℝ) : ℂ) * ((((w0 / ω) ^ 2 - 1 : ℝ) : ℂ) - I * ((g / ω : ℝ) : ℂ)) := by
  apply Complex.ext
  · simp only [toC, re_ofReal_mul, sub_re, ofReal_re, I_mul_re, ofReal_im, neg_zero, sub_zero]
    field_simp
  · simp only [toC, im_ofReal_mul, sub_im, ofReal_im, I_mul_im, ofReal_re, zero_sub]
    field_simp

/-- C35 (second clause): for a Lorentz/Drude pole (`b = 0`), `θ = ω dt ≤ 1`, `B = 5/48 + (γ/ω)/6`,
`m = |(ω0/ω)² - 1 - iγ/ω|` and `θ²B < m`:  `|χ_d - χ| ≤ θ²B/(m - θ²B) · |χ|`, where `χ_d` is the frequency response
of the stored recurrence and `χ` the declared pole model. For fixed physical parameters the factor is `O((ω dt)²)`. -/
theorem C35_response_relative_error (w0 g K dt ω : ℝ) (hω : 0 < ω) (hdt : 0 < dt) (hg : 0 ≤ g)
    (hθ : ω * dt ≤ 1)
    (hm : (ω * dt) ^ 2 * (5 / 48 + g / ω / 6) < ‖(((w0 / ω) ^ 2 - 1 : ℝ) : ℂ) - I * ((g / ω : ℝ) : ℂ)‖) :
    ‖toC (resp (coef ⟨w0, g, K, 0⟩ dt) (Real.cos (ω * dt)) (Real.sin (ω * dt))) - toC (chiDeclared ⟨w0, g, K, 0⟩ ω)‖
      ≤ (ω * dt) ^ 2 * (5 / 48 + g / ω / 6)
          / (‖(((w0 / ω) ^ 2 - 1 : ℝ) : ℂ) - I * ((g / ω : ℝ) : ℂ)‖ - (ω * dt) ^ 2 * (5 / 48 + g / ω / 6))
        * ‖toC (chiDeclared ⟨w0, g, K, 0⟩ ω)‖ := by
  have hθ2 : 0 < (ω * dt) ^ 2 := pow_pos (mul_pos hω hdt) 2
  have hD : 1 + g * dt / 2 ≠ 0 := by
    have : 0 ≤ g * dt := mul_nonneg hg hdt.le
    linarith
  have hnDe := congrArg norm (declared_denominator w0 g dt ω hω.ne')
  rw [norm_mul, Complex.norm_real, Real.norm_of_nonneg hθ2.le] at hnDe
  -- `‖Dd - De‖ ≤ θ²·(θ²B)` and `‖De‖ = θ²·m`: the factor `θ²` cancels in `ε / (‖De‖ - ε)`
  have h := quotient_relative_error ((K * (dt * dt) : ℝ) : ℂ) _ _ _ (resp_denominator_dist w0 g dt ω hω hdt hg hθ)
    (by rw [hnDe]; exact mul_lt_mul_of_pos_left hm hθ2)
  rwa [hnDe, ← mul_sub, mul_div_mul_left _ _ hθ2.ne', ← resp_b_zero w0 g K dt _ _ hD,
    ← chiDeclared_b_zero w0 g K dt ω hdt.ne'] at h

end relative_error

/-! ### one handle for the clauses stated over ℝ / ℂ
(the axiom audit walks the whole dependency closure per registered name; the real-analysis closure is shared) -/
theorem C35_analytic_clauses :
    (type_of% @C35_chi_roundtrip_complex) ∧ (type_of% @C35_lorentz) ∧ (type_of% @C35_drude) ∧
    (type_of% @C35_ccpr) ∧ (type_of% @C35_critical_point) ∧ (type_of% @C35_jury_roots_complex) ∧
    (type_of% @C35_no_root_outside) ∧ (type_of% @C35_resp_steady_state) ∧
    (type_of% @C35_resp_denominator_error) ∧ (type_of% @C35_response_relative_error) :=
  ⟨@C35_chi_roundtrip_complex, @C35_lorentz, @C35_drude, @C35_ccpr, @C35_critical_point,
   @C35_jury_roots_complex, @C35_no_root_outside, @C35_resp_steady_state, @C35_resp_denominator_error,
   @C35_response_relative_error⟩

/-! ### non-vacuity: the hypotheses are met by concrete non-trivial inputs -/
section nonvacuity

/-- hypotheses of `C35_chi_roundtrip` (a damped Lorentz pole, `ω0 dt = 0.1`) -/
example : ((1 / 10 : ℚ) ≠ 0) ∧ (1 + (lorentz (1 : ℚ) (1 / 2) 2).g * (1 / 10) / 2 ≠ 0) := by
  norm_num [lorentz]

/-- the round trip on that pole, evaluated: both sides are the same non-zero number -/
example : chiPole (coef (lorentz (1 : ℚ) (1 / 2) 2) (1 / 10)) 3 (1 / 10) = chiDeclared (lorentz (1 : ℚ) (1 / 2) 2) 3 ∧
    (chiDeclared (lorentz (1 : ℚ) (1 / 2) 2) 3).1 ≠ 0 := by
  refine ⟨C35_chi_roundtrip _ _ _ (by norm_num) (by norm_num [lorentz]), ?_⟩
  norm_num [chiDeclared, lorentz, cdiv]

/-- hypotheses of `C35_jury` / `C35_no_root_outside` (Drude pole: `ω0 = 0`, on the boundary `|c1| = 1 - c2`) -/
example : (0 : ℚ) < 1 / 10 ∧ (0 : ℚ) ≤ (drude (3 : ℚ) (1 / 5)).g ∧ (0 : ℚ) ≤ (drude (3 : ℚ) (1 / 5)).w0 ∧
    (drude (3 : ℚ) (1 / 5)).w0 * (1 / 10) < 2 := by
  norm_num [drude]

/-- the guard is sharp: with `ω0 dt = 3 > 2` the second Jury condition fails (root `≈ -6.85`) -/
example : ¬ (|(coef (⟨3, 0, 1, 0⟩ : Uni ℚ) 1).c1| ≤ 1 - (coef (⟨3, 0, 1, 0⟩ : Uni ℚ) 1).c2) := by
  norm_num [coef]

/-- `C35_ccpr` / `C35_critical_point`: the `sqrt` hypothesis holds for `Real.sqrt` at every pole -/
example (qre qim : ℝ) :
    Real.sqrt (qre * qre + qim * qim) * Real.sqrt (qre * qre + qim * qim) = qre * qre + qim * qim :=
  Real.mul_self_sqrt (add_nonneg (mul_self_nonneg _) (mul_self_nonneg _))

/-- `C35_resp_steady_state`: `cs = cos θ`, `sn = sin θ` meet `cs² + sn² = 1` -/
example (θ : ℝ) : Real.cos θ * Real.cos θ + Real.sin θ * Real.sin θ = 1 := by
  simpa only [sq] using Real.cos_sq_add_sin_sq θ

/-- accepted and rejected inputs of the guard both exist -/
example : coefChecked (lorentz (1 : ℚ) 0 2) 1 ≠ none ∧ coefChecked (lorentz (2 : ℚ) 0 2) 1 = none ∧
    coefChecked (lorentz (5 : ℚ) 0 0) 1 ≠ none := by
  simp only [C35_accepted]; norm_num [lorentz]; simp

end nonvacuity

end Fdtdx.C35
