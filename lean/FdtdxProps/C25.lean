/-
C25 — Brush-constrained designs are unions of brush placements (termination included).

About `FdtdxModel/C25.lean`, for any design size, any design values and any odd-sized point-symmetric brush containing its
centre (`circular_brush(p/q)` is one for every rational diameter):
* safety: touches only grow, and valid touches (what `goodChoice` checks of an iteration) keep solid ∩ void = ∅, so when
  the loop ends through its exit condition the solid and void regions are the unions of the in-domain brush footprints of
  the solid and void touches (`C25_run_invariant`, `C25_generator_partial`);
* termination: from a state satisfying `Inv` with an uncovered pixel, an iteration selects valid touches only (the `argmax`
  of `where(mask, ±arr, -inf)` lands in the mask; in case 3 a valid touch exists), adds a touch and restores `Inv`
  (`C25_step_inv`), so the loop ends within 2·h·w iterations, never stuck (`C25_run_terminates`);
* both together with no hypothesis on the run: `C25_generator_spec`.

Why termination holds (not in the paper's text, found while proving): required pixels of the two polarities never coexist.
A solid touch only shrinks the set of possible void pixels, so it can only create required-SOLID pixels; while those exist
case 2 keeps picking solid resolving touches; free touches (case 1) change neither set of possible pixels.  Without this
invariant the step "a resolving touch of one polarity does not make a required pixel of the other polarity impossible" is
false (a 7-element abstract cover relation refutes it), but such states are unreachable.
-/
import FdtdxLemmas.C25Term
import Mathlib.Data.Finset.Card
import Mathlib.Data.Finset.Prod

namespace Fdtdx.C25

/-- solid pixels and void pixels of a state never overlap -/
def Disjoint (d : Dims) (b : Brush) (st : State) : Prop :=
  ∀ i j, ¬ (look (dil d b st.s) i j = true ∧ look (dil d b st.v) i j = true)

theorem Disjoint.swap {d : Dims} {b : Brush} {st : State} (h : Disjoint d b st) : Disjoint d b st.swap :=
  fun i j hh => h i j hh.symm

theorem disjoint_empty (d : Dims) (b : Brush) : Disjoint d b ⟨tab d fun _ _ => false, tab d fun _ _ => false⟩ :=
  fun i j h => Bool.eq_false_iff.mp (look_dil_empty d b i j) h.1

/-- **the output is a union of in-domain brush footprints of the solid touches** -/
theorem C25_output_is_union (d : Dims) (b : Brush) (st : State) (pi pj : Nat) :
    look (dil d b st.s) pi pj = true ↔ inb d pi pj = true ∧ ∃ ti tj, look st.s ti tj = true ∧ Cov b ti tj pi pj :=
  look_dil d b st.s pi pj

/-! ### touches only grow -/

theorem C25_touches_grow (d : Dims) (st : State) (ch : Choice) (i j : Nat) (hin : inb d i j = true) :
    (look st.s i j = true → look (apply d st ch).s i j = true) ∧
    (look st.v i j = true → look (apply d st ch).v i j = true) := by
  cases ch with
  | free fv fs =>
    simp only [apply, look_orT, hin, Bool.true_and, Bool.or_eq_true]
    exact ⟨Or.inl, Or.inl⟩
  | single solid idx k =>
    cases solid <;> simp only [apply, look_setIdx, hin, Bool.true_and, Bool.or_eq_true]
    exacts [⟨id, Or.inl⟩, ⟨Or.inl, id⟩]

/-! ### valid touches keep solid ∩ void = ∅ -/

theorem C25_single_solid_preserves (d : Dims) (b : Brush) (hs : Sym b) (st : State) (ti tj k : Nat)
    (hd : Disjoint d b st) (hv : look (derive d b st).validS ti tj = true) :
    Disjoint d b (apply d st (.single true (ti * d.w + tj) k)) := by
  obtain ⟨hin, himp, -⟩ := (validS_iff d b st ti tj).mp hv
  rintro pi pj ⟨h1, h2⟩
  obtain ⟨hpin, t1, t2, ht, hc⟩ := (look_dil d b _ pi pj).mp h1
  simp only [apply, look_setIdx, Bool.and_eq_true, Bool.or_eq_true, decide_eq_true_eq] at ht
  obtain ⟨ht1, hold | hnew⟩ := ht
  · exact hd pi pj ⟨(look_dil d b _ pi pj).mpr ⟨hpin, t1, t2, hold, hc⟩, h2⟩
  · -- the new touch: a void pixel under its brush would have made it invalid
    obtain ⟨rfl, rfl⟩ := flat_inj ht1 hin hnew
    exact look_dil_false.mp himp hin pi pj h2 (cov_symm hs hc)

theorem C25_single_void_preserves (d : Dims) (b : Brush) (hs : Sym b) (st : State) (ti tj k : Nat)
    (hd : Disjoint d b st) (hv : look (derive d b st).validV ti tj = true) :
    Disjoint d b (apply d st (.single false (ti * d.w + tj) k)) :=
  (C25_single_solid_preserves d b hs st.swap ti tj k hd.swap hv).swap

/-- a free solid touch shares no pixel with a void touch, old or free: the pixel is void or possibly void -/
theorem free_clash {d : Dims} {b : Brush} {st : State} (hs : Sym b) {t1 t2 u1 u2 pi pj : Nat} (hin : inb d pi pj = true)
    (hf : look (derive d b st).freeS t1 t2 = true) (hc : Cov b t1 t2 pi pj)
    (hu : look (addFree d b st).v u1 u2 = true) (hcu : Cov b u1 u2 pi pj) : False := by
  obtain ⟨hv, hnf⟩ := (freeS_iff d b st t1 t2).mp hf
  refine look_dil_false.mp hnf ((validS_iff d b st t1 t2).mp hv).1 pi pj ?_ (cov_symm hs hc)
  rw [look_orT, hin]
  obtain ⟨huin, huv | huf⟩ := (look_addFree_s d b st.swap u1 u2).mp hu
  · rw [(look_dil d b st.v pi pj).mpr ⟨hin, u1, u2, huv, hcu⟩, Bool.or_true]
    rfl
  · rw [(possS_iff d b st.swap pi pj).mpr ⟨hin, u1, u2, huin, Or.inr ((freeS_iff d b st.swap u1 u2).mp huf).1, hcu⟩]
    rfl

/-- case 1: adding all free touches of both polarities at once keeps solid ∩ void = ∅ -/
theorem C25_free_preserves (d : Dims) (b : Brush) (hs : Sym b) (st : State) (hd : Disjoint d b st) :
    Disjoint d b (apply d st (.free (derive d b st).freeV (derive d b st).freeS)) := by
  rintro pi pj ⟨h1, h2⟩
  obtain ⟨hpin, t1, t2, ht, hc⟩ := (look_dil d b _ pi pj).mp h1
  obtain ⟨-, u1, u2, hu, hcu⟩ := (look_dil d b _ pi pj).mp h2
  obtain ⟨-, hts | htf⟩ := (look_addFree_s d b st t1 t2).mp ht
  · obtain ⟨-, huv | huf⟩ := (look_addFree_s d b st.swap u1 u2).mp hu
    · exact hd pi pj ⟨(look_dil d b _ pi pj).mpr ⟨hpin, t1, t2, hts, hc⟩, (look_dil d b _ pi pj).mpr ⟨hpin, u1, u2, huv, hcu⟩⟩
    · exact free_clash (st := st.swap) hs hpin huf hcu ht hc
  · exact free_clash hs hpin htf hc hu hcu

/-! ### one iteration, the whole loop -/

theorem eqT_iff (d : Dims) (x y : Tab) : eqT d x y = true ↔ ∀ i j, inb d i j = true → look x i j = look y i j := by
  unfold eqT
  rw [Bool.not_eq_true', Bool.eq_false_iff, Ne, anyCells_iff]
  simp only [not_exists, not_and, bne_iff_ne, ne_eq, not_not]

theorem eqT'_iff (d : Dims) (x y : Tab) :
    goodChoice.eqT' d x y = true ↔ ∀ i j, inb d i j = true → look x i j = look y i j :=
  eqT_iff d x y

theorem dil_orT_congr (d : Dims) (b : Brush) (x : Tab) {y z : Tab}
    (h : ∀ i j, inb d i j = true → look y i j = look z i j) : dil d b (orT d x y) = dil d b (orT d x z) :=
  dil_congr d b fun i j => by
    simp only [look_orT, Bool.and_eq_true]
    exact and_congr_right fun hin => by rw [h i j hin]

/-- **one iteration with a good choice preserves solid ∩ void = ∅** -/
theorem C25_step_preserves (d : Dims) (b : Brush) (hs : Sym b) (st : State) (ch : Choice)
    (hg : goodChoice d (derive d b st) ch = true) (hd : Disjoint d b st) : Disjoint d b (apply d st ch) := by
  cases ch with
  | free fv fs =>
    simp only [goodChoice, Bool.and_eq_true, eqT'_iff] at hg
    have := C25_free_preserves d b hs st hd
    unfold Disjoint at this ⊢
    simp only [apply] at this ⊢
    rwa [dil_orT_congr d b st.s hg.2, dil_orT_congr d b st.v hg.1]
  | single solid idx k =>
    cases solid <;> simp only [goodChoice, anyCells_iff, Bool.and_eq_true, decide_eq_true_eq] at hg <;>
      obtain ⟨i, j, -, rfl, hv⟩ := hg
    · exact C25_single_void_preserves d b hs st i j k hd hv
    · exact C25_single_solid_preserves d b hs st i j k hd hv

section loop
variable {α : Type} [LT α] [DecidableRel (α := α) (· < ·)]

/-- **the loop**: if every iteration made a good choice (`allGood`) then, from a state with solid ∩ void = ∅, the final
state has solid ∩ void = ∅ too, and when the loop ended through its exit condition every pixel is covered.  (That the
flag was `true` at an iteration is learnt only from the end of the run, hence the order of the hypotheses.) -/
theorem C25_run_invariant (d : Dims) (b : Brush) (hs : Sym b) (neg : α → α) (arr : Nat → α) :
    ∀ (fuel : Nat) (st : State) (n : Nat) (cs : List Nat) (g : Bool),
      (run d b neg arr fuel st n cs g).allGood = true →
      g = true ∧ (Disjoint d b st → Disjoint d b (run d b neg arr fuel st n cs g).st ∧
        ((run d b neg arr fuel st n cs g).status = "done" →
          uncovered d b (run d b neg arr fuel st n cs g).st = false)) := by
  intro fuel
  induction fuel with
  | zero =>
    intro st n cs g hg
    exact ⟨hg, fun hd => ⟨hd, fun h => absurd h (by decide : "fuel" ≠ "done")⟩⟩
  | succ fuel ih =>
    intro st n cs g
    simp only [run]
    cases hu : uncovered d b st
    · exact fun hg => ⟨hg, fun hd => ⟨hd, fun _ => hu⟩⟩
    · simp only [Bool.not_true, Bool.false_eq_true, if_false]
      split
      · intro hg
        simp only [Bool.and_eq_true] at hg
        exact ⟨hg.1, fun hd =>
          ⟨C25_step_preserves d b hs st _ hg.2 hd, fun h => absurd h (by decide : "stuck" ≠ "done")⟩⟩
      · intro hg
        obtain ⟨hgg, h⟩ := ih _ _ _ _ hg
        simp only [Bool.and_eq_true] at hgg
        exact ⟨hgg.1, fun hd => h (C25_step_preserves d b hs st _ hgg.2 hd)⟩

/-- in a state with solid ∩ void = ∅ and every pixel covered, the pixels that are not solid are the void ones -/
theorem void_iff_not_solid {d : Dims} {b : Brush} {st : State} (hdis : Disjoint d b st)
    (hcov : uncovered d b st = false) {qi qj : Nat} (hq : inb d qi qj = true) :
    look (dil d b st.s) qi qj = false ↔ ∃ ti tj, look st.v ti tj = true ∧ Cov b ti tj qi qj := by
  constructor
  · intro hf
    by_contra hv
    refine Bool.eq_false_iff.mp hcov ((anyCells_iff d _).mpr ⟨qi, qj, hq, ?_⟩)
    rw [hf, Bool.eq_false_iff.mpr fun h => hv ((look_dil d b _ qi qj).mp h).2]
    rfl
  · rintro ⟨ti, tj, ht, hc⟩
    exact Bool.eq_false_iff.mpr fun h => hdis qi qj ⟨h, (look_dil d b _ qi qj).mpr ⟨hq, ti, tj, ht, hc⟩⟩

/-- **C25, partial**: if the generator loop ends (`status = "done"`) and every iteration added valid touches only, the
output's solid region is the union of the in-domain footprints of the solid touches and its void region the union of the
in-domain footprints of the void touches.  In particular every solid (void) pixel lies in a brush placement whose
in-domain part is entirely solid (void): no feature is smaller than the brush. -/
theorem C25_generator_partial (d : Dims) (b : Brush) (hs : Sym b) (neg : α → α) (arr : Nat → α)
    (hgood : (generator d b neg arr).1.allGood = true) (hdone : (generator d b neg arr).1.status = "done")
    (pi pj : Nat) (hin : inb d pi pj = true) :
    let o := (generator d b neg arr).1
    let out := (generator d b neg arr).2
    (look out pi pj = true ↔ ∃ ti tj, look o.st.s ti tj = true ∧ Cov b ti tj pi pj) ∧
    (look out pi pj = false ↔ ∃ ti tj, look o.st.v ti tj = true ∧ Cov b ti tj pi pj) ∧
    (∀ ti tj, look o.st.s ti tj = true → ∀ qi qj, inb d qi qj = true → Cov b ti tj qi qj → look out qi qj = true) ∧
    (∀ ti tj, look o.st.v ti tj = true → ∀ qi qj, inb d qi qj = true → Cov b ti tj qi qj → look out qi qj = false) := by
  intro o out
  obtain ⟨hdis, hcov⟩ := (C25_run_invariant d b hs neg arr _ _ 0 [] true hgood).2 (disjoint_empty d b)
  have hvoid := fun {qi qj} => void_iff_not_solid (st := o.st) hdis (hcov hdone) (qi := qi) (qj := qj)
  have hout : out = dil d b o.st.s := rfl
  rw [hout]
  exact ⟨(look_dil d b _ pi pj).trans (and_iff_right hin), hvoid hin,
    fun ti tj ht qi qj hq hc => (look_dil d b _ qi qj).mpr ⟨hq, ti, tj, ht, hc⟩,
    fun ti tj ht qi qj hq hc => (hvoid hq).mpr ⟨ti, tj, ht, hc⟩⟩

end loop

/-! ### termination -/

/-- the loop invariant: touches in the domain, solid ∩ void = ∅, every pixel still possible for one polarity, required
pixels of at most one polarity -/
structure Inv (d : Dims) (b : Brush) (st : State) : Prop where
  bnd : Bnd d st
  disj : Disjoint d b st
  poss : Jinv d b st
  req : Iinv d b st

/-- the iteration added a touch -/
def Progress (d : Dims) (st st' : State) : Prop :=
  ∃ i j, inb d i j = true ∧ ((look st'.s i j = true ∧ look st.s i j = false) ∨ (look st'.v i j = true ∧ look st.v i j = false))

section
variable {d : Dims} {b : Brush} {st st' : State}

theorem Inv.swap (h : Inv d b st) : Inv d b st.swap := ⟨h.bnd.swap, h.disj.swap, h.poss.swap, h.req.swap⟩

theorem Progress.swap (h : Progress d st st') : Progress d st.swap st'.swap :=
  let ⟨i, j, hin, h⟩ := h
  ⟨i, j, hin, h.symm⟩

/-- what `apply` writes is cut to the domain -/
theorem bnd_apply (hb : Bnd d st) : ∀ ch, Bnd d (apply d st ch)
  | .free _ _ => ⟨fun _ _ => look_tab_inb, fun _ _ => look_tab_inb⟩
  | .single true _ _ => ⟨fun _ _ => look_tab_inb, hb.2⟩
  | .single false _ _ => ⟨hb.1, fun _ _ => look_tab_inb⟩

/-- what an iteration has to deliver: the touches chosen are valid, the invariant holds again, a touch was added -/
def StepOK (d : Dims) (b : Brush) (st : State) (ch : Choice) : Prop :=
  goodChoice d (derive d b st) ch = true ∧ Inv d b (apply d st ch) ∧ Progress d st (apply d st ch)

theorem stepOK_single_solid (hs : Sym b) (hinv : Inv d b st) {i j : Nat} (hv : look (derive d b st).validS i j = true)
    (hnr : ∀ x y, look (reqS d b st.swap) x y = false) (c : Nat) : StepOK d b st (.single true (i * d.w + j) c) := by
  obtain ⟨hin, -, hns⟩ := (validS_iff d b st i j).mp hv
  obtain ⟨hJ, hI⟩ := inv_addS hv c hinv.bnd hnr
  refine ⟨(anyCells_iff d _).mpr ⟨i, j, hin, by simp [hv]⟩,
    ⟨bnd_apply hinv.bnd _, C25_single_solid_preserves d b hs st i j c hinv.disj hv, hJ, hI⟩,
    i, j, hin, Or.inl ⟨?_, hns⟩⟩
  simp [apply, look_setIdx, hin]

end

section stepinv
variable {α : Type} [LT α] [DecidableRel (α := α) (· < ·)] {d : Dims} {b : Brush} {st : State}

/-- cases 2 and 3: the best touch over two masks of valid touches, where a solid (void) one is offered only while no
pixel is required void (solid) -/
theorem stepOK_best (hs : Sym b) (hinv : Inv d b st) (neg : α → α) (arr : Nat → α) (mS mV : Tab) (c : Nat)
    (hex : ∃ i j, inb d i j = true ∧ (look mS i j = true ∨ look mV i j = true))
    (hS : ∀ i j, look mS i j = true →
      look (derive d b st).validS i j = true ∧ ∀ x y, look (reqS d b st.swap) x y = false)
    (hV : ∀ i j, look mV i j = true → look (derive d b st).validV i j = true ∧ ∀ x y, look (reqS d b st) x y = false) :
    StepOK d b st (best d neg arr mS mV c) := by
  rcases best_spec d neg arr mS mV c hex with ⟨i, j, -, hm, he⟩ | ⟨i, j, -, hm, he⟩
  · rw [he]; exact stepOK_single_solid hs hinv (hS i j hm).1 (hS i j hm).2 c
  · -- the solid case at `st.swap`
    obtain ⟨hg, hi, hp⟩ := stepOK_single_solid hs hinv.swap (hV i j hm).1 (hV i j hm).2 c
    rw [he]
    simp only [StepOK, goodChoice] at hg ⊢
    exact ⟨hg, hi.swap, hp.swap⟩

/-- **one iteration from a state satisfying the invariant, with an uncovered pixel left**: the touches selected are valid
ones, a new touch is added, and the invariant holds again. -/
theorem C25_step_inv (d : Dims) (b : Brush) (hs : Sym b) (neg : α → α) (arr : Nat → α) (st : State)
    (hinv : Inv d b st) (hu : uncovered d b st = true) :
    goodChoice d (derive d b st) (choose d neg arr (derive d b st)) = true ∧
    Inv d b (apply d st (choose d neg arr (derive d b st))) ∧
    Progress d st (apply d st (choose d neg arr (derive d b st))) := by
  show StepOK d b st _
  unfold choose
  split
  · -- case 1
    rename_i hfree
    obtain ⟨i, j, hin, hf⟩ := (anyCells_iff d _).mp hfree
    obtain ⟨hJ, hI⟩ := inv_addFree hs hinv.bnd hinv.poss hinv.req
    refine ⟨?_, ⟨bnd_apply hinv.bnd _, C25_free_preserves d b hs st hinv.disj, hJ, hI⟩, i, j, hin,
      (Bool.or_eq_true_iff.mp hf).imp free_new (free_new (st := st.swap))⟩
    simp only [goodChoice, Bool.and_eq_true]
    exact ⟨(eqT'_iff d _ _).mpr fun _ _ _ => rfl, (eqT'_iff d _ _).mpr fun _ _ _ => rfl⟩
  · split
    · -- case 2: the polarity of the resolving touch is the only one with required pixels
      rename_i hres
      obtain ⟨i, j, hin, h⟩ := (anyCells_iff d _).mp hres
      exact stepOK_best hs hinv neg arr _ _ 2 ⟨i, j, hin, Bool.or_eq_true_iff.mp h⟩
        (fun _ _ => resS_spec hinv.req) (fun _ _ => resS_spec (st := st.swap) hinv.req.swap)
    · -- case 3: no resolving touch, so no pixel is required at all
      rename_i hres
      have hnone : ∀ i j, inb d i j = true →
          look (derive d b st).resS i j = false ∧ look (derive d b st).resV i j = false := fun i j hin =>
        Bool.or_eq_false_iff.mp (Bool.eq_false_iff.mpr fun h => hres ((anyCells_iff d _).mpr ⟨i, j, hin, h⟩))
      have hnoS := reqS_none hs hinv.poss fun i j hin => (hnone i j hin).1
      have hnoV := reqS_none (st := st.swap) hs hinv.poss.swap fun i j hin => (hnone i j hin).2
      exact stepOK_best hs hinv neg arr _ _ 3 (exists_valid_of_J hinv.poss hu)
        (fun _ _ hm => ⟨hm, hnoV⟩) (fun _ _ hm => ⟨hm, hnoS⟩)

end stepinv

/-! ### the measure: number of touches -/

def tbox (d : Dims) : Finset (Nat × Nat) := Finset.range d.h ×ˢ Finset.range d.w
def tcount (d : Dims) (t : Tab) : Nat := ((tbox d).filter fun c => look t c.1 c.2 = true).card
def cnt (d : Dims) (st : State) : Nat := tcount d st.s + tcount d st.v

theorem mem_tbox (d : Dims) (c : Nat × Nat) : c ∈ tbox d ↔ inb d c.1 c.2 = true := by
  simp [tbox, inb]

theorem tcount_le (d : Dims) (t : Tab) : tcount d t ≤ d.h * d.w := by
  unfold tcount
  refine (Finset.card_filter_le _ _).trans ?_
  simp [tbox]

/-- the count is monotone in the table, strictly when a position is gained -/
theorem tcount_mono (d : Dims) {x y : Tab} (h : ∀ i j, inb d i j = true → look x i j = true → look y i j = true) :
    tcount d x ≤ tcount d y ∧
      ∀ {i j}, inb d i j = true → look y i j = true → look x i j = false → tcount d x < tcount d y := by
  have hsub : ((tbox d).filter fun c => look x c.1 c.2 = true) ⊆ (tbox d).filter fun c => look y c.1 c.2 = true := by
    intro c hc
    simp only [Finset.mem_filter] at hc ⊢
    exact ⟨hc.1, h _ _ ((mem_tbox d c).mp hc.1) hc.2⟩
  refine ⟨Finset.card_le_card hsub, fun {i j} hin hy hx =>
    Finset.card_lt_card ((Finset.ssubset_iff_of_subset hsub).mpr ⟨(i, j), ?_, ?_⟩)⟩
  · exact Finset.mem_filter.mpr ⟨(mem_tbox d (i, j)).mpr hin, hy⟩
  · exact fun hc => Bool.eq_false_iff.mp hx (Finset.mem_filter.mp hc).2

theorem cnt_le (d : Dims) (st : State) : cnt d st ≤ 2 * d.h * d.w := by
  unfold cnt
  rw [Nat.mul_assoc, Nat.two_mul]
  exact Nat.add_le_add (tcount_le d st.s) (tcount_le d st.v)

theorem cnt_lt_of_progress (d : Dims) (st : State) (ch : Choice) (hp : Progress d st (apply d st ch)) :
    cnt d st < cnt d (apply d st ch) := by
  obtain ⟨i, j, hin, h⟩ := hp
  have gs := tcount_mono d fun a c hac => (C25_touches_grow d st ch a c hac).1
  have gv := tcount_mono d fun a c hac => (C25_touches_grow d st ch a c hac).2
  unfold cnt
  rcases h with ⟨h1, h2⟩ | ⟨h1, h2⟩
  · exact Nat.add_lt_add_of_lt_of_le (gs.2 hin h1 h2) gv.1
  · exact Nat.add_lt_add_of_le_of_lt gs.1 (gv.2 hin h1 h2)

theorem not_stuck {d : Dims} {st st' : State} (hp : Progress d st st') :
    (eqT d st.v st'.v && eqT d st.s st'.s) = false := by
  obtain ⟨i, j, hin, h⟩ := hp
  refine Bool.eq_false_iff.mpr fun hc => ?_
  simp only [Bool.and_eq_true, eqT_iff] at hc
  rcases h with ⟨h1, h2⟩ | ⟨h1, h2⟩
  · rw [← hc.2 i j hin, h2] at h1; exact nomatch h1
  · rw [← hc.1 i j hin, h2] at h1; exact nomatch h1

section termination
variable {α : Type} [LT α] [DecidableRel (α := α) (· < ·)]

/-- **the loop terminates**: from a state satisfying the invariant, with fuel exceeding the number of touches that can
still be added, the fuelled loop of the model ends through its exit condition (never "stuck", never out of fuel), and
every iteration selected valid touches. -/
theorem C25_run_terminates (d : Dims) (b : Brush) (hs : Sym b) (neg : α → α) (arr : Nat → α) :
    ∀ (fuel : Nat) (st : State) (n : Nat) (cs : List Nat), Inv d b st → 2 * d.h * d.w < fuel + cnt d st →
      (run d b neg arr fuel st n cs true).status = "done" ∧ (run d b neg arr fuel st n cs true).allGood = true := by
  intro fuel
  induction fuel with
  | zero =>
    intro st n cs _ hf
    have := cnt_le d st
    omega
  | succ fuel ih =>
    intro st n cs hinv hf
    simp only [run]
    cases hu : uncovered d b st
    · exact ⟨rfl, rfl⟩
    · obtain ⟨hgood, hinv', hprog⟩ := C25_step_inv d b hs neg arr st hinv hu
      have hlt := cnt_lt_of_progress d st _ hprog
      simp only [Bool.not_true, Bool.false_eq_true, if_false, not_stuck hprog, hgood, Bool.and_true]
      exact ih _ (n + 1) _ hinv' (by omega)

/-- the empty state satisfies the invariant when the brush contains its centre: every position is a valid touch of
either polarity and covers itself -/
theorem inv_empty (d : Dims) (b : Brush) (hc : look b.cells b.c b.c = true) :
    Inv d b ⟨tab d fun _ _ => false, tab d fun _ _ => false⟩ := by
  have hv : ∀ i j, inb d i j = true →
      look (derive d b ⟨tab d fun _ _ => false, tab d fun _ _ => false⟩).validS i j = true := fun i j hin =>
    (validS_iff d b _ i j).mpr ⟨hin,
      look_dil_false.mpr fun _ ti tj ht => (Bool.eq_false_iff.mp (look_dil_empty d b ti tj) ht).elim,
      by rw [look_tab, Bool.and_false]⟩
  have hp : ∀ i j, inb d i j = true →
      look (possS d b ⟨tab d fun _ _ => false, tab d fun _ _ => false⟩) i j = true := fun i j hin =>
    (possS_iff d b _ i j).mpr ⟨hin, i, j, hin, Or.inr (hv i j hin), cov_self b hc i j⟩
  exact ⟨⟨fun _ _ => look_tab_inb, fun _ _ => look_tab_inb⟩,
    disjoint_empty d b, fun i j hin => Or.inl (hp i j hin),
    Or.inl fun i j => Bool.eq_false_iff.mpr fun h =>
      have ⟨hin, _, h2⟩ := (reqS_iff d b _ i j).mp h
      Bool.eq_false_iff.mp h2 (hp i j hin)⟩

/-- **BrushConstraint2D's generator terminates on every design** (any design size, any values, any point-symmetric odd
brush containing its centre): the model's loop ends through its exit condition within its fuel `2·h·w + 2` — at most one
iteration per touch that can be added — and every iteration selected valid touches. -/
theorem C25_generator_terminates (d : Dims) (b : Brush) (hs : Sym b) (hc : look b.cells b.c b.c = true)
    (neg : α → α) (arr : Nat → α) :
    (generator d b neg arr).1.status = "done" ∧ (generator d b neg arr).1.allGood = true :=
  C25_run_terminates d b hs neg arr (2 * d.h * d.w + 2) _ 0 [] (inv_empty d b hc) (by omega)

/-- **C25, full statement for the model**: the generator terminates and returns a binary design whose solid region is the
union of the in-domain brush footprints of the solid touches and whose void region is the union of the in-domain footprints
of the void touches — every pixel of either region lies in a brush placement whose in-domain part is inside that region. -/
theorem C25_generator_spec (d : Dims) (b : Brush) (hs : Sym b) (hc : look b.cells b.c b.c = true)
    (neg : α → α) (arr : Nat → α) (pi pj : Nat) (hin : inb d pi pj = true) :
    let o := (generator d b neg arr).1
    let out := (generator d b neg arr).2
    o.status = "done" ∧
    (look out pi pj = true ↔ ∃ ti tj, look o.st.s ti tj = true ∧ Cov b ti tj pi pj) ∧
    (look out pi pj = false ↔ ∃ ti tj, look o.st.v ti tj = true ∧ Cov b ti tj pi pj) ∧
    (∀ ti tj, look o.st.s ti tj = true → ∀ qi qj, inb d qi qj = true → Cov b ti tj qi qj → look out qi qj = true) ∧
    (∀ ti tj, look o.st.v ti tj = true → ∀ qi qj, inb d qi qj = true → Cov b ti tj qi qj → look out qi qj = false) := by
  obtain ⟨hdone, hgood⟩ := C25_generator_terminates d b hs hc neg arr
  exact ⟨hdone, C25_generator_partial d b hs neg arr hgood hdone pi pj hin⟩

end termination

/-! ### circular_brush meets the hypotheses on the brush -/

theorem sym_tab (c : Nat) (f : Img) (hf : ∀ a bb, a ≤ 2 * c → bb ≤ 2 * c → f a bb = f (2 * c - a) (2 * c - bb)) :
    Sym ⟨c, tab ⟨2 * c + 1, 2 * c + 1⟩ f⟩ := by
  intro a bb ha hb
  show look (tab _ f) a bb = look (tab _ f) (2 * c - a) (2 * c - bb)
  rw [look_tab, look_tab, (inb_iff _ _ _).mpr ⟨ha, hb⟩,
    (inb_iff _ _ _).mpr ⟨Nat.lt_succ_of_le (Nat.sub_le _ _), Nat.lt_succ_of_le (Nat.sub_le _ _)⟩,
    hf a bb (Nat.le_of_lt_succ ha) (Nat.le_of_lt_succ hb)]

theorem centre_tab (c : Nat) (f : Img) (hf : f c c = true) : look (tab ⟨2 * c + 1, 2 * c + 1⟩ f) c c = true := by
  have hlt : c < 2 * c + 1 := by omega
  rw [look_tab, hf, (inb_iff _ _ _).mpr ⟨hlt, hlt⟩]
  rfl

theorem sqd_reflect (a c : Nat) (h : a ≤ 2 * c) : sqd (2 * c - a) c = sqd a c := by
  have e (x : Nat) : 2 * c - x - c = c - x := by rw [Nat.sub_right_comm, Nat.two_mul, Nat.add_sub_cancel]
  unfold sqd
  -- `c - (2c - a) = a - c` is `e` at `x = 2c - a`
  rw [e a, ← e (2 * c - a), Nat.sub_sub_self h, Nat.add_comm]

/-- **`circular_brush(p/q)` is odd-sized (by construction: size = 2c+1), point-symmetric and contains its centre**, for
every rational diameter — the hypotheses `Sym` and "odd size" of the theorems above are met by the brushes users build. -/
theorem C25_circularBrush_sym (p q : Nat) : Sym (circularBrush p q) :=
  sym_tab _ _ fun a bb ha hb => by rw [sqd_reflect a _ ha, sqd_reflect bb _ hb]

theorem C25_circularBrush_centre (p q : Nat) :
    look (circularBrush p q).cells (circularBrush p q).c (circularBrush p q).c = true :=
  centre_tab _ _ (by simp only [sqd, Nat.sub_self, Nat.mul_zero, Nat.add_zero, Nat.zero_le, decide_true])

/-! ### non-vacuity -/

/-- the 3×3 full brush (`circular_brush(3)`) is point-symmetric -/
def brush3 : Brush := ⟨1, tab ⟨3, 3⟩ fun _ _ => true⟩

theorem brush3_sym : Sym brush3 :=
  sym_tab 1 _ fun _ _ _ _ => rfl

/-- the hypotheses of `C25_generator_terminates` / `C25_generator_spec` are met by every `circular_brush`: corollary for
the brushes users actually build (any rational diameter p/q) -/
theorem C25_circular_generator_terminates {α : Type} [LT α] [DecidableRel (α := α) (· < ·)] (d : Dims) (p q : Nat)
    (neg : α → α) (arr : Nat → α) :
    (generator d (circularBrush p q) neg arr).1.status = "done" ∧
      (generator d (circularBrush p q) neg arr).1.allGood = true :=
  C25_generator_terminates d _ (C25_circularBrush_sym p q) (C25_circularBrush_centre p q) neg arr

/-- the invariant is satisfiable (empty state) and the termination theorem applies to a concrete run -/
example : Inv ⟨3, 5⟩ brush3 ⟨tab ⟨3, 5⟩ fun _ _ => false, tab ⟨3, 5⟩ fun _ _ => false⟩ := inv_empty _ _ (by decide)
example : (generator (α := Int) ⟨3, 5⟩ brush3 (fun x => -x) (fun n => if n % 5 < 2 then 9 else -5)).1.status = "done" :=
  (C25_generator_terminates _ _ brush3_sym (by decide) _ _).1

/-- a 3×5 design, +9 on the left two columns and -5 on the right: the loop ends after 6 iterations, every choice was
good, and the output is solid on three columns (the hypotheses of `C25_generator_partial` are satisfiable) -/
example :
    let g := generator (α := Int) ⟨3, 5⟩ brush3 (fun x => -x) (fun n => if n % 5 < 2 then 9 else -5)
    g.1.allGood = true ∧ g.1.status = "done" ∧ g.1.iters = 6 ∧
      look g.2 1 2 = true ∧ look g.2 1 3 = false := by decide +kernel

end Fdtdx.C25
