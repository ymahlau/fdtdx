/-
C09 — Periodic and Bloch domains match their supercells: tiling along x (y, z and the combinations: `FdtdxProps/C09Axes.lean`).

Theorems about the shared Yee model (`FdtdxModel/Yee.lean`), tiling operations in `FdtdxModel/C09.lean`.
For a wrap (periodic / Bloch) x axis of `n = cf.nx ≥ 1` cells without PEC/PMC walls, any tiling factor `m`, any per-copy
factors `w q` compatible with the ghost multipliers (`PhaseOK`), any shape / boundaries / metric on the other axes,
any tiled metric on x, isotropic or diagonal tiled materials with or without conductivities, tiled sources:
forward(supercell config, tile s) = tile(forward(base config, s)) on every cell of the supercell (`C09_tile_step`), also
after any number of steps (`C09_tile_steps`).  Instances: periodic (`C09_tile_periodic`: w = 1, all ghost multipliers 1) and
Bloch (`C09_tile_bloch`: w q = u^q, base multipliers u, u⁻¹, supercell multipliers u^m, (u^m)⁻¹, u ≠ 0).

The proofs are relational: an operation of the supercell applied to inputs that agree with a tiling on the cells of the
supercell gives an output that agrees with the tiled output of the base cell (`nextAx_rel`, `curlE_rel`, `stepE_rel`, …,
`forward_rel`), starting from the two line lemmas `next1_tile`, `prev1_tile`.  This contains both the tiling identity and
the locality of the step, and the same layer carries the any-tier step in `FdtdxProps/C09Aniso.lean`.  The only arithmetic
is quotient and remainder of `i + 1` inside a copy and at a seam (`succ_inner`, `succ_seam`).

As found (`AsFound.metricBwd_not_tiled`): the backward metric scale of tiled NON-uniform widths is not the tiled metric scale
(`_metric_scale` pads w[-1] := w[0] instead of wrapping), so the hypothesis "metric itself tiled" fails on the real code
for general non-uniform widths: known finding, see props/C09.findings.json.
-/
import FdtdxProps.C02
import FdtdxProps.C08
import FdtdxModel.C09Aniso
import Mathlib.Tactic.Ring
import Mathlib.Tactic.Linarith
import Mathlib.Tactic.NormNum

namespace Fdtdx.C09
open Fdtdx Fdtdx.Yee Fdtdx.YeeAniso Fdtdx.C02

/-! ### quotient and remainder of the neighbours of a cell -/

theorem divmod_of {n q r x : Nat} (hr : r < n) (e : x = n * q + r) : x % n = r ∧ x / n = q := by
  subst e
  exact ⟨by rw [Nat.mul_add_mod, Nat.mod_eq_of_lt hr],
    by rw [Nat.mul_add_div (by omega), Nat.div_eq_of_lt hr, Nat.add_zero]⟩

theorem succ_inner {n i : Nat} (h : i % n + 1 < n) : (i + 1) % n = i % n + 1 ∧ (i + 1) / n = i / n :=
  divmod_of h (by have := Nat.div_add_mod i n; omega)

/-- the right neighbour of the last cell of a copy is the first cell of the next copy -/
theorem succ_seam {n i : Nat} (h : i % n + 1 = n) : (i + 1) % n = 0 ∧ (i + 1) / n = i / n + 1 :=
  divmod_of (by omega) (by have := Nat.div_add_mod i n; rw [Nat.mul_add_one]; omega)

section
variable {K : Type} [Field K]

/-- compatibility of the per-copy factors `w` with the ghost multipliers of the base cell (`pp`, `pm`) and of the
supercell (`P`, `Q`) -/
structure PhaseOK (m : Nat) (w : Nat → K) (pp pm P Q : K) : Prop where
  up : ∀ q, q + 1 < m → w (q + 1) = pp * w q
  down : ∀ q, q + 1 < m → w q = pm * w (q + 1)
  outerR : P * w 0 = pp * w (m - 1)
  outerL : Q * w (m - 1) = pm * w 0

/-! ### one line -/

/-- **core lemma**: the right neighbour in a line `T` that agrees with the tiled line on the supercell is the right
neighbour in the base line, times the copy factor.  Inside a copy nothing happens; at the seam between two copies `up`
applies, at the outer wrap `outerR`. -/
theorem next1_tile (n m : Nat) (b bT : AxisBC K) (w g T : Nat → K) (i : Nat)
    (hn : 0 < n) (hi : i < m * n) (hwrap : b.wrap = true) (hwrapT : bT.wrap = true)
    (up : ∀ q, q + 1 < m → w (q + 1) = b.pp * w q) (outerR : bT.pp * w 0 = b.pp * w (m - 1))
    (hT : ∀ t, t < m * n → T t = g (t % n) * w (t / n)) :
    next1 (m * n) bT T i = next1 n b g (i % n) * w (i / n) := by
  have hq : i / n < m := (Nat.div_lt_iff_lt_mul hn).2 hi
  have hlt : i + 1 < m * n ↔ (i + 1) / n < m := (Nat.div_lt_iff_lt_mul hn).symm
  unfold next1
  by_cases h1 : i % n + 1 < n
  · obtain ⟨e1, e2⟩ := succ_inner h1
    have hl : i + 1 < m * n := hlt.2 (e2 ▸ hq)
    rw [if_pos hl, hT _ hl, e1, e2, if_pos h1]
  · obtain ⟨e1, e2⟩ := succ_seam (Nat.le_antisymm (Nat.mod_lt i hn) (Nat.le_of_not_lt h1))
    rw [e2] at hlt
    rw [if_neg h1, if_pos hwrap]
    by_cases hl : i + 1 < m * n
    · rw [if_pos hl, hT _ hl, e1, e2, up _ (hlt.1 hl)]; ring
    · rw [if_neg hl, if_pos hwrapT, hT 0 (Nat.zero_lt_of_lt hi), Nat.zero_mod, Nat.zero_div,
        Nat.eq_sub_of_add_eq (Nat.le_antisymm hq (Nat.le_of_not_lt fun h => hl (hlt.2 h)))]
      linear_combination g 0 * outerR

/-- **core lemma**: the left neighbour.  Cell 0 reads the last cell of copy `m - 1` through the outer wrap (`outerL`);
cell `i + 1` reads cell `i`, across a seam (`down`) when `i` is the last cell of its copy. -/
theorem prev1_tile (n m : Nat) (b bT : AxisBC K) (w g T : Nat → K) (i : Nat)
    (hn : 0 < n) (hi : i < m * n) (hwrap : b.wrap = true) (hwrapT : bT.wrap = true)
    (down : ∀ q, q + 1 < m → w q = b.pm * w (q + 1)) (outerL : bT.pm * w (m - 1) = b.pm * w 0)
    (hT : ∀ t, t < m * n → T t = g (t % n) * w (t / n)) :
    prev1 (m * n) bT T i = prev1 n b g (i % n) * w (i / n) := by
  unfold prev1
  rcases i with _ | i
  · obtain ⟨p, rfl⟩ : ∃ p, m = p + 1 :=
      Nat.exists_eq_add_one_of_ne_zero fun h0 => by rw [h0, Nat.zero_mul] at hi; exact Nat.lt_irrefl 0 hi
    have e : (p + 1) * n - 1 = n * p + (n - 1) := by rw [Nat.add_one_mul, Nat.add_sub_assoc hn, Nat.mul_comm]
    obtain ⟨e1, e2⟩ := divmod_of (Nat.sub_one_lt (Nat.ne_of_gt hn)) e
    rw [Nat.add_sub_cancel] at outerL
    rw [if_pos rfl, if_pos hwrapT, hT _ (Nat.sub_one_lt (Nat.ne_of_gt hi)), e1, e2, if_pos (Nat.zero_mod n), if_pos hwrap,
      Nat.zero_div]
    linear_combination g (n - 1) * outerL
  · have hq : (i + 1) / n < m := (Nat.div_lt_iff_lt_mul hn).2 hi
    rw [if_neg (Nat.succ_ne_zero i), Nat.add_sub_cancel, hT i (Nat.lt_of_succ_lt hi)]
    by_cases h1 : i % n + 1 < n
    · obtain ⟨e1, e2⟩ := succ_inner h1
      rw [e1, e2, if_neg (Nat.succ_ne_zero _), Nat.add_sub_cancel]
    · have hs : i % n + 1 = n := Nat.le_antisymm (Nat.mod_lt i hn) (Nat.le_of_not_lt h1)
      obtain ⟨e1, e2⟩ := succ_seam hs
      rw [e2] at hq
      rw [e1, e2, if_pos rfl, if_pos hwrap, down _ hq, Nat.eq_sub_of_add_eq hs]; ring

theorem next1_mul_right (N : Nat) (b : AxisBC K) (g : Nat → K) (c : K) (i : Nat) :
    next1 N b (fun t => g t * c) i = next1 N b g i * c := by
  simp only [next1, ite_mul, zero_mul, mul_right_comm]

theorem prev1_mul_right (N : Nat) (b : AxisBC K) (g : Nat → K) (c : K) (i : Nat) :
    prev1 N b (fun t => g t * c) i = prev1 N b g i * c := by
  simp only [prev1, ite_mul, zero_mul, mul_right_comm]

/-! ### agreement on the cells of the supercell -/

def AgreeF (N : Nat) (A B : F3 K) : Prop := ∀ i j k, i < N → A i j k = B i j k

def AgreeX (N : Nat) (A B : V3 K) : Prop :=
  ∀ i j k, i < N → A.x i j k = B.x i j k ∧ A.y i j k = B.y i j k ∧ A.z i j k = B.z i j k

omit [Field K] in
theorem agreeX_iff (N : Nat) (A B : V3 K) :
    AgreeX N A B ↔ AgreeF N A.x B.x ∧ AgreeF N A.y B.y ∧ AgreeF N A.z B.z :=
  ⟨fun h => ⟨fun i j k hi => (h i j k hi).1, fun i j k hi => (h i j k hi).2.1, fun i j k hi => (h i j k hi).2.2⟩,
   fun h i j k hi => ⟨h.1 i j k hi, h.2.1 i j k hi, h.2.2 i j k hi⟩⟩

omit [Field K] in
theorem agreeX_refl (N : Nat) (A : V3 K) : AgreeX N A A := fun _ _ _ _ => ⟨rfl, rfl, rfl⟩

/-- the hypotheses on the base configuration: x is a wrap axis of n ≥ 1 cells without walls -/
structure AxisOK (cf : Cfg K) : Prop where
  pos : 0 < cf.nx
  wrap : cf.bx.wrap = true
  pecLo : cf.bx.pecLo = false
  pecHi : cf.bx.pecHi = false
  pmcLo : cf.bx.pmcLo = false
  pmcHi : cf.bx.pmcHi = false

variable {cf : Cfg K} {m : Nat} {w : Nat → K} {P Q : K}

/-! ### sums, wall masks (no wall on x) and the cellwise material update commute with a tiling, whatever the factors -/

theorem addV_rel {N n : Nat} {A B V U : V3 K} (h1 : AgreeX N A (tileX n w V)) (h2 : AgreeX N B (tileX n w U)) :
    AgreeX N (addV A B) (tileX n w (addV V U)) := by
  intro i j k hi
  simp only [addV, h1 i j k hi, h2 i j k hi, tileX, add_mul, and_self]

theorem maskV_rel {N n : Nat} {mkT mk : Nat → Nat → Nat → Nat → Bool} (hmk : ∀ c i j k, mkT c i j k = mk c (i % n) j k)
    {A V : V3 K} (h : AgreeX N A (tileX n w V)) : AgreeX N (maskV mkT A) (tileX n w (maskV mk V)) := by
  intro i j k hi
  simp only [maskV, hmk, h i j k hi, tileX, ite_mul, zero_mul, and_self]

omit [Field K] in
theorem pecMask_tile (hax : AxisOK cf) (comp i j k : Nat) :
    pecMask (tileCfgX m P Q cf) comp i j k = pecMask cf comp (i % cf.nx) j k := by
  simp [pecMask, tileCfgX, onWall, hax.pecLo, hax.pecHi]

omit [Field K] in
theorem pmcMask_tile (hax : AxisOK cf) (comp i j k : Nat) :
    pmcMask (tileCfgX m P Q cf) comp i j k = pmcMask cf comp (i % cf.nx) j k := by
  simp [pmcMask, tileCfgX, onWall, hax.pmcLo, hax.pmcHi]

theorem updE1_scale (c eta0 e cu ie : K) (sig : Option K) (s : K) :
    updE1 c eta0 (e * s) (cu * s) ie sig = updE1 c eta0 e cu ie sig * s := by
  cases sig <;> simp only [updE1] <;> ring

theorem updH1_scale (c eta0 h cu im : K) (sig : Option K) (s : K) :
    updH1 c eta0 (h * s) (cu * s) im sig = updH1 c eta0 h cu im sig * s := by
  cases sig <;> simp only [updH1] <;> ring

omit [Field K] in
theorem optAt_retileX (n : Nat) (s : Option (V3 K)) (i j k : Nat) :
    optAt ((s.map (retileX n)).map (·.x)) i j k = optAt (s.map (·.x)) (i % n) j k
    ∧ optAt ((s.map (retileX n)).map (·.y)) i j k = optAt (s.map (·.y)) (i % n) j k
    ∧ optAt ((s.map (retileX n)).map (·.z)) i j k = optAt (s.map (·.z)) (i % n) j k := by
  cases s <;> exact ⟨rfl, rfl, rfl⟩

/-- the cellwise material update of either half step (`C08.cellwise`): it is homogeneous in (field, curl), the inverse
material and the conductivity are tiled without factor -/
theorem upd_rel {N n : Nat} (f : K → K → K → Option K → K) (hf : ∀ e cu ie sig s, f (e * s) (cu * s) ie sig = f e cu ie sig * s)
    (inv : V3 K) (sig : Option (V3 K)) {FT CT F C : V3 K} (hF : AgreeX N FT (tileX n w F)) (hC : AgreeX N CT (tileX n w C)) :
    AgreeX N (C08.cellwise f FT CT (retileX n inv) (sig.map (retileX n))) (tileX n w (C08.cellwise f F C inv sig)) := by
  intro i j k hi
  simp only [C08.cellwise, hF i j k hi, hC i j k hi, optAt_retileX n sig i j k, tileX, retileX, hf, and_self]

/-! ### halo access, curls and half steps of a supercell -/

theorem curlE_nextAx (cf : Cfg K) (E : V3 K) : curlE cf E =
    { x := fun i j k => (nextAx cf 1 E.z i j k - E.z i j k) * cf.sfy j - (nextAx cf 2 E.y i j k - E.y i j k) * cf.sfz k
      y := fun i j k => (nextAx cf 2 E.x i j k - E.x i j k) * cf.sfz k - (nextAx cf 0 E.z i j k - E.z i j k) * cf.sfx i
      z := fun i j k => (nextAx cf 0 E.y i j k - E.y i j k) * cf.sfx i - (nextAx cf 1 E.x i j k - E.x i j k) * cf.sfy j } :=
  rfl

theorem curlH_prevAx (cf : Cfg K) (H : V3 K) : curlH cf H =
    { x := fun i j k => (H.z i j k - prevAx cf 1 H.z i j k) * cf.sby j - (H.y i j k - prevAx cf 2 H.y i j k) * cf.sbz k
      y := fun i j k => (H.x i j k - prevAx cf 2 H.x i j k) * cf.sbz k - (H.z i j k - prevAx cf 0 H.z i j k) * cf.sbx i
      z := fun i j k => (H.y i j k - prevAx cf 0 H.y i j k) * cf.sbx i - (H.x i j k - prevAx cf 1 H.x i j k) * cf.sby j } :=
  rfl

section
variable (hax : AxisOK cf) (hp : PhaseOK m w cf.bx.pp cf.bx.pm P Q)
include hax hp

/-- an array that agrees with a tiling has a shifted array that agrees with the tiled shifted array: along x this is
`next1_tile`; along y and z the line lies in one copy, whose factor is a constant of the line -/
theorem nextAx_rel (ax : Nat) {A S : F3 K}
    (h : AgreeF (m * cf.nx) A (tileF cf.nx w S)) :
    AgreeF (m * cf.nx) (nextAx (tileCfgX m P Q cf) ax A) (tileF cf.nx w (nextAx cf ax S)) := by
  intro i j k hi
  match ax with
  | 0 =>
    exact next1_tile cf.nx m cf.bx (tileCfgX m P Q cf).bx w (fun t => S t j k) (fun t => A t j k) i hax.pos hi
      hax.wrap hax.wrap hp.up hp.outerR (fun t ht => h t j k ht)
  | 1 =>
    exact (congrArg (next1 cf.ny cf.by_ · j) (funext fun j' => h i j' k hi)).trans
      (next1_mul_right cf.ny cf.by_ (fun j' => S (i % cf.nx) j' k) (w (i / cf.nx)) j)
  | _ + 2 =>
    exact (congrArg (next1 cf.nz cf.bz · k) (funext fun k' => h i j k' hi)).trans
      (next1_mul_right cf.nz cf.bz (fun k' => S (i % cf.nx) j k') (w (i / cf.nx)) k)

theorem prevAx_rel (ax : Nat) {A S : F3 K}
    (h : AgreeF (m * cf.nx) A (tileF cf.nx w S)) :
    AgreeF (m * cf.nx) (prevAx (tileCfgX m P Q cf) ax A) (tileF cf.nx w (prevAx cf ax S)) := by
  intro i j k hi
  match ax with
  | 0 =>
    exact prev1_tile cf.nx m cf.bx (tileCfgX m P Q cf).bx w (fun t => S t j k) (fun t => A t j k) i hax.pos hi
      hax.wrap hax.wrap hp.down hp.outerL (fun t ht => h t j k ht)
  | 1 =>
    exact (congrArg (prev1 cf.ny cf.by_ · j) (funext fun j' => h i j' k hi)).trans
      (prev1_mul_right cf.ny cf.by_ (fun j' => S (i % cf.nx) j' k) (w (i / cf.nx)) j)
  | _ + 2 =>
    exact (congrArg (prev1 cf.nz cf.bz · k) (funext fun k' => h i j k' hi)).trans
      (prev1_mul_right cf.nz cf.bz (fun k' => S (i % cf.nx) j k') (w (i / cf.nx)) k)

theorem curlE_rel {A V : V3 K} (h : AgreeX (m * cf.nx) A (tileX cf.nx w V)) :
    AgreeX (m * cf.nx) (curlE (tileCfgX m P Q cf) A) (tileX cf.nx w (curlE cf V)) := by
  obtain ⟨hx, hy, hz⟩ := (agreeX_iff _ _ _).1 h
  intro i j k hi
  have nxt := fun ax {B S : F3 K} (hB : AgreeF (m * cf.nx) B (tileF cf.nx w S)) => nextAx_rel hax hp ax hB i j k hi
  simp only [curlE_nextAx, tileX, nxt 0 hy, nxt 0 hz, nxt 1 hx, nxt 1 hz, nxt 2 hx, nxt 2 hy, h i j k hi]
  simp only [tileF, tileCfgX]
  exact ⟨by ring, by ring, by ring⟩

theorem curlH_rel {A V : V3 K} (h : AgreeX (m * cf.nx) A (tileX cf.nx w V)) :
    AgreeX (m * cf.nx) (curlH (tileCfgX m P Q cf) A) (tileX cf.nx w (curlH cf V)) := by
  obtain ⟨hx, hy, hz⟩ := (agreeX_iff _ _ _).1 h
  intro i j k hi
  have prv := fun ax {B S : F3 K} (hB : AgreeF (m * cf.nx) B (tileF cf.nx w S)) => prevAx_rel hax hp ax hB i j k hi
  simp only [curlH_prevAx, tileX, prv 0 hy, prv 0 hz, prv 1 hx, prv 1 hz, prv 2 hx, prv 2 hy, h i j k hi]
  simp only [tileF, tileCfgX]
  exact ⟨by ring, by ring, by ring⟩

theorem stepE_rel (mt : Mat K) (jE : V3 K) {ET HT E H : V3 K}
    (hE : AgreeX (m * cf.nx) ET (tileX cf.nx w E)) (hH : AgreeX (m * cf.nx) HT (tileX cf.nx w H)) :
    AgreeX (m * cf.nx) (stepE (tileCfgX m P Q cf) (tileMatX cf.nx mt) (tileX cf.nx w jE) ET HT)
      (tileX cf.nx w (stepE cf mt jE E H)) :=
  maskV_rel (pecMask_tile hax)
    (addV_rel (upd_rel (updE1 cf.c cf.eta0) (updE1_scale cf.c cf.eta0) mt.invEps mt.sigE hE (curlH_rel hax hp hH))
      (agreeX_refl _ _))

theorem stepH_rel (mt : Mat K) (jH : V3 K) {ET HT E H : V3 K}
    (hE : AgreeX (m * cf.nx) ET (tileX cf.nx w E)) (hH : AgreeX (m * cf.nx) HT (tileX cf.nx w H)) :
    AgreeX (m * cf.nx) (stepH (tileCfgX m P Q cf) (tileMatX cf.nx mt) (tileX cf.nx w jH) ET HT)
      (tileX cf.nx w (stepH cf mt jH E H)) :=
  maskV_rel (pmcMask_tile hax)
    (addV_rel (upd_rel (updH1 cf.c cf.eta0) (updH1_scale cf.c cf.eta0) mt.invMu mt.sigH hH (curlE_rel hax hp hE))
      (agreeX_refl _ _))

theorem forward_rel (mt : Mat K) (jE jH : V3 K) {ET HT E H : V3 K}
    (hE : AgreeX (m * cf.nx) ET (tileX cf.nx w E)) (hH : AgreeX (m * cf.nx) HT (tileX cf.nx w H)) :
    AgreeX (m * cf.nx)
        (forward (tileCfgX m P Q cf) (tileMatX cf.nx mt) (tileX cf.nx w jE) (tileX cf.nx w jH) ET HT).1
        (tileX cf.nx w (forward cf mt jE jH E H).1)
    ∧ AgreeX (m * cf.nx)
        (forward (tileCfgX m P Q cf) (tileMatX cf.nx mt) (tileX cf.nx w jE) (tileX cf.nx w jH) ET HT).2
        (tileX cf.nx w (forward cf mt jE jH E H).2) :=
  have h1 := stepE_rel hax hp mt jE hE hH
  ⟨h1, stepH_rel hax hp mt jH h1 hH⟩

end

end

section
variable {K : Type} [Field K] (cf : Cfg K) (m : Nat) (w : Nat → K) (P Q : K)

/-- **C09_tile_step**: one time step of the supercell started from the tiled state (tiled materials, tiled sources,
per-copy factors `w`) is the tiled time step of the base cell, on every cell of the supercell. -/
theorem C09_tile_step (hax : AxisOK cf) (hp : PhaseOK m w cf.bx.pp cf.bx.pm P Q) (hm : 0 < m) (mt : Mat K)
    (jE jH E H : V3 K) :
    AgreeX (m * cf.nx)
        (forward (tileCfgX m P Q cf) (tileMatX cf.nx mt) (tileX cf.nx w jE) (tileX cf.nx w jH) (tileX cf.nx w E) (tileX cf.nx w H)).1
        (tileX cf.nx w (forward cf mt jE jH E H).1)
    ∧ AgreeX (m * cf.nx)
        (forward (tileCfgX m P Q cf) (tileMatX cf.nx mt) (tileX cf.nx w jE) (tileX cf.nx w jH) (tileX cf.nx w E) (tileX cf.nx w H)).2
        (tileX cf.nx w (forward cf mt jE jH E H).2) :=
  forward_rel hax hp mt jE jH (agreeX_refl _ _) (agreeX_refl _ _)

/-- **C09_tile_steps**: any number of steps (step-indexed tiled sources) -/
theorem C09_tile_steps (hax : AxisOK cf) (hp : PhaseOK m w cf.bx.pp cf.bx.pm P Q) (hm : 0 < m) (mt : Mat K)
    (jE jH : Nat → V3 K) (t s : Nat) (E H : V3 K) :
    AgreeX (m * cf.nx)
        (fwdN (tileCfgX m P Q cf) (tileMatX cf.nx mt) (fun u => tileX cf.nx w (jE u)) (fun u => tileX cf.nx w (jH u)) t s
          (tileX cf.nx w E, tileX cf.nx w H)).1
        (tileX cf.nx w (fwdN cf mt jE jH t s (E, H)).1)
    ∧ AgreeX (m * cf.nx)
        (fwdN (tileCfgX m P Q cf) (tileMatX cf.nx mt) (fun u => tileX cf.nx w (jE u)) (fun u => tileX cf.nx w (jH u)) t s
          (tileX cf.nx w E, tileX cf.nx w H)).2
        (tileX cf.nx w (fwdN cf mt jE jH t s (E, H)).2) := by
  induction s with
  | zero => exact ⟨agreeX_refl _ _, agreeX_refl _ _⟩
  | succ s ih => exact forward_rel hax hp mt (jE (t + s)) (jH (t + s)) ih.1 ih.2

theorem phaseOK_periodic (m : Nat) : PhaseOK m (fun _ => (1 : K)) 1 1 1 1 := by
  constructor <;> intros <;> simp

theorem tileX_one (n : Nat) (V : V3 K) : tileX n (fun _ => (1 : K)) V = retileX n V := by
  apply V3.ext' <;> intro i j k <;> simp [tileX, retileX]

/-- **C09_tile_periodic**: a periodic x axis (ghost multipliers 1): the m-fold supercell started from the plainly
tiled state evolves as the plainly tiled base cell — every cell, every number of steps. -/
theorem C09_tile_periodic (hax : AxisOK cf) (hpp : cf.bx.pp = 1) (hpm : cf.bx.pm = 1) (hm : 0 < m) (mt : Mat K)
    (jE jH : Nat → V3 K) (t s : Nat) (E H : V3 K) (i j k : Nat) (hi : i < m * cf.nx) :
    let S := fwdN (tileCfgX m 1 1 cf) (tileMatX cf.nx mt) (fun u => retileX cf.nx (jE u)) (fun u => retileX cf.nx (jH u)) t s
          (retileX cf.nx E, retileX cf.nx H)
    let B := fwdN cf mt jE jH t s (E, H)
    S.1.x i j k = B.1.x (i % cf.nx) j k ∧ S.1.y i j k = B.1.y (i % cf.nx) j k ∧ S.1.z i j k = B.1.z (i % cf.nx) j k
    ∧ S.2.x i j k = B.2.x (i % cf.nx) j k ∧ S.2.y i j k = B.2.y (i % cf.nx) j k ∧ S.2.z i j k = B.2.z (i % cf.nx) j k := by
  intro S B
  have hp : PhaseOK m (fun _ => (1 : K)) cf.bx.pp cf.bx.pm 1 1 := by rw [hpp, hpm]; exact phaseOK_periodic m
  obtain ⟨h1, h2⟩ := C09_tile_steps cf m (fun _ => (1 : K)) 1 1 hax hp hm mt jE jH t s E H
  simp only [tileX_one] at h1 h2
  obtain ⟨a1, a2, a3⟩ := h1 i j k hi
  obtain ⟨b1, b2, b3⟩ := h2 i j k hi
  exact ⟨a1, a2, a3, b1, b2, b3⟩

theorem phaseOK_bloch (m : Nat) (hm : 0 < m) (u : K) (hu : u ≠ 0) :
    PhaseOK m (fun q => u ^ q) u u⁻¹ (u ^ m) (u ^ m)⁻¹ := by
  obtain ⟨p, rfl⟩ : ∃ p, m = p + 1 := ⟨m - 1, by omega⟩
  have hdown : ∀ q, u ^ q = u⁻¹ * u ^ (q + 1) := fun q => by rw [pow_succ', inv_mul_cancel_left₀ hu]
  refine ⟨fun q _ => pow_succ' u q, fun q _ => hdown q, ?_, ?_⟩
  · rw [pow_zero, mul_one, Nat.add_sub_cancel, pow_succ']
  · rw [pow_zero, mul_one, Nat.add_sub_cancel, pow_succ', mul_inv, inv_mul_cancel_right₀ (pow_ne_zero p hu)]

/-- **C09_tile_bloch**: a Bloch x axis with phase `u` per period (right ghost × u, left ghost × u⁻¹): the m-fold
supercell with ghost multipliers `u^m`, `(u^m)⁻¹`, started from the state whose copy q is the base state times `u^q`,
evolves as that phased tiling of the base cell. -/
theorem C09_tile_bloch (hax : AxisOK cf) (u : K) (hu : u ≠ 0) (hpp : cf.bx.pp = u) (hpm : cf.bx.pm = u⁻¹) (hm : 0 < m)
    (mt : Mat K) (jE jH : Nat → V3 K) (t s : Nat) (E H : V3 K) :
    let ph : Nat → K := fun q => u ^ q
    AgreeX (m * cf.nx)
        (fwdN (tileCfgX m (u ^ m) (u ^ m)⁻¹ cf) (tileMatX cf.nx mt) (fun v => tileX cf.nx ph (jE v)) (fun v => tileX cf.nx ph (jH v)) t s
          (tileX cf.nx ph E, tileX cf.nx ph H)).1
        (tileX cf.nx ph (fwdN cf mt jE jH t s (E, H)).1)
    ∧ AgreeX (m * cf.nx)
        (fwdN (tileCfgX m (u ^ m) (u ^ m)⁻¹ cf) (tileMatX cf.nx mt) (fun v => tileX cf.nx ph (jE v)) (fun v => tileX cf.nx ph (jH v)) t s
          (tileX cf.nx ph E, tileX cf.nx ph H)).2
        (tileX cf.nx ph (fwdN cf mt jE jH t s (E, H)).2) := by
  intro ph
  have hp : PhaseOK m ph cf.bx.pp cf.bx.pm (u ^ m) (u ^ m)⁻¹ := by rw [hpp, hpm]; exact phaseOK_bloch m hm u hu
  exact C09_tile_steps cf m ph _ _ hax hp hm mt jE jH t s E H

end

/-! ### as found: the backward metric scale of tiled non-uniform widths is not tiled -/
namespace AsFound
/-- base widths (1, 2) tiled twice = (1, 2, 1, 2): at the seam cell 2 the dual width is (1 + 2)/2, but the base
cell 0 uses (1 + 1)/2 because `_metric_scale` pads `w[-1] := w[0]` — so `metricBwd` of the tiled widths is not
the tiled `metricBwd`, and the supercell is not equivalent to the base cell on such a grid. -/
theorem metricBwd_not_tiled :
    metricBwd (1 : ℚ) (fun i => if i % 2 = 0 then 1 else 2) 2 ≠ metricBwd (1 : ℚ) (fun i => if i % 2 = 0 then 1 else 2) (2 % 2) := by
  norm_num [metricBwd]

/-- with seam-symmetric widths (w[0] = w[n−1]) the backward scale IS tiled (here n = 3, widths 1,2,1) -/
example : ∀ i < 6, metricBwd (1 : ℚ) (fun i => if i % 3 = 1 then 2 else 1) i
    = metricBwd (1 : ℚ) (fun i => if i % 3 = 1 then 2 else 1) (i % 3) := by
  decide +kernel
end AsFound

/-! ### non-vacuity: C01's concrete configuration is periodic in x without walls, so `AxisOK` and the multiplier
hypotheses are satisfiable; and the Bloch relations hold for the non-trivial phase u = 2 over ℚ. -/
example : AxisOK C01.exCfg ∧ C01.exCfg.bx.pp = 1 ∧ C01.exCfg.bx.pm = 1 := by
  refine ⟨⟨by decide, rfl, rfl, rfl, rfl, rfl⟩, rfl, rfl⟩
example : PhaseOK 3 (fun q => (2 : ℚ) ^ q) 2 2⁻¹ (2 ^ 3) (2 ^ 3)⁻¹ := phaseOK_bloch 3 (by decide) 2 (by norm_num)

end Fdtdx.C09
