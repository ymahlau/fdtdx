/-
C21 — Design symmetry transforms produce symmetric designs.

Theorems about `FdtdxModel/C21.lean` for every shape, every array over any field of characteristic ≠ 2 and every
transform/option combination that the code accepts (`resolve … = .ok op`).  Each of the 13 index maps sends the index
box into itself and is an involution on it (transpositions: under the squareness that `resolve` enforces); the
`C21_*` theorems are then the generic facts about averaging with an involution of a finite set (`FdtdxLemmas/C21.lean`);
the `resolve_*` theorems say which index map each transform uses for each position of the singleton axis.
-/
import FdtdxModel.C21
import FdtdxLemmas.C21
import Mathlib.Data.Finset.Prod
import Mathlib.Tactic.Ring

namespace Fdtdx.C21
open AvgInvol

/-- the index set of an array of shape `s` -/
def box (s : Shape) : Finset Idx := Finset.range s.1 ×ˢ Finset.range s.2.1 ×ˢ Finset.range s.2.2

theorem mem_box {s : Shape} {i : Idx} : i ∈ box s ↔ i.1 < s.1 ∧ i.2.1 < s.2.1 ∧ i.2.2 < s.2.2 := by
  simp [box]

theorem card_box (s : Shape) : (box s).card = s.1 * (s.2.1 * s.2.2) := by simp [box]

theorem flip_lt {n a : Nat} (h : a < n) : n - 1 - a < n := by omega

theorem flip_flip {n a : Nat} (h : a < n) : n - 1 - (n - 1 - a) = a := by omega

/- each index map is, per coordinate, the identity or `a ↦ n - 1 - a`, possibly after exchanging two axes of equal
length (`valid`): `flip_lt` and `flip_flip` are all the arithmetic there is -/
theorem sigma_spec {s : Shape} {op : Op} (hv : valid s op = true) {i : Idx} (hi : i ∈ box s) :
    sigma s op i ∈ box s ∧ sigma s op (sigma s op i) = i := by
  obtain ⟨n0, n1, n2⟩ := s
  obtain ⟨a, b, c⟩ := i
  have ⟨ha, hb, hc⟩ : a < n0 ∧ b < n1 ∧ c < n2 := mem_box.mp hi
  cases op <;> simp only [valid, beq_iff_eq] at hv <;> (try subst hv) <;>
    simp only [sigma, mem_box, flip_lt, flip_flip ha, flip_flip hb, flip_flip hc, ha, hb, hc, and_self]

theorem sigma_mem {s : Shape} {op : Op} (hv : valid s op = true) {i : Idx} (hi : i ∈ box s) :
    sigma s op i ∈ box s :=
  (sigma_spec hv hi).1

theorem sigma_invol {s : Shape} {op : Op} (hv : valid s op = true) {i : Idx} (hi : i ∈ box s) :
    sigma s op (sigma s op i) = i :=
  (sigma_spec hv hi).2

theorem apply_eq_avg {K : Type} [Field K] (s : Shape) (op : Op) (v : Idx → K) :
    apply s op v = avg (sigma s op) v := rfl

/-- a successful `resolve` returns an index map that is valid for the shape: square where a transposition is involved -/
theorem resolve_valid {name opt : String} {mm : Bool} {s : Shape} {op : Op}
    (h : resolve name opt mm s = .ok op) : valid s op = true := by
  unfold resolve at h
  split at h
  · split at h
    · next hv => cases h; exact hv
    · cases h
  · cases h

section field
variable {K : Type} [Field K] (h2 : (2 : K) ≠ 0)
variable {s : Shape} {op : Op} (hv : valid s op = true)

include hv in
/-- C21_invariant: the output is exactly invariant under the transform's index map. -/
theorem C21_invariant (v : Idx → K) {i : Idx} (hi : i ∈ box s) :
    apply s op v (sigma s op i) = apply s op v i :=
  avg_invariant v (sigma_invol hv hi)

include h2 in
/-- C21_fixed: where the input already agrees with its mirror image the output equals the input. -/
theorem C21_fixed {v : Idx → K} {i : Idx} (hsym : v (sigma s op i) = v i) : apply s op v i = v i :=
  avg_fixed h2 hsym

include h2 hv in
theorem C21_idempotent (v : Idx → K) {i : Idx} (hi : i ∈ box s) :
    apply s op (apply s op v) i = apply s op v i :=
  avg_idem h2 v (sigma_invol hv hi)

include h2 hv in
/-- C21_sum: the sum over the array is preserved -/
theorem C21_sum (v : Idx → K) : ∑ i ∈ box s, apply s op v i = ∑ i ∈ box s, v i :=
  avg_sum h2 (fun _ h => sigma_mem hv h) (fun _ h => sigma_invol hv h) v

include h2 hv in
/-- C21_mean: … hence the mean -/
theorem C21_mean (v : Idx → K) :
    (∑ i ∈ box s, apply s op v i) / ((box s).card : K) = (∑ i ∈ box s, v i) / ((box s).card : K) := by
  rw [C21_sum h2 hv]

include h2 in
/-- the fixed points of the transform are exactly the arrays invariant under the index map -/
theorem C21_invariant_iff_fixed (v : Idx → K) (i : Idx) : apply s op v i = v i ↔ v (sigma s op i) = v i :=
  invariant_iff_fixed h2 v i

end field

/-- C21_transform: all four facts for every call the implementation accepts. -/
theorem C21_transform {K : Type} [Field K] (h2 : (2 : K) ≠ 0) {name opt : String} {mm : Bool} {s : Shape} {op : Op}
    (h : resolve name opt mm s = .ok op) (v : Idx → K) :
    (∀ i ∈ box s, apply s op v (sigma s op i) = apply s op v i) ∧
    (∀ i ∈ box s, apply s op (apply s op v) i = apply s op v i) ∧
    ((∀ i ∈ box s, v (sigma s op i) = v i) → ∀ i ∈ box s, apply s op v i = v i) ∧
    ∑ i ∈ box s, apply s op v i = ∑ i ∈ box s, v i :=
  have hv := resolve_valid h
  ⟨fun _ hi => C21_invariant hv v hi, fun _ hi => C21_idempotent h2 hv v hi,
   fun hs i hi => C21_fixed h2 (hs i hi), C21_sum h2 hv v⟩

/-! ### which index map each transform uses (the 2-D ones for every position of the singleton axis) -/

theorem resolve_horizontal2d (n m : Nat) (hn : n ≠ 1) (hm : m ≠ 1) :
    resolve "horizontal2d" "-" true (1, n, m) = .ok .flip1 ∧
    resolve "horizontal2d" "-" true (n, 1, m) = .ok .flip0 ∧
    resolve "horizontal2d" "-" true (n, m, 1) = .ok .flip0 := by
  simp [resolve, pick, verticalAxis, valid, hn, hm]

theorem resolve_vertical2d (n m : Nat) (hn : n ≠ 1) (hm : m ≠ 1) :
    resolve "vertical2d" "-" true (1, n, m) = .ok .flip2 ∧
    resolve "vertical2d" "-" true (n, 1, m) = .ok .flip2 ∧
    resolve "vertical2d" "-" true (n, m, 1) = .ok .flip1 := by
  simp [resolve, pick, verticalAxis, valid, hn, hm]

theorem resolve_point2d (n m : Nat) (hn : n ≠ 1) (hm : m ≠ 1) :
    resolve "point2d" "-" true (1, n, m) = .ok .flip12 ∧
    resolve "point2d" "-" true (n, 1, m) = .ok .flip02 ∧
    resolve "point2d" "-" true (n, m, 1) = .ok .flip01 := by
  simp [resolve, pick, verticalAxis, valid, hn, hm]

theorem resolve_diagonal2d (n : Nat) (hn : n ≠ 1) (mm : Bool) :
    resolve "diagonal2d" "-" mm (1, n, n) = .ok (if mm then .swap12 else .anti12) ∧
    resolve "diagonal2d" "-" mm (n, 1, n) = .ok (if mm then .swap02 else .anti02) ∧
    resolve "diagonal2d" "-" mm (n, n, 1) = .ok (if mm then .swap01 else .anti01) := by
  cases mm <;> simp [resolve, pick, verticalAxis, valid, hn]

theorem resolve_3d (s : Shape) :
    resolve "horizontal3d" "x" true s = .ok .flip0 ∧ resolve "horizontal3d" "y" true s = .ok .flip1 ∧
    resolve "vertical3d" "-" true s = .ok .flip2 ∧ resolve "point3d" "-" true s = .ok .flip012 := by
  simp [resolve, pick, valid]

theorem resolve_diagonal3d (n k : Nat) (mm : Bool) :
    resolve "diagonal3d" "xy" mm (n, n, k) = .ok (if mm then .swap01 else .anti01) ∧
    resolve "diagonal3d" "xz" mm (n, k, n) = .ok (if mm then .swap02 else .anti02) ∧
    resolve "diagonal3d" "yz" mm (k, n, n) = .ok (if mm then .swap12 else .anti12) := by
  cases mm <;> simp [resolve, pick, valid]

/-- a transposition of a non-square pair of axes is refused (the implementation raises on `v + other`) -/
theorem resolve_nonsquare (n m k : Nat) (h : n ≠ m) (mm : Bool) :
    resolve "diagonal3d" "xy" mm (n, m, k) = .error "shape-mismatch" := by
  cases mm <;> simp [resolve, pick, valid, h]

-- non-vacuity: concrete accepted calls, a non-symmetric input, and what the transform does to it
example : resolve "diagonal2d" "-" false (3, 1, 3) = .ok .anti02 := by decide
example : valid (3, 1, 3) .anti02 = true ∧ valid (2, 3, 1) .swap01 = false := by decide
example : sigma (3, 1, 3) .anti02 (0, 0, 1) = (1, 0, 2) := by decide
example : ((0, 0, 1) : Idx) ∈ box (3, 1, 3) := by decide
example : (2 : ℚ) ≠ 0 := by norm_num
example : apply (2, 1, 2) .flip0 (fun i : Idx => ((i.1 + 2 * i.2.2 : Nat) : ℚ)) (0, 0, 1) = 5 / 2 := by
  decide +kernel

end Fdtdx.C21
