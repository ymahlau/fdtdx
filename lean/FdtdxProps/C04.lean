/-
C04 — Time-reversal gradients equal exact autodiff gradients.

Theorems about `FdtdxModel/C04.lean` (the custom-VJP loop of `reversible_fdtd` after the `fix:` commit), for every
number of time steps `T`, every abstract system (state, parameter and cotangent types, step `f`, reverse step `g`,
per-step VJP halves Aᵀ = `vjpS`, Bᵀ = `vjpP`), every incoming cotangent and every list of checkpoints.

The reverse loop is its body executed `T` times (`fdtdBwd_eq_iterate`; never stopped by the model's fuel), so the
per-step VJP is taken at [T-1, …, 0] (`reverse_schedule`).  General form of the gradient equality (`C04_vjp_equal_traj`):
w.r.t. an agreement relation on states (reconstructed ≈ true) and a projection π of parameter cotangents (cells at
which the gradient is claimed) satisfying `HypTraj` — the hypotheses at the states of the true forward trajectory, what a
concrete solver step can discharge (C04Yee.lean, C04Aniso.lean) — the reversible gradient equals the exact reverse-mode
gradient under π.  `C04_vjp_equal_on` asks the hypotheses at all states (`Hyp`; `agree` = "fields agree outside the
absorbing layers", π = "restrict to cells outside them" is the PML reading); `C04_vjp_equal` is the case of an exact
inverse; `C04_vjp_equal_fields` the form that matches the code: `backward(record_detectors=False)` reconstructs only
the `fields` member and the VJP data depend on the state only through it.  `C04_end_to_end(_traj, _on)` add the rest of
the `jax.grad` path: `_reversible_slice_boundaries` (Python half-to-even `round`) and `segmented_forward` with its
checkpoints (`fdtdFwd_spec`), for every number of slices k ≥ 1.

The pinned tree before the fix executed the body once more, at t = −1 (`asFound_phantom_step`, `asFound_schedule`).
Refutation witnesses for the as-found loop and non-vacuity examples are at the end.
-/
import FdtdxModel.C04
import FdtdxLemmas.C04

namespace Fdtdx.C04

variable {S F P CS CP CP' : Type}

/-- the carry handed to the reverse loop by `fdtd_bwd`: final time step, final state, incoming cotangent -/
def initCarry (T : Nat) (sT : S) (cs : CS) (cp0 : CP) : Carry S CS CP :=
  { t := (T : Int), s := sT, cs := cs, cp := cp0, log := [] }

/-- **reverse_schedule** — for every `T`, system and checkpoint list, the reverse loop takes the per-step VJP
exactly at the time steps `T-1, …, 0` and exits with its condition false. -/
theorem reverse_schedule (sys : Sys S F P CS CP) (p : P) (cks : List (Int × F)) (T : Nat) (sT : S) (cs : CS) (cp0 : CP) :
    stepsVisited (fdtdBwd sys p cks (initCarry T sT cs cp0)) = countdown T ∧
    condFixed (fdtdBwd sys p cks (initCarry T sT cs cp0)) = false := by
  rw [fdtdBwd_eq_iterate sys p cks _ T rfl, condFixed, reverseBody_iterate_t]
  exact ⟨stepsVisited_iterate sys p cks T _ rfl, decide_eq_false (by simp [initCarry])⟩

theorem countdown_length (T : Nat) : (countdown T).length = T := by
  induction T with
  | zero => rfl
  | succ n ih => simp [countdown, ih]

theorem mem_countdown (T : Nat) (t : Int) : t ∈ countdown T ↔ 0 ≤ t ∧ t < T := by
  induction T with
  | zero => simp only [countdown, List.not_mem_nil, false_iff]; omega
  | succ n ih => simp only [countdown, List.mem_cons, ih]; omega

/-! ### the reverse loop under hypotheses required along the true forward trajectory -/

theorem fdtdBwd_traj {sys : Sys S F P CS CP} {p : P} {s0 : S} {T : Nat} {agree : S → S → Prop} {π : CP → CP'}
    {addP' : CP' → CP' → CP'} (h : HypTraj sys p s0 T agree π addP') (cks : List (Int × F))
    (hck : CksOK sys p s0 cks) (sT : S) (hT : agree sT (traj sys p s0 T)) (cs : CS) (cp0 : CP) :
    π (fdtdBwd sys p cks (initCarry T sT cs cp0)).cp = π (gradExact sys p s0 T cs cp0)
    ∧ agree (fdtdBwd sys p cks (initCarry T sT cs cp0)).s s0 := by
  rw [fdtdBwd_eq_iterate sys p cks _ T rfl]
  exact (reverseBody_iterate h hck T (Nat.le_refl T) (initCarry T sT cs cp0) cp0 rfl hT rfl).2

/-- **C04_vjp_equal_traj** — w.r.t. an agreement relation on states (reconstructed ≈ true) and a projection π of
parameter cotangents (cells at which the gradient is claimed) satisfying `HypTraj` — every hypothesis is only required
at the states of the true forward trajectory of this `T`-step run — the reversible gradient equals the exact
reverse-mode gradient under π. -/
theorem C04_vjp_equal_traj {sys : Sys S F P CS CP} {p : P} {s0 : S} {T : Nat} {agree : S → S → Prop} {π : CP → CP'}
    {addP' : CP' → CP' → CP'} (h : HypTraj sys p s0 T agree π addP') (cks : List (Int × F))
    (hck : CksOK sys p s0 cks) (sT : S) (hT : agree sT (traj sys p s0 T)) (cs : CS) (cp0 : CP) :
    π (fdtdBwd sys p cks (initCarry T sT cs cp0)).cp = π (gradExact sys p s0 T cs cp0) :=
  (fdtdBwd_traj h cks hck sT hT cs cp0).1

/-- **C04_vjp_equal_on** — the same with the hypotheses at all states (`Hyp`).  `agree` = "fields agree outside the
absorbing layers", π = "restrict to cells outside the absorbing layers" is the PML reading of the property. -/
theorem C04_vjp_equal_on {sys : Sys S F P CS CP} {p : P} {agree : S → S → Prop} {π : CP → CP'}
    {addP' : CP' → CP' → CP'} (h : Hyp sys p agree π addP') (s0 : S) (cks : List (Int × F))
    (hck : CksOK sys p s0 cks) (T : Nat) (sT : S) (hT : agree sT (traj sys p s0 T)) (cs : CS) (cp0 : CP) :
    π (fdtdBwd sys p cks (initCarry T sT cs cp0)).cp = π (gradExact sys p s0 T cs cp0) :=
  C04_vjp_equal_traj (h.toTraj s0 T) cks hck sT hT cs cp0

/-- agreement = equal `fields`, the whole parameter cotangent claimed -/
theorem hyp_of_fields (sys : Sys S F P CS CP) (p : P)
    (hvS : ∀ (n : Nat) ŝ s c, sys.getF ŝ = sys.getF s → sys.vjpS n ŝ p c = sys.vjpS n s p c)
    (hvP : ∀ (n : Nat) ŝ s c, sys.getF ŝ = sys.getF s → sys.vjpP n ŝ p c = sys.vjpP n s p c)
    (hinv : ∀ (n : Nat) ŝ s, sys.getF ŝ = sys.getF (sys.f n s p) → sys.getF (sys.g n ŝ p) = sys.getF s)
    (hlens : ∀ (s : S) (f : F), sys.getF (sys.setF s f) = f) :
    Hyp sys p (fun a b => sys.getF a = sys.getF b) (fun c : CP => c) sys.addP :=
  { vjpS_agree := hvS
    vjpP_agree := hvP
    g_agree := hinv
    setF_agree := fun _ _ _ => hlens _ _
    π_add := fun _ _ => rfl }

/-- **C04_vjp_equal** — if the reverse step is an exact inverse of the forward step (`∀ n s, g n (f n s p) p = s`)
then, for every `T`, every checkpoint list holding true fields, every incoming cotangent, the gradient of the
reversible method equals the exact reverse-mode gradient. -/
theorem C04_vjp_equal (sys : Sys S F P CS CP) (p : P) (s0 : S)
    (hinv : ∀ (n : Nat) (s : S), sys.g n (sys.f n s p) p = s)
    (hlens : ∀ s : S, sys.setF s (sys.getF s) = s)
    (cks : List (Int × F)) (hck : CksOK sys p s0 cks) (T : Nat) (cs : CS) (cp0 : CP) :
    (fdtdBwd sys p cks (initCarry T (traj sys p s0 T) cs cp0)).cp = gradExact sys p s0 T cs cp0 :=
  C04_vjp_equal_traj (HypTraj.of_inverse sys p s0 T (fun n _ => hinv n _) hlens) cks hck _ rfl cs cp0

/-- **C04_vjp_equal_fields** — the form matching the code: only the `fields` member is reconstructed by the reverse
step (detector states are not un-recorded), checkpoints replace only `fields`, and the per-step VJP depends on the
state only through `fields` (detector updates are affine in the detector state). -/
theorem C04_vjp_equal_fields (sys : Sys S F P CS CP) (p : P) (s0 : S)
    (hvS : ∀ (n : Nat) ŝ s c, sys.getF ŝ = sys.getF s → sys.vjpS n ŝ p c = sys.vjpS n s p c)
    (hvP : ∀ (n : Nat) ŝ s c, sys.getF ŝ = sys.getF s → sys.vjpP n ŝ p c = sys.vjpP n s p c)
    (hinv : ∀ (n : Nat) ŝ s, sys.getF ŝ = sys.getF (sys.f n s p) → sys.getF (sys.g n ŝ p) = sys.getF s)
    (hlens : ∀ (s : S) (f : F), sys.getF (sys.setF s f) = f)
    (cks : List (Int × F)) (hck : CksOK sys p s0 cks) (T : Nat) (sT : S)
    (hT : sys.getF sT = sys.getF (traj sys p s0 T)) (cs : CS) (cp0 : CP) :
    (fdtdBwd sys p cks (initCarry T sT cs cp0)).cp = gradExact sys p s0 T cs cp0 :=
  C04_vjp_equal_on (hyp_of_fields sys p hvS hvP hinv hlens) s0 cks hck T sT hT cs cp0

/-! ### the whole `jax.grad` path: slice boundaries, forward pass with checkpoints, reverse loop -/

/-- the forward pass of `fdtd_fwd` ends at time step `T` in the true state and its checkpoints are the true fields at
the interior slice boundaries, for every `T` and every number of slices `k ≥ 1` -/
theorem fdtdFwd_spec (sys : Sys S F P CS CP) (p : P) (s0 : S) (T k : Nat) (hk : 1 ≤ k) :
    segmentedForward sys p (sliceBoundaries T k) s0 =
      (((T : Int), traj sys p s0 T), (checkpointTimes T k).map (fun n => sys.getF (traj sys p s0 n))) := by
  have h := segmentedForward_spec sys p s0 (sliceBoundaries T k) k (sliceBoundaries_length T k)
    (by rw [sliceBoundaries_getD T k 0 (Nat.zero_le k)]; exact C05.boundary_zero T k hk)
    (fun i hi => by
      rw [sliceBoundaries_getD T k i (Nat.le_of_lt hi), sliceBoundaries_getD T k (i + 1) hi]
      exact C05.boundary_mono T k hk i _ (Nat.le_succ i))
  rw [h, sliceBoundaries_getD T k k (Nat.le_refl k), C05.boundary_last T k hk, checkpointTimes_eq, List.map_map]
  refine Prod.ext rfl (List.map_congr_left fun i hi => ?_)
  rw [sliceBoundaries_getD T k (i + 1) (by have := List.mem_range.mp hi; omega)]
  rfl

/-- **C04_end_to_end_traj** — `gradReversible` (boundaries, segmented forward pass, checkpoints, reverse loop) equals the
exact gradient under π, for every number of slices `k ≥ 1`, every cotangent. -/
theorem C04_end_to_end_traj {sys : Sys S F P CS CP} {p : P} {s0 : S} {T : Nat} {agree : S → S → Prop} {π : CP → CP'}
    {addP' : CP' → CP' → CP'} (h : HypTraj sys p s0 T agree π addP') (hrefl : agree (traj sys p s0 T) (traj sys p s0 T))
    (k : Nat) (hk : 1 ≤ k) (cs : CS) (cp0 : CP) :
    π (gradReversible sys p s0 T k cs cp0) = π (gradExact sys p s0 T cs cp0) := by
  unfold gradReversible gradReversibleWith
  simp only [fdtdFwd_spec sys p s0 T k hk]
  exact C04_vjp_equal_traj h _ (cksOK_zip sys p s0 (checkpointTimes T k)) _ hrefl cs cp0

/-- **C04_end_to_end_on** — the same with the hypotheses at all states. -/
theorem C04_end_to_end_on {sys : Sys S F P CS CP} {p : P} {agree : S → S → Prop} {π : CP → CP'}
    {addP' : CP' → CP' → CP'} (h : Hyp sys p agree π addP') (hrefl : ∀ s, agree s s) (s0 : S) (T k : Nat) (hk : 1 ≤ k)
    (cs : CS) (cp0 : CP) :
    π (gradReversible sys p s0 T k cs cp0) = π (gradExact sys p s0 T cs cp0) :=
  C04_end_to_end_traj (h.toTraj s0 T) (hrefl _) k hk cs cp0

/-- **C04_end_to_end** — the form matching the code (reverse step reconstructs the `fields` member). -/
theorem C04_end_to_end (sys : Sys S F P CS CP) (p : P) (s0 : S)
    (hvS : ∀ (n : Nat) ŝ s c, sys.getF ŝ = sys.getF s → sys.vjpS n ŝ p c = sys.vjpS n s p c)
    (hvP : ∀ (n : Nat) ŝ s c, sys.getF ŝ = sys.getF s → sys.vjpP n ŝ p c = sys.vjpP n s p c)
    (hinv : ∀ (n : Nat) ŝ s, sys.getF ŝ = sys.getF (sys.f n s p) → sys.getF (sys.g n ŝ p) = sys.getF s)
    (hlens : ∀ (s : S) (f : F), sys.getF (sys.setF s f) = f)
    (T k : Nat) (hk : 1 ≤ k) (cs : CS) (cp0 : CP) :
    gradReversible sys p s0 T k cs cp0 = gradExact sys p s0 T cs cp0 :=
  C04_end_to_end_on (hyp_of_fields sys p hvS hvP hinv hlens) (fun _ => rfl) s0 T k hk cs cp0

/-! ### the pinned tree before the fix -/

/-- **asFound_phantom_step** — the as-found loop returns the correct loop's carry pushed through one more body
execution: a reverse step to t = −1 and the VJP of a forward step at t = −1. -/
theorem asFound_phantom_step (sys : Sys S F P CS CP) (p : P) (cks : List (Int × F)) (T : Nat) (sT : S) (cs : CS) (cp0 : CP) :
    AsFound.fdtdBwd sys p cks (initCarry T sT cs cp0) =
      reverseBody sys p cks (fdtdBwd sys p cks (initCarry T sT cs cp0)) := by
  rw [asFound_fdtdBwd_eq_iterate sys p cks _ T rfl, fdtdBwd_eq_iterate sys p cks _ T rfl, Function.iterate_succ_apply']

/-- **asFound_schedule** — before the fix the per-step VJP was taken at `T-1, …, 0` and then once more at `−1`, for every `T`. -/
theorem asFound_schedule (sys : Sys S F P CS CP) (p : P) (cks : List (Int × F)) (T : Nat) (sT : S) (cs : CS) (cp0 : CP) :
    stepsVisited (AsFound.fdtdBwd sys p cks (initCarry T sT cs cp0)) = countdown T ++ [-1] := by
  rw [asFound_phantom_step, stepsVisited_reverseBody, (reverse_schedule sys p cks T sT cs cp0).1,
    fdtdBwd_eq_iterate sys p cks _ T rfl, reverseBody_iterate_t]
  simp [initCarry]

/-! ### refutation witnesses for the as-found loop, non-vacuity of the hypotheses -/

/-- machine-checked witness: the as-found reverse loop for T = 3 takes a VJP at t = −1 -/
example : stepsVisited (fdtdBwd_asFound 3) = [2, 1, 0, -1] := rfl
example : stepsVisited (fdtdBwd_fixed 3) = [2, 1, 0] := rfl
example : (fdtdBwd_asFound 0).log = [Ev.bwd 0, Ev.vjp (-1)] := rfl

/-- a two-component integer leapfrog cell with a source scaled by the parameter:
`e' = e + p h + p (t+2)`, `h' = h + e'`; exact inverse; hand-written VJP halves -/
def intSys : Sys (Int × Int) (Int × Int) Int (Int × Int) Int :=
  { f := fun t s p => let e' := s.1 + p * s.2 + p * (t + 2); (e', s.2 + e')
    g := fun t s p => let h := s.2 - s.1; (s.1 - p * h - p * (t + 2), h)
    vjpS := fun _ _ p c => let eh := c.1 + c.2; (eh, c.2 + p * eh)
    vjpP := fun t s _ c => (c.1 + c.2) * (s.2 + (t + 2))
    addP := fun a b => a + b
    getF := fun s => s
    setF := fun _ f => f }

/-- the same cell with a detector accumulator `d' = d + e'` that the reverse step does not undo -/
def detSys : Sys ((Int × Int) × Int) (Int × Int) Int ((Int × Int) × Int) Int :=
  { f := fun t s p => (intSys.f t s.1 p, s.2 + (intSys.f t s.1 p).1)
    g := fun t s p => (intSys.g t s.1 p, s.2)
    vjpS := fun _ _ p c => let eh := c.1.1 + c.1.2 + c.2; ((eh, c.1.2 + p * eh), c.2)
    vjpP := fun t s _ c => (c.1.1 + c.1.2 + c.2) * (s.1.2 + (t + 2))
    addP := fun a b => a + b
    getF := fun s => s.1
    setF := fun s f => (f, s.2) }

/-- the hypotheses of `C04_vjp_equal` are satisfiable (non-trivially: Bᵀ depends on the state) -/
example (p : Int) : (∀ (n : Nat) (s : Int × Int), intSys.g n (intSys.f n s p) p = s) ∧
    (∀ s : Int × Int, intSys.setF s (intSys.getF s) = s) := by
  refine ⟨fun n s => ?_, fun s => rfl⟩
  obtain ⟨e, h⟩ := s
  exact Prod.ext (by simp only [intSys]; ring) (by simp only [intSys]; ring)

/-- the hypotheses of `C04_vjp_equal_fields` are satisfiable by a system whose reverse step is NOT an inverse on
the whole state (the detector accumulator is not restored) -/
example (p : Int) :
    (∀ (n : Nat) ŝ s c, detSys.getF ŝ = detSys.getF s → detSys.vjpS n ŝ p c = detSys.vjpS n s p c) ∧
    (∀ (n : Nat) ŝ s c, detSys.getF ŝ = detSys.getF s → detSys.vjpP n ŝ p c = detSys.vjpP n s p c) ∧
    (∀ (n : Nat) ŝ s, detSys.getF ŝ = detSys.getF (detSys.f n s p) → detSys.getF (detSys.g n ŝ p) = detSys.getF s) ∧
    (∀ (s : (Int × Int) × Int) (f : Int × Int), detSys.getF (detSys.setF s f) = f) ∧
    detSys.g 0 (detSys.f 0 ((0, 0), 0) 1) 1 ≠ ((0, 0), 0) := by
  refine ⟨fun _ _ _ _ _ => rfl, fun n ŝ s c e => ?_, fun n ŝ s e => ?_, fun _ _ => rfl, by decide⟩
  · simp only [detSys] at e ⊢; rw [e]
  · obtain ⟨⟨e1, h1⟩, d⟩ := s
    simp only [detSys, intSys] at e ⊢
    rw [e]
    exact Prod.ext (by ring) (by ring)

/-- numbers: T = 3, one slice, cotangent (1,0): the fixed loop gives the exact gradient, the as-found loop does not -/
example : gradReversible intSys 1 (0, 0) 3 1 (1, 0) 0 = gradExact intSys 1 (0, 0) 3 (1, 0) 0 := rfl
example : AsFound.gradReversible intSys 1 (0, 0) 3 1 (1, 0) 0 ≠ gradExact intSys 1 (0, 0) 3 (1, 0) 0 := by decide
example : gradReversible detSys 2 ((0, 0), 0) 4 2 ((1, -1), 3) 0 = gradExact detSys 2 ((0, 0), 0) 4 ((1, -1), 3) 0 := by decide
example : AsFound.gradReversible detSys 2 ((0, 0), 0) 4 2 ((1, -1), 3) 0 ≠ gradExact detSys 2 ((0, 0), 0) 4 ((1, -1), 3) 0 := by
  decide

end Fdtdx.C04
