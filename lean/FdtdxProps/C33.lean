/-
C33 — Electric-plane symmetry reduction is exact.

Setting (shared Yee model, `FdtdxModel/Yee.lean`; reduction `FdtdxModel/C33.lean`): a full domain with `2m` cells
along the symmetry axis x, the plane at the min edge of cell `m`; the reduced domain keeps the cells `m … 2m-1`, gets a
PEC wall on its min face (`make_symmetry_walls`) and a zero min-side halo (`pad_fields_for_boundaries`).  PEC-mirror
parity (`field_component_parity`, `mirror_pairs_on_plane`): E_y, E_z, H_x are sampled ON the plane, are odd
(`m+d ↔ m-d`) and vanish on it; E_x, H_y, H_z are sampled half a cell off and are even (`m+d ↔ m-1-d`).

The full run keeps the parity in a window around the plane that shrinks by one pair per step, whatever the far x faces
are (`mirror_window_step`); while the plane is inside the window the reduced step is the upper half of the full step
(`forward_agree_plane`), afterwards agreement is lost one layer per step (`forward_agree_shrink`).  Induction over the
steps gives `C33_reduced_eq_restricted`; `C33_unfold` and `C33_reduceCfg` (the model's own `reduceCfg 0`, what the
correspondence check compares with fdtdx) are corollaries.  Planes normal to y / z are transported along the cyclic
relabelling of the axes and read through `rotV` (`C33_reduceCfg_y`, `_z`).  With mirror-symmetric far faces the parity is
an invariant of the full run (`mirror_invariant`, `_y`, `_z`) and there is no light cone
(`C33_symmetric_far_all_steps`).  Both one-step theorems are `forwardP_sym` (`FdtdxLemmas/C33Cpml.lean`) without PML
objects.  Several planes compose (`C33_two_planes_xy`, `C33_three_planes`).  The parity window
under the CPML step is in `FdtdxProps/C33Cpml.lean`.

Reduced-vs-full agreement WITH PML objects and detector records: implementation-side oracle only.
-/
import FdtdxLemmas.C33Rot
import FdtdxLemmas.C33Cpml

namespace Fdtdx.C33
open Fdtdx Fdtdx.Yee

section
variable {K : Type} [Field K]
variable {cf : Cfg K} {m : Nat} {b : AxisBC K} {sf sb : Nat → K}

/-- **mirror_window_step**: one full-domain `forward` step maps a state that has the PEC-mirror parity in a window of
`r` pairs around the plane to one that has it in a window of `r - 1` pairs — whatever the far boundaries of the x
axis are (zero halo, PEC, PMC in any mix; the only exception is the outermost pair, which a far PEC layer breaks). -/
theorem mirror_window_step (hn : cf.nx = 2 * m) (r : Nat) (hr : r ≤ m) (hpec : r = m → cf.bx.pecHi = false)
    (mt : Mat K) (hx : XInv mt) (hmet : MetricSym cf m r) (jE jH E H : V3 K)
    (sE : SymE m r E) (sH : SymH m r H) (sJE : SymE m r jE) (sJH : SymH m r jH) :
    SymE m (r - 1) (forward cf mt jE jH E H).1 ∧ SymH m (r - 1) (forward cf mt jE jH E H).2 := by
  have hs : r - 1 ≤ r := Nat.sub_le r 1
  have h := forwardP_sym hn hr hs hpec hx hmet false Clear.nil sE sH sJE sJH fun d hd =>
    Or.inl (Nat.add_lt_of_lt_sub hd)
  rw [forwardP_nil] at h
  exact ⟨h.1.mono hs, h.2⟩


/-! ### whole steps, many steps -/

/-- one step, state parity-symmetric on the plane: the reduced domain (PEC wall, zero min-side halo) reproduces the
upper half of the full domain everywhere -/
theorem forward_agree_plane (h : RedOK cf m b sf sb) (mt : Mat K) (jE jH : V3 K) {Er Hr E H : V3 K}
    (p : PlaneInv m E H jE) (hE : AgreeFrom m 0 Er E) (hH : AgreeFrom m 0 Hr H) :
    AgreeFrom m 0 (forward (redCfg cf m b sf sb) (upperMat 0 m mt) (upperV 0 m jE) (upperV 0 m jH) Er Hr).1
        (forward cf mt jE jH E H).1 ∧
    AgreeFrom m 0 (forward (redCfg cf m b sf sb) (upperMat 0 m mt) (upperV 0 m jE) (upperV 0 m jH) Er Hr).2
        (forward cf mt jE jH E H).2 := by
  have e : AgreeFrom m 0 (stepE (redCfg cf m b sf sb) (upperMat 0 m mt) (upperV 0 m jE) Er Hr) (stepE cf mt jE E H) := by
    intro i _ hi
    obtain _ | i := i
    · exact stepE_agree_plane h mt jE p (hE 0 (le_refl _) hi) (hH 0 (le_refl _) hi)
    · exact stepE_agreeFrom h mt jE hE hH _ (Nat.succ_le_succ i.zero_le) hi
  exact ⟨e, stepH_agreeFrom h mt jH e hH⟩

/-- one step without any assumption on the plane: agreement on the layers `≥ s` survives on the layers `≥ s+1`
(the reduced domain differs from the upper half only through its min face, one layer per step) -/
theorem forward_agree_shrink (h : RedOK cf m b sf sb) (mt : Mat K) (jE jH : V3 K) {Er Hr E H : V3 K} {s : Nat}
    (hE : AgreeFrom m s Er E) (hH : AgreeFrom m s Hr H) :
    AgreeFrom m (s + 1) (forward (redCfg cf m b sf sb) (upperMat 0 m mt) (upperV 0 m jE) (upperV 0 m jH) Er Hr).1
        (forward cf mt jE jH E H).1 ∧
    AgreeFrom m (s + 1) (forward (redCfg cf m b sf sb) (upperMat 0 m mt) (upperV 0 m jE) (upperV 0 m jH) Er Hr).2
        (forward cf mt jE jH E H).2 := by
  have e := stepE_agreeFrom h mt jE hE hH
  exact ⟨e, stepH_agreeFrom h mt jH e fun i hs hi => hH i (Nat.le_of_succ_le hs) hi⟩

/-- **C33_reduced_eq_restricted**: the full statement for a symmetry plane normal to x, inside the Yee model.
Full domain: `2m` cells along x, ANY non-periodic boundaries at its two x faces (zero halo, PEC, PMC, also different
ones at the two ends — nothing is assumed about the far face of the discarded half), anything transversally;
materials constant along x; initial state, sources and metric with the PEC-mirror parity.
Reduced domain: `m` cells, PEC wall on its min face (whatever halo rule), the same far face.  Then after `n` steps
  * the full state still has the parity in a window of `m - delay - n` pairs around the plane, and
  * the reduced run equals the upper half of the full run on every layer `i ≥ n + delay - m`:
    everywhere for `n ≤ m - delay`, and afterwards outside the cone that the asymmetry of the discarded half's far
    face (which starts at distance `m - delay`) has swept, one layer per step. -/
theorem C33_reduced_eq_restricted (h : RedOK cf m b sf sb) (mt : Mat K) (hx : XInv mt) (hmet : MetricSym cf m m)
    (jE jH Er Hr E H : V3 K) (sE : SymE m m E) (sH : SymH m m H) (sJE : SymE m m jE) (sJH : SymH m m jH)
    (hE : AgreeFrom m 0 Er E) (hH : AgreeFrom m 0 Hr H) (n : Nat) :
    let R := steps (redCfg cf m b sf sb) (upperMat 0 m mt) (upperV 0 m jE) (upperV 0 m jH) n (Er, Hr)
    let F := steps cf mt jE jH n (E, H)
    (SymE m (m - farDelay cf - n) F.1 ∧ SymH m (m - farDelay cf - n) F.2) ∧
      AgreeFrom m (n + farDelay cf - m) R.1 F.1 ∧ AgreeFrom m (n + farDelay cf - m) R.2 F.2 := by
  have hd := farDelay_le_one cf
  have hm := h.hm
  have hw : ∀ n, m - farDelay cf - n ≤ m := fun n => (Nat.sub_le _ n).trans (Nat.sub_le m _)
  induction n with
  | zero =>
    rw [Nat.sub_eq_zero_of_le (show 0 + farDelay cf ≤ m by omega)]
    exact ⟨⟨sE.mono (hw 0), sH.mono (hw 0)⟩, hE, hH⟩
  | succ n ih =>
    obtain ⟨⟨s1, s2⟩, a1, a2⟩ := ih
    have sJE' := sJE.mono (hw n)
    have sym := mirror_window_step h.hn _ (hw n) (fun e => pecHi_of_farDelay (by omega)) mt hx (hmet.mono (hw n))
      jE jH _ _ s1 s2 sJE' (sJH.mono (hw n))
    rw [Nat.sub_sub _ n 1] at sym
    refine ⟨sym, ?_⟩
    by_cases hin : n + farDelay cf < m
    · -- the plane is still inside the symmetric window
      rw [Nat.sub_eq_zero_of_le hin.le] at a1 a2
      rw [Nat.sub_eq_zero_of_le (show n + 1 + farDelay cf ≤ m by omega)]
      exact forward_agree_plane h mt jE jH
        (planeInv_of_sym (Nat.sub_pos_of_lt (Nat.lt_sub_of_add_lt hin)) s1 s2 sJE') a1 a2
    · rw [Nat.add_right_comm, Nat.sub_add_comm (Nat.le_of_not_lt hin)]
      exact forward_agree_shrink h mt jE jH a1 a2

/-- corollary in the words of the property: for the first `m - delay` steps the reduced run IS the upper half of the
full run, and the lower half of the full run is its parity image (i.e. unfolding the reduced fields gives the full
fields) on the `m - delay - n` pairs next to the plane. -/
theorem C33_unfold (h : RedOK cf m b sf sb) (mt : Mat K) (hx : XInv mt) (hmet : MetricSym cf m m)
    (jE jH Er Hr E H : V3 K) (sE : SymE m m E) (sH : SymH m m H) (sJE : SymE m m jE) (sJH : SymH m m jH)
    (hE : AgreeFrom m 0 Er E) (hH : AgreeFrom m 0 Hr H) (n : Nat) (hn : n + farDelay cf ≤ m) :
    let R := steps (redCfg cf m b sf sb) (upperMat 0 m mt) (upperV 0 m jE) (upperV 0 m jH) n (Er, Hr)
    let F := steps cf mt jE jH n (E, H)
    (∀ i j k, i < m → R.1.x i j k = F.1.x (m + i) j k ∧ R.1.y i j k = F.1.y (m + i) j k ∧ R.1.z i j k = F.1.z (m + i) j k
        ∧ R.2.x i j k = F.2.x (m + i) j k ∧ R.2.y i j k = F.2.y (m + i) j k ∧ R.2.z i j k = F.2.z (m + i) j k) ∧
    (∀ d j k, d < m - farDelay cf - n →
        F.1.x (m - 1 - d) j k = R.1.x d j k ∧ F.1.y (m - d) j k = - R.1.y d j k ∧ F.1.z (m - d) j k = - R.1.z d j k
        ∧ F.2.x (m - d) j k = - R.2.x d j k ∧ F.2.y (m - 1 - d) j k = R.2.y d j k ∧ F.2.z (m - 1 - d) j k = R.2.z d j k) := by
  intro R F
  obtain ⟨⟨s1, s2⟩, a1, a2⟩ := C33_reduced_eq_restricted h mt hx hmet jE jH Er Hr E H sE sH sJE sJH hE hH n
  rw [Nat.sub_eq_zero_of_le hn] at a1 a2
  refine ⟨fun i j k hi => ?_, fun d j k hd => ?_⟩
  · obtain ⟨x1, y1, z1⟩ := a1 i i.zero_le hi j k
    obtain ⟨x2, y2, z2⟩ := a2 i i.zero_le hi j k
    exact ⟨x1, y1, z1, x2, y2, z2⟩
  · have hd' : d < m := hd.trans_le ((Nat.sub_le _ n).trans (Nat.sub_le m _))
    obtain ⟨x1, y1, z1⟩ := a1 d d.zero_le hd' j k
    obtain ⟨x2, y2, z2⟩ := a2 d d.zero_le hd' j k
    refine ⟨?_, ?_, ?_, ?_, ?_, ?_⟩
    · rw [x1]; exact (s1.x d j k hd).symm
    · rw [y1, s1.y d j k hd, neg_neg]
    · rw [z1, s1.z d j k hd, neg_neg]
    · rw [x2, s2.x d j k hd, neg_neg]
    · rw [y2]; exact (s2.y d j k hd).symm
    · rw [z2]; exact (s2.z d j k hd).symm

/-- the model's reduction (`FdtdxModel/C33.lean`, the definition the correspondence check runs against fdtdx) is an
instance of `redCfg` that satisfies `RedOK` -/
theorem reduceCfg_ok (cf : Cfg K) (m : Nat) (hm : 0 < m) (hn : cf.nx = 2 * m) (hfar : cf.bx.wrap = false) :
    reduceCfg 0 cf = redCfg cf m (reduceAxis cf.bx) (fun i => cf.sfx (m + i))
        (fun i => if i = 0 then cf.sfx m else cf.sbx (m + i)) ∧
    RedOK cf m (reduceAxis cf.bx) (fun i => cf.sfx (m + i)) (fun i => if i = 0 then cf.sfx m else cf.sbx (m + i)) := by
  have hh : cf.nx / 2 = m := by omega
  refine ⟨by simp only [reduceCfg, redCfg, hh], ⟨hm, hn, hfar, ?_, rfl, rfl, rfl, rfl, fun _ => rfl, ?_⟩⟩
  · simpa [reduceAxis] using hfar
  · intro i hi
    have : i ≠ 0 := by omega
    simp [this]

/-- **C33_reduceCfg**: `C33_reduced_eq_restricted` for the model's own reduction of the full request: reduced
configuration `reduceCfg 0 cf`, reduced materials / sources / initial state = restriction to the upper half. -/
theorem C33_reduceCfg (cf : Cfg K) (m : Nat) (hm : 0 < m) (hn : cf.nx = 2 * m) (hfar : cf.bx.wrap = false)
    (mt : Mat K) (hx : XInv mt) (hmet : MetricSym cf m m)
    (jE jH E H : V3 K) (sE : SymE m m E) (sH : SymH m m H) (sJE : SymE m m jE) (sJH : SymH m m jH) (n : Nat) :
    let R := steps (reduceCfg 0 cf) (upperMat 0 m mt) (upperV 0 m jE) (upperV 0 m jH) n (upperV 0 m E, upperV 0 m H)
    let F := steps cf mt jE jH n (E, H)
    (SymE m (m - farDelay cf - n) F.1 ∧ SymH m (m - farDelay cf - n) F.2) ∧
      AgreeFrom m (n + farDelay cf - m) R.1 F.1 ∧ AgreeFrom m (n + farDelay cf - m) R.2 F.2 := by
  obtain ⟨e, ok⟩ := reduceCfg_ok cf m hm hn hfar
  rw [e]
  exact C33_reduced_eq_restricted ok mt hx hmet jE jH _ _ E H sE sH sJE sJH
    (fun i _ _ j k => ⟨rfl, rfl, rfl⟩) (fun i _ _ j k => ⟨rfl, rfl, rfl⟩) n

/-- a uniform grid, and any grid whose cell widths are mirror symmetric about the plane, has a symmetric metric -/
theorem metricSym_of_widths (cf : Cfg K) (m : Nat) (ref : K) (w : Nat → K)
    (hf : cf.sfx = metricFwd ref w) (hb : cf.sbx = metricBwd ref w)
    (hw : ∀ d, d < m → w (m + d) = w (m - 1 - d)) : MetricSym cf m m := by
  refine ⟨fun d hd => ?_, fun d h0 hd => ?_⟩
  · simp only [hf, metricFwd, hw d hd]
  · obtain _ | d := d
    · omega
    obtain ⟨e1, e2, hp⟩ := even_mirror w (le_refl m) hw hd
    simp only [hb, metricBwd, if_neg (show m + (d + 1) ≠ 0 from Nat.succ_ne_zero _), if_neg hp.ne', e1, e2, add_comm]

/-- **C33_reduceCfg_y**: symmetry plane normal to y — `C33_reduceCfg` transported along the relabelling
(`rotV V` is `V` read with the y axis first: `(rotV V).x i j k = V.y k i j`, …; so `SymE m r (rotV E)` says that E_y is
even / half-offset and E_z, E_x odd / on-plane along the y index, and `AgreeFrom m s (rotV R) (rotV F)` compares the
reduced run with the upper half along y). -/
theorem C33_reduceCfg_y (cf : Cfg K) (m : Nat) (hm : 0 < m) (hn : cf.ny = 2 * m) (hfar : cf.by_.wrap = false)
    (mt : Mat K) (hx : XInv (rotMat mt)) (hmet : MetricSym (rotCfg cf) m m)
    (jE jH E H : V3 K) (sE : SymE m m (rotV E)) (sH : SymH m m (rotV H)) (sJE : SymE m m (rotV jE))
    (sJH : SymH m m (rotV jH)) (n : Nat) :
    let R := steps (reduceCfg 1 cf) (upperMat 1 m mt) (upperV 1 m jE) (upperV 1 m jH) n (upperV 1 m E, upperV 1 m H)
    let F := steps cf mt jE jH n (E, H)
    (SymE m (m - farDelay (rotCfg cf) - n) (rotV F.1) ∧ SymH m (m - farDelay (rotCfg cf) - n) (rotV F.2)) ∧
      AgreeFrom m (n + farDelay (rotCfg cf) - m) (rotV R.1) (rotV F.1) ∧
      AgreeFrom m (n + farDelay (rotCfg cf) - m) (rotV R.2) (rotV F.2) := by
  have key := C33_reduceCfg (rotCfg cf) m hm hn hfar (rotMat mt) hx hmet (rotV jE) (rotV jH) (rotV E) (rotV H)
    sE sH sJE sJH n
  simp only [steps_rot, ← reduceCfg_rot_y, ← upperMat_rot_y, ← upperV_rot_y] at key
  exact key

/-- **C33_reduceCfg_z**: symmetry plane normal to z (two relabellings: `(rotV (rotV V)).x i j k = V.z j k i`). -/
theorem C33_reduceCfg_z (cf : Cfg K) (m : Nat) (hm : 0 < m) (hn : cf.nz = 2 * m) (hfar : cf.bz.wrap = false)
    (mt : Mat K) (hx : XInv (rotMat (rotMat mt))) (hmet : MetricSym (rotCfg (rotCfg cf)) m m)
    (jE jH E H : V3 K) (sE : SymE m m (rotV (rotV E))) (sH : SymH m m (rotV (rotV H)))
    (sJE : SymE m m (rotV (rotV jE))) (sJH : SymH m m (rotV (rotV jH))) (n : Nat) :
    let R := steps (reduceCfg 2 cf) (upperMat 2 m mt) (upperV 2 m jE) (upperV 2 m jH) n (upperV 2 m E, upperV 2 m H)
    let F := steps cf mt jE jH n (E, H)
    (SymE m (m - farDelay (rotCfg (rotCfg cf)) - n) (rotV (rotV F.1)) ∧
        SymH m (m - farDelay (rotCfg (rotCfg cf)) - n) (rotV (rotV F.2))) ∧
      AgreeFrom m (n + farDelay (rotCfg (rotCfg cf)) - m) (rotV (rotV R.1)) (rotV (rotV F.1)) ∧
      AgreeFrom m (n + farDelay (rotCfg (rotCfg cf)) - m) (rotV (rotV R.2)) (rotV (rotV F.2)) := by
  have key := C33_reduceCfg (rotCfg (rotCfg cf)) m hm hn hfar (rotMat (rotMat mt)) hx hmet (rotV (rotV jE))
    (rotV (rotV jH)) (rotV (rotV E)) (rotV (rotV H)) sE sH sJE sJH n
  simp only [steps_rot, ← reduceCfg_rot_y, ← reduceCfg_rot_z, ← upperMat_rot_y, ← upperMat_rot_z, ← upperV_rot_y,
    ← upperV_rot_z] at key
  exact key

/-! ### mirror-symmetric far faces: the parity is an invariant of the full run (no light cone) -/

/-- **mirror_invariant_step**: with mirror-symmetric far faces one `forward` step of the full domain maps
parity-symmetric states (all `m` pairs) to parity-symmetric states — no loss of window. -/
theorem mirror_invariant_step (hn : cf.nx = 2 * m) (hf : FarSym cf)
    (mt : Mat K) (hx : XInv mt) (hmet : MetricSym cf m m) (jE jH E H : V3 K)
    (sE : SymE m m E) (sH : SymH m m H) (sJE : SymE m m jE) (sJH : SymH m m jH) :
    SymE m m (forward cf mt jE jH E H).1 ∧ SymH m m (forward cf mt jE jH E H).2 := by
  have h := forwardP_sym hn le_rfl le_rfl (fun _ => hf.pecHi) hx hmet false Clear.nil sE sH sJE sJH fun d hd =>
    (Nat.lt_or_ge (d + 1) m).imp_right fun h => ⟨Nat.le_antisymm hd h, hf⟩
  rwa [forwardP_nil] at h

/-- **mirror_invariant**: parity-symmetric initial data, x-invariant materials, parity-symmetric sources and metric,
mirror-symmetric far faces ⇒ the full run is parity-symmetric after EVERY number of steps. -/
theorem mirror_invariant (hn : cf.nx = 2 * m) (hf : FarSym cf)
    (mt : Mat K) (hx : XInv mt) (hmet : MetricSym cf m m) (jE jH E H : V3 K)
    (sE : SymE m m E) (sH : SymH m m H) (sJE : SymE m m jE) (sJH : SymH m m jH) (n : Nat) :
    SymE m m (steps cf mt jE jH n (E, H)).1 ∧ SymH m m (steps cf mt jE jH n (E, H)).2 := by
  induction n with
  | zero => exact ⟨sE, sH⟩
  | succ n ih => exact mirror_invariant_step hn hf mt hx hmet jE jH _ _ ih.1 ih.2 sJE sJH

/-- **C33_symmetric_far_all_steps**: with mirror-symmetric far faces there is no light cone: the reduced run equals
the upper half of the full run on every layer after every number of steps. -/
theorem C33_symmetric_far_all_steps {b : AxisBC K} {sf sb : Nat → K} (h : RedOK cf m b sf sb) (hf : FarSym cf)
    (mt : Mat K) (hx : XInv mt) (hmet : MetricSym cf m m)
    (jE jH Er Hr E H : V3 K) (sE : SymE m m E) (sH : SymH m m H) (sJE : SymE m m jE) (sJH : SymH m m jH)
    (hE : AgreeFrom m 0 Er E) (hH : AgreeFrom m 0 Hr H) (n : Nat) :
    AgreeFrom m 0 (steps (redCfg cf m b sf sb) (upperMat 0 m mt) (upperV 0 m jE) (upperV 0 m jH) n (Er, Hr)).1
        (steps cf mt jE jH n (E, H)).1 ∧
    AgreeFrom m 0 (steps (redCfg cf m b sf sb) (upperMat 0 m mt) (upperV 0 m jE) (upperV 0 m jH) n (Er, Hr)).2
        (steps cf mt jE jH n (E, H)).2 := by
  induction n with
  | zero => exact ⟨hE, hH⟩
  | succ n ih =>
    obtain ⟨s1, s2⟩ := mirror_invariant h.hn hf mt hx hmet jE jH E H sE sH sJE sJH n
    exact forward_agree_plane h mt jE jH (planeInv_of_sym h.hm s1 s2 sJE) ih.1 ih.2

/-- the invariant for a plane normal to y (read through `rotV`) -/
theorem mirror_invariant_y (cf : Cfg K) (hn : cf.ny = 2 * m) (hm : 0 < m) (hf : FarSym (rotCfg cf))
    (mt : Mat K) (hx : XInv (rotMat mt)) (hmet : MetricSym (rotCfg cf) m m) (jE jH E H : V3 K)
    (sE : SymE m m (rotV E)) (sH : SymH m m (rotV H)) (sJE : SymE m m (rotV jE)) (sJH : SymH m m (rotV jH)) (n : Nat) :
    SymE m m (rotV (steps cf mt jE jH n (E, H)).1) ∧ SymH m m (rotV (steps cf mt jE jH n (E, H)).2) := by
  have key := mirror_invariant (cf := rotCfg cf) hn hf (rotMat mt) hx hmet (rotV jE) (rotV jH) (rotV E) (rotV H)
    sE sH sJE sJH n
  rwa [steps_rot] at key

/-- the invariant for a plane normal to z -/
theorem mirror_invariant_z (cf : Cfg K) (hn : cf.nz = 2 * m) (hm : 0 < m) (hf : FarSym (rotCfg (rotCfg cf)))
    (mt : Mat K) (hx : XInv (rotMat (rotMat mt))) (hmet : MetricSym (rotCfg (rotCfg cf)) m m) (jE jH E H : V3 K)
    (sE : SymE m m (rotV (rotV E))) (sH : SymH m m (rotV (rotV H))) (sJE : SymE m m (rotV (rotV jE)))
    (sJH : SymH m m (rotV (rotV jH))) (n : Nat) :
    SymE m m (rotV (rotV (steps cf mt jE jH n (E, H)).1)) ∧ SymH m m (rotV (rotV (steps cf mt jE jH n (E, H)).2)) := by
  have key := mirror_invariant (cf := rotCfg (rotCfg cf)) hn hf (rotMat (rotMat mt)) hx hmet (rotV (rotV jE))
    (rotV (rotV jH)) (rotV (rotV E)) (rotV (rotV H)) sE sH sJE sJH n
  rwa [steps_rot, steps_rot] at key


/-! ### several planes: the one-plane theorems compose -/

/-- **C33_two_planes_xy**: two electric planes (normal to x and to y) at once.  The quarter domain
`reduceCfg 1 (reduceCfg 0 cf)` — what `place_objects` builds for `config.symmetry = (-1,-1,0)`: one PEC wall per plane —
run on the restriction of the data to the quadrant equals the full run on the quadrant, on every cell outside the
light cones of the two discarded halves' far faces; derived from the one-plane theorems `C33_reduceCfg` (full → x-half)
and `C33_reduceCfg_y` (x-half → quadrant: the x-half domain is again a Yee configuration, and restriction along x
keeps the parity about the y plane).  Together with the two parity windows of the full run (same two theorems applied
to `cf` itself) this is "unfold of unfold = full". -/
theorem C33_two_planes_xy (cf : Cfg K) (mx my : Nat) (hmx : 0 < mx) (hmy : 0 < my)
    (hnx : cf.nx = 2 * mx) (hny : cf.ny = 2 * my) (hfx : cf.bx.wrap = false) (hfy : cf.by_.wrap = false)
    (mt : Mat K) (hxx : XInv mt) (hxy : XInv (rotMat mt))
    (hmetx : MetricSym cf mx mx) (hmety : MetricSym (rotCfg cf) my my) (jE jH E H : V3 K)
    (sEx : SymE mx mx E) (sHx : SymH mx mx H) (sJEx : SymE mx mx jE) (sJHx : SymH mx mx jH)
    (sEy : SymE my my (rotV E)) (sHy : SymH my my (rotV H)) (sJEy : SymE my my (rotV jE)) (sJHy : SymH my my (rotV jH))
    (n : Nat) :
    let U := fun V : V3 K => upperV 1 my (upperV 0 mx V)
    let R := steps (reduceCfg 1 (reduceCfg 0 cf)) (upperMat 1 my (upperMat 0 mx mt)) (U jE) (U jH) n (U E, U H)
    let F := steps cf mt jE jH n (E, H)
    ∀ i j k, n + farDelay cf - mx ≤ i → i < mx → n + farDelay (rotCfg cf) - my ≤ j → j < my →
      (R.1.x i j k = F.1.x (mx + i) (my + j) k ∧ R.1.y i j k = F.1.y (mx + i) (my + j) k ∧
        R.1.z i j k = F.1.z (mx + i) (my + j) k) ∧
      (R.2.x i j k = F.2.x (mx + i) (my + j) k ∧ R.2.y i j k = F.2.y (mx + i) (my + j) k ∧
        R.2.z i j k = F.2.z (mx + i) (my + j) k) := by
  intro U R F i j k hi hi' hj hj'
  obtain ⟨_, ax1, ax2⟩ := C33_reduceCfg cf mx hmx hnx hfx mt hxx hmetx jE jH E H sEx sHx sJEx sJHx n
  have hxy' : XInv (rotMat (upperMat 0 mx mt)) := upperMat_rot_x mx mt ▸ hxy.upper 2 mx
  obtain ⟨_, ay1, ay2⟩ := C33_reduceCfg_y (reduceCfg 0 cf) my hmy hny hfy (upperMat 0 mx mt) hxy'
    ⟨hmety.sf, hmety.sb⟩ (upperV 0 mx jE) (upperV 0 mx jH) (upperV 0 mx E) (upperV 0 mx H)
    (sEy.upper 2 mx) (sHy.upper 2 mx) (sJEy.upper 2 mx) (sJHy.upper 2 mx) n
  obtain ⟨x1, y1, z1⟩ := ax1 i hi hi' (my + j) k
  obtain ⟨x2, y2, z2⟩ := ax2 i hi hi' (my + j) k
  obtain ⟨p1, q1, r1⟩ := ay1 j hj hj' k i
  obtain ⟨p2, q2, r2⟩ := ay2 j hj hj' k i
  exact ⟨⟨r1.trans x1, p1.trans y1, q1.trans z1⟩, ⟨r2.trans x2, p2.trans y2, q2.trans z2⟩⟩


/-- **C33_three_planes**: three electric planes at once (`config.symmetry = (-1,-1,-1)`): the octant domain
`reduceCfg 2 (reduceCfg 1 (reduceCfg 0 cf))` run on the restriction of the data to the octant equals the full run on the
octant, outside the three light cones; `C33_two_planes_xy` followed by `C33_reduceCfg_z` on the quarter domain. -/
theorem C33_three_planes (cf : Cfg K) (mx my mz : Nat) (hmx : 0 < mx) (hmy : 0 < my) (hmz : 0 < mz)
    (hnx : cf.nx = 2 * mx) (hny : cf.ny = 2 * my) (hnz : cf.nz = 2 * mz)
    (hfx : cf.bx.wrap = false) (hfy : cf.by_.wrap = false) (hfz : cf.bz.wrap = false)
    (mt : Mat K) (hxx : XInv mt) (hxy : XInv (rotMat mt)) (hxz : XInv (rotMat (rotMat mt)))
    (hmetx : MetricSym cf mx mx) (hmety : MetricSym (rotCfg cf) my my) (hmetz : MetricSym (rotCfg (rotCfg cf)) mz mz)
    (jE jH E H : V3 K)
    (sEx : SymE mx mx E) (sHx : SymH mx mx H) (sJEx : SymE mx mx jE) (sJHx : SymH mx mx jH)
    (sEy : SymE my my (rotV E)) (sHy : SymH my my (rotV H)) (sJEy : SymE my my (rotV jE)) (sJHy : SymH my my (rotV jH))
    (sEz : SymE mz mz (rotV (rotV E))) (sHz : SymH mz mz (rotV (rotV H))) (sJEz : SymE mz mz (rotV (rotV jE)))
    (sJHz : SymH mz mz (rotV (rotV jH))) (n : Nat) :
    let U := fun V : V3 K => upperV 2 mz (upperV 1 my (upperV 0 mx V))
    let R := steps (reduceCfg 2 (reduceCfg 1 (reduceCfg 0 cf))) (upperMat 2 mz (upperMat 1 my (upperMat 0 mx mt)))
      (U jE) (U jH) n (U E, U H)
    let F := steps cf mt jE jH n (E, H)
    ∀ i j k, n + farDelay cf - mx ≤ i → i < mx → n + farDelay (rotCfg cf) - my ≤ j → j < my →
      n + farDelay (rotCfg (rotCfg cf)) - mz ≤ k → k < mz →
      (R.1.x i j k = F.1.x (mx + i) (my + j) (mz + k) ∧ R.1.y i j k = F.1.y (mx + i) (my + j) (mz + k) ∧
        R.1.z i j k = F.1.z (mx + i) (my + j) (mz + k)) ∧
      (R.2.x i j k = F.2.x (mx + i) (my + j) (mz + k) ∧ R.2.y i j k = F.2.y (mx + i) (my + j) (mz + k) ∧
        R.2.z i j k = F.2.z (mx + i) (my + j) (mz + k)) := by
  intro U R F i j k hi hi' hj hj' hk hk'
  obtain ⟨⟨x1, y1, z1⟩, ⟨x2, y2, z2⟩⟩ := C33_two_planes_xy cf mx my hmx hmy hnx hny hfx hfy mt hxx hxy hmetx hmety
    jE jH E H sEx sHx sJEx sJHx sEy sHy sJEy sJHy n i j (mz + k) hi hi' hj hj'
  have hxz' : XInv (rotMat (rotMat (upperMat 1 my (upperMat 0 mx mt)))) := by
    rw [upperMat_rot_y, upperMat_rot_x, upperMat_rot_x, upperMat_rot_z]
    exact (hxz.upper 1 mx).upper 2 my
  obtain ⟨_, az1, az2⟩ := C33_reduceCfg_z (reduceCfg 1 (reduceCfg 0 cf)) mz hmz hnz hfz
    (upperMat 1 my (upperMat 0 mx mt)) hxz' ⟨hmetz.sf, hmetz.sb⟩
    (upperV 1 my (upperV 0 mx jE)) (upperV 1 my (upperV 0 mx jH)) (upperV 1 my (upperV 0 mx E))
    (upperV 1 my (upperV 0 mx H)) ((sEz.upper 1 mx).upper 2 my) ((sHz.upper 1 mx).upper 2 my)
    ((sJEz.upper 1 mx).upper 2 my) ((sJHz.upper 1 mx).upper 2 my) n
  obtain ⟨p1, q1, r1⟩ := az1 k hk hk' i j
  obtain ⟨p2, q2, r2⟩ := az2 k hk hk' i j
  exact ⟨⟨q1.trans x1, r1.trans y1, p1.trans z1⟩, ⟨q2.trans x2, r2.trans y2, p2.trans z2⟩⟩

end

/-! ### non-vacuity: a concrete non-trivial parity-symmetric state on a 4×2×2 domain (m = 2), far faces PMC / none -/

def exCfg : Cfg ℚ :=
  { nx := 4, ny := 2, nz := 2,
    bx := ⟨false, 1, 1, false, false, true, false⟩, by_ := ⟨true, 1, 1, false, false, false, false⟩,
    bz := ⟨false, 1, 1, true, false, false, false⟩,
    sfx := fun _ => 1, sfy := fun _ => 1, sfz := fun _ => 1, sbx := fun _ => 1, sby := fun _ => 1, sbz := fun _ => 1,
    c := 1 / 2, eta0 := 1 }

def exE : V3 ℚ :=
  { x := fun i j k => ((i : ℚ) - 3 / 2) ^ 2 + j, y := fun i j k => ((i : ℚ) - 2) * (1 + k), z := fun i j _ => ((i : ℚ) - 2) * (2 + j) }
def exH : V3 ℚ :=
  { x := fun i _ k => ((i : ℚ) - 2) * (3 + k), y := fun i j _ => ((i : ℚ) - 3 / 2) ^ 2 * (1 + j), z := fun _ j k => 5 + j + k }

/-- inside the window the mirrored indices `m - d`, `m - 1 - d` do not truncate -/
theorem cast_mirror_on {R : Type} [Ring R] {m d : Nat} (h : d < m) : ((m - d : ℕ) : R) = m - d :=
  Nat.cast_sub h.le

theorem cast_mirror_off {R : Type} [Ring R] {m d : Nat} (h : d < m) : ((m - 1 - d : ℕ) : R) = m - 1 - d := by
  rw [Nat.sub_sub, Nat.cast_sub (by omega), Nat.cast_add, Nat.cast_one, sub_sub]

-- every field of the parity predicates: with the casts moved inside, a polynomial identity in `d`, `j`, `k`
example : SymE 2 2 exE := by
  constructor
  all_goals
    intros
    simp only [exE, Nat.cast_add, Nat.cast_ofNat, cast_mirror_on, cast_mirror_off, *]
    ring

example : SymH 2 2 exH := by
  refine ⟨?_, ?_, ?_, fun _ _ _ _ => rfl⟩
  all_goals
    intros
    simp only [exH, Nat.cast_add, Nat.cast_ofNat, cast_mirror_on, cast_mirror_off, *]
    ring

example : MetricSym exCfg 2 2 := ⟨fun _ _ => rfl, fun _ _ _ => rfl⟩
example : XInv (K := ℚ) ⟨constV 2, constV 1, some (constV (1 / 3)), none⟩ := by
  constructor <;> intros <;> first | rfl | (simp only [Option.some.injEq] at *; subst_vars; rfl) | (simp at *)
example : RedOK exCfg 2 (reduceAxis exCfg.bx) (fun i => exCfg.sfx (2 + i))
    (fun i => if i = 0 then exCfg.sfx 2 else exCfg.sbx (2 + i)) :=
  (reduceCfg_ok exCfg 2 (by decide) rfl rfl).2
/-- the y-axis statement is not vacuous either: a field whose relabelling is `exE` -/
def unrotV (V : V3 ℚ) : V3 ℚ :=
  { x := fun a b c => V.z b c a, y := fun a b c => V.x b c a, z := fun a b c => V.y b c a }
example : rotV (unrotV exE) = exE := rfl
example : rotV (rotV (unrotV (unrotV exH))) = exH := rfl
example : SymE (K := ℚ) 2 2 (constV 0) ∧ SymH (K := ℚ) 2 2 (constV 0) := by
  constructor <;> constructor <;> intros <;> simp [constV]


/-! ### non-vacuity of the invariant and of the several-plane theorems -/

/-- mirror-symmetric far faces: PEC layer at the min x face, nothing at the max face -/
def exCfgSym : Cfg ℚ := { exCfg with bx := ⟨false, 1, 1, true, false, false, false⟩, ny := 4, by_ := ⟨false, 1, 1, false, true, false, false⟩ }
example : FarSym exCfgSym := ⟨rfl, rfl, rfl, rfl⟩

/-- a state with the PEC-mirror parity about the plane x = 2 AND about the plane y = 2 of a 4×4×2 domain -/
def exE2 : V3 ℚ :=
  { x := fun i j _ => ((i : ℚ) - 3 / 2) ^ 2 * ((j : ℚ) - 2), y := fun i j _ => ((i : ℚ) - 2) * ((j : ℚ) - 3 / 2) ^ 2,
    z := fun i j k => ((i : ℚ) - 2) * ((j : ℚ) - 2) * (1 + k) }
def exH2 : V3 ℚ :=
  { x := fun i j _ => ((i : ℚ) - 2) * ((j : ℚ) - 3 / 2) ^ 2, y := fun i j _ => ((i : ℚ) - 3 / 2) ^ 2 * ((j : ℚ) - 2),
    z := fun i j k => ((i : ℚ) - 3 / 2) ^ 2 * ((j : ℚ) - 3 / 2) ^ 2 + k }

example : SymE 2 2 exE2 ∧ SymE 2 2 (rotV exE2) := by
  refine ⟨⟨?_, ?_, ?_, ?_, ?_⟩, ⟨?_, ?_, ?_, ?_, ?_⟩⟩
  all_goals
    intros
    simp only [exE2, rotV, rotF, Nat.cast_add, Nat.cast_ofNat, cast_mirror_on, cast_mirror_off, *]
    ring

example : SymH 2 2 exH2 ∧ SymH 2 2 (rotV exH2) := by
  refine ⟨⟨?_, ?_, ?_, ?_⟩, ⟨?_, ?_, ?_, ?_⟩⟩
  all_goals
    intros
    simp only [exH2, rotV, rotF, Nat.cast_add, Nat.cast_ofNat, cast_mirror_on, cast_mirror_off, *]
    ring

example : MetricSym exCfgSym 2 2 ∧ MetricSym (rotCfg exCfgSym) 2 2 := ⟨⟨fun _ _ => rfl, fun _ _ _ => rfl⟩, ⟨fun _ _ => rfl, fun _ _ _ => rfl⟩⟩
example : XInv (rotMat (K := ℚ) ⟨constV 2, constV 1, none, none⟩) := by
  constructor <;> intros <;> first | rfl | (simp [rotMat] at *)

end Fdtdx.C33
