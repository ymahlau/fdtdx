/-
C41 — Wave descriptions and temporal profiles are self-consistent.

Theorems about `FdtdxModel/C41.lean` over an arbitrary (linearly ordered) field.  `WaveCharacter`: exactly one of period /
wavelength / frequency is accepted, and the three getters agree (period · frequency = 1, wavelength = c · period).
Profiles: the CW ramp is `min (max (t/D) 0) 1`, so the amplitude is bounded by 1 for all inputs (even a zero ramp
duration, in the field), 0 up to t = 0 and the bare carrier after the ramp; the Gaussian envelope lies in (0, 1]; the
custom sampled signal returns its samples at the sample times, their linear interpolant in between and `outside_value`
outside the sampled window.  The transcendental functions are abstract with exactly the hypotheses used, and are
instantiated with `Real.cos` / `Real.exp` at the end.
-/
import FdtdxModel.C41
import Mathlib.Tactic.Ring
import Mathlib.Algebra.Order.Field.Basic
import Mathlib.Algebra.Order.Floor.Ring
import Mathlib.Analysis.Complex.Trigonometric
import Mathlib.Analysis.Complex.Exponential

namespace Fdtdx.C41

/-! ### WaveCharacter -/
section wave
variable {K : Type} [Field K]

theorem C41_wave_valid_iff (w : Wave K) :
    w.valid = true ↔
      (w.period.isSome ∧ w.wavelength.isNone ∧ w.frequency.isNone) ∨
      (w.period.isNone ∧ w.wavelength.isSome ∧ w.frequency.isNone) ∨
      (w.period.isNone ∧ w.wavelength.isNone ∧ w.frequency.isSome) := by
  obtain ⟨p, l, f⟩ := w
  cases p <;> cases l <;> cases f <;> simp [Wave.valid]

/-- the three valid descriptions -/
inductive Given (K : Type) where
  | period (x : K) | wavelength (x : K) | frequency (x : K)

def Given.wave : Given K → Wave K
  | .period x => ⟨some x, none, none⟩
  | .wavelength x => ⟨none, some x, none⟩
  | .frequency x => ⟨none, none, some x⟩

def Given.value : Given K → K
  | .period x => x | .wavelength x => x | .frequency x => x

theorem given_valid (g : Given K) : g.wave.valid = true := by cases g <;> rfl

theorem C41_period_mul_frequency (c : K) (hc : c ≠ 0) (g : Given K) (hx : g.value ≠ 0) :
    ∃ p f, getPeriod c g.wave = some p ∧ getFrequency c g.wave = some f ∧ p * f = 1 := by
  cases g with
  | period x => exact ⟨x, 1 / x, rfl, rfl, mul_one_div_cancel hx⟩
  | wavelength x => exact ⟨x / c, c / x, rfl, rfl, (div_mul_div_cancel₀ hc).trans (div_self hx)⟩
  | frequency x => exact ⟨1 / x, x, rfl, rfl, one_div_mul_cancel hx⟩

theorem C41_wavelength_eq (c : K) (hc : c ≠ 0) (g : Given K) (hx : g.value ≠ 0) :
    ∃ p l, getPeriod c g.wave = some p ∧ getWavelength c g.wave = some l ∧ l = c * p := by
  cases g with
  | period x => exact ⟨x, x * c, rfl, rfl, mul_comm x c⟩
  | wavelength x => exact ⟨x / c, x, rfl, rfl, (mul_div_cancel₀ x hc).symm⟩
  | frequency x => exact ⟨1 / x, c / x, rfl, rfl, div_eq_mul_one_div c x⟩

theorem C41_wave_given (c x : K) :
    getPeriod c (Given.period x).wave = some x ∧ getWavelength c (Given.wavelength x).wave = some x ∧
    getFrequency c (Given.frequency x).wave = some x := ⟨rfl, rfl, rfl⟩

example : (Given.wavelength (3 / 2 : ℚ)).value ≠ 0 ∧ ((Given.wavelength (3 / 2 : ℚ)).wave).valid = true := by
  constructor
  · norm_num [Given.value]
  · rfl

end wave

/-! ### ramp, CW profile, Gaussian pulse -/
section profiles
variable {K : Type} [Field K] [LinearOrder K]

theorem clip_eq {α : Type} [LinearOrder α] (x lo hi : α) : clip x lo hi = min (max x lo) hi := by
  have hm : (if x < lo then lo else x) = max x lo := by
    split_ifs with h
    · exact (max_eq_right h.le).symm
    · exact (max_eq_left (not_lt.mp h)).symm
  simp only [clip, hm]
  split_ifs with h
  · exact (min_eq_right h.le).symm
  · exact (min_eq_left (not_lt.mp h)).symm

theorem rampup_eq (t d : K) : rampup t d = min (max (t / d) 0) 1 := clip_eq _ 0 1

variable [IsStrictOrderedRing K]

/-- C41_ramp_range: the ramp factor lies in [0, 1] for every time and every duration (also 0 or negative). -/
theorem C41_ramp_range (t d : K) : 0 ≤ rampup t d ∧ rampup t d ≤ 1 := by
  rw [rampup_eq]
  exact ⟨le_min (le_max_right _ _) zero_le_one, min_le_right _ _⟩

theorem C41_ramp_before (t d : K) (hd : 0 < d) (ht : t ≤ 0) : rampup t d = 0 := by
  rw [rampup_eq, max_eq_right (div_nonpos_of_nonpos_of_nonneg ht hd.le), min_eq_left zero_le_one]

theorem C41_ramp_inside (t d : K) (hd : 0 < d) (h0 : 0 ≤ t) (h1 : t ≤ d) : rampup t d = t / d := by
  rw [rampup_eq, max_eq_left (div_nonneg h0 hd.le), min_eq_left ((div_le_one hd).mpr h1)]

theorem C41_ramp_after (t d : K) (hd : 0 < d) (h1 : d ≤ t) : rampup t d = 1 := by
  have b : 1 ≤ t / d := (one_le_div hd).mpr h1
  rw [rampup_eq, max_eq_left (zero_le_one.trans b), min_eq_right b]

theorem C41_ramp_mono (s t d : K) (hd : 0 < d) (hst : s ≤ t) : rampup s d ≤ rampup t d := by
  rw [rampup_eq, rampup_eq]
  exact min_le_min (max_le_max (div_le_div_of_nonneg_right hst hd.le) le_rfl) le_rfl

theorem abs_mul_le_left {r c : K} (h0 : 0 ≤ r) (hc : |c| ≤ 1) : |r * c| ≤ r := by
  rw [abs_mul, abs_of_nonneg h0]
  exact mul_le_of_le_one_right h0 hc

theorem C41_cw_bound (cosf : K → K) (hcos : ∀ x, |cosf x| ≤ 1) (twoPi ns sp period phase t : K) :
    |cwAmplitude cosf twoPi ns sp period phase t| ≤ 1 :=
  have ⟨h0, h1⟩ := C41_ramp_range t (ns * period)
  (abs_mul_le_left h0 (hcos _)).trans h1

theorem C41_cw_zero_before_start (cosf : K → K) (twoPi ns sp period phase t : K) (hd : 0 < ns * period) (ht : t ≤ 0) :
    cwAmplitude cosf twoPi ns sp period phase t = 0 := by
  unfold cwAmplitude
  rw [C41_ramp_before t _ hd ht, zero_mul]

theorem C41_cw_after_ramp (cosf : K → K) (twoPi ns sp period phase t : K) (hd : 0 < ns * period) (ht : ns * period ≤ t) :
    cwAmplitude cosf twoPi ns sp period phase t = cosf (twoPi * t / period + phase + sp) := by
  unfold cwAmplitude
  rw [C41_ramp_after t _ hd ht, one_mul]

/-- the exponent is never positive, for any sigma (also 0) -/
theorem C41_envelope_range (expf : K → K) (hpos : ∀ x, 0 < expf x) (hle : ∀ x, x ≤ 0 → expf x ≤ 1) (t center sigma : K) :
    0 < gaussEnvelope expf 2 t center sigma ∧ gaussEnvelope expf 2 t center sigma ≤ 1 :=
  ⟨hpos _, hle _ (div_nonpos_of_nonpos_of_nonneg (neg_nonpos_of_nonneg (mul_self_nonneg _))
    (mul_nonneg zero_le_two (mul_self_nonneg _)))⟩

theorem C41_envelope_peak (expf : K → K) (h0 : expf 0 = 1) (center sigma : K) :
    gaussEnvelope expf 2 center center sigma = 1 := by
  unfold gaussEnvelope
  rw [sub_self, mul_zero, neg_zero, zero_div, h0]

theorem C41_gauss_bound (cosf expf : K → K) (hcos : ∀ x, |cosf x| ≤ 1) (hpos : ∀ x, 0 < expf x)
    (hle : ∀ x, x ≤ 0 → expf x ≤ 1) (twoPi sw fc cp phase t : K) :
    |gaussAmplitude cosf expf 2 6 twoPi sw fc cp phase t| ≤
        gaussEnvelope expf 2 t (6 * (1 / (twoPi * sw))) (1 / (twoPi * sw)) ∧
    |gaussAmplitude cosf expf 2 6 twoPi sw fc cp phase t| ≤ 1 :=
  have ⟨h0, h1⟩ := C41_envelope_range expf hpos hle t (6 * (1 / (twoPi * sw))) (1 / (twoPi * sw))
  have hb := abs_mul_le_left h0.le (hcos (twoPi * fc * t + phase + cp))
  ⟨hb, hb.trans h1⟩

end profiles

/-! ### custom sampled signal -/
section custom
variable {K : Type} [Field K] [LinearOrder K] [IsStrictOrderedRing K] [FloorRing K]

omit [IsStrictOrderedRing K] in
/-- linear mode at a time whose sample index `⌊(t - start) / dt⌋` is `k < n`: the interpolant of samples `k` and `k + 1`
(the last sample is repeated at the end) -/
theorem custom_of_floor (signal : List K) (start dt outside t : K) (k : Nat) (hk : k < signal.length)
    (hfl : ⌊(t - start) / dt⌋ = k) :
    customAmplitude Int.floor (fun z : Int => (z : K)) (1 / 2) signal start dt outside 0 t =
      (1 - ((t - start) / dt - k)) * signal.getD k 0 +
        ((t - start) / dt - k) * signal.getD (min (k + 1) (signal.length - 1)) 0 := by
  have h0 : ¬ (k : Int) < 0 := by omega
  have hn : ¬ (signal.length : Int) - 1 < k := by omega
  have hi1 : (if (signal.length : Int) - 1 < (k : Int) + 1 then (signal.length : Int) - 1 else k + 1).toNat =
      min (k + 1) (signal.length - 1) := by
    rcases Nat.lt_or_ge (k + 1) signal.length with h | h
    · rw [if_neg (by omega), Int.toNat_natCast_add_one, min_eq_left (Nat.le_sub_one_of_lt h)]
    · rw [if_pos (by omega), Int.pred_toNat, Int.toNat_natCast]
      exact (min_eq_right ((Nat.sub_le_of_le_add h).trans k.le_succ)).symm
  simp only [customAmplitude, hfl, h0, hn, hi1, if_false, Int.toNat_natCast, Int.cast_natCast, zero_ne_one,
    Int.natCast_nonneg, Nat.cast_lt, hk, decide_true, Bool.and_self, if_true]

theorem custom_eval (signal : List K) (start dt outside : K) (hdt : dt ≠ 0) (k : Nat) (hk : k < signal.length)
    (f : K) (hf0 : 0 ≤ f) (hf1 : f < 1) :
    customAmplitude Int.floor (fun z : Int => (z : K)) (1 / 2) signal start dt outside 0 (start + ((k : K) + f) * dt) =
      (1 - f) * signal.getD k 0 + f * signal.getD (min (k + 1) (signal.length - 1)) 0 := by
  have hidx : (start + ((k : K) + f) * dt - start) / dt = k + f := by
    rw [add_sub_cancel_left, mul_div_cancel_right₀ _ hdt]
  have hfl : ⌊(k : K) + f⌋ = k := by
    rw [Int.floor_natCast_add, Int.floor_eq_zero_iff.mpr ⟨hf0, hf1⟩, add_zero]
  rw [custom_of_floor signal start dt outside _ k hk (by rw [hidx, hfl]), hidx, add_sub_cancel_left]

theorem C41_custom_at_sample (signal : List K) (start dt outside : K) (hdt : dt ≠ 0) (k : Nat) (hk : k < signal.length) :
    customAmplitude Int.floor (fun z : Int => (z : K)) (1 / 2) signal start dt outside 0 (start + (k : K) * dt) =
      signal.getD k 0 := by
  have := custom_eval signal start dt outside hdt k hk 0 le_rfl zero_lt_one
  rwa [add_zero, sub_zero, one_mul, zero_mul, add_zero] at this

theorem C41_custom_linear (signal : List K) (start dt outside : K) (hdt : dt ≠ 0) (k : Nat) (hk : k + 1 < signal.length)
    (f : K) (hf0 : 0 ≤ f) (hf1 : f < 1) :
    customAmplitude Int.floor (fun z : Int => (z : K)) (1 / 2) signal start dt outside 0 (start + ((k : K) + f) * dt) =
      signal.getD k 0 + f * (signal.getD (k + 1) 0 - signal.getD k 0) := by
  rw [custom_eval signal start dt outside hdt k (Nat.lt_of_succ_lt hk) f hf0 hf1, min_eq_left (Nat.le_sub_one_of_lt hk)]
  ring

omit [IsStrictOrderedRing K] in
theorem custom_of_invalid (signal : List K) (start dt outside : K) (interp : Nat) (t : K)
    (h : ⌊(t - start) / dt⌋ < 0 ∨ (signal.length : Int) ≤ ⌊(t - start) / dt⌋) :
    customAmplitude Int.floor (fun z : Int => (z : K)) (1 / 2) signal start dt outside interp t = outside := by
  have hv : (decide (0 ≤ ⌊(t - start) / dt⌋) && decide (⌊(t - start) / dt⌋ < (signal.length : Int))) = false := by
    rw [Bool.and_eq_false_iff, decide_eq_false_iff_not, decide_eq_false_iff_not]
    omega
  simp only [customAmplitude, hv, Bool.false_eq_true, if_false]

theorem C41_custom_outside (signal : List K) (start dt outside : K) (hdt : 0 < dt) (interp : Nat) (t : K)
    (ht : t < start ∨ start + (signal.length : K) * dt ≤ t) :
    customAmplitude Int.floor (fun z : Int => (z : K)) (1 / 2) signal start dt outside interp t = outside := by
  apply custom_of_invalid
  rcases ht with h | h
  · left
    rw [Int.floor_lt, Int.cast_zero]
    exact div_neg_of_neg_of_pos (sub_neg.mpr h) hdt
  · right
    rw [Int.le_floor, Int.cast_natCast, le_div_iff₀ hdt]
    exact le_sub_iff_add_le'.mpr h

example : customAmplitude Int.floor (fun z : Int => (z : ℚ)) (1 / 2) [1, 3, 2] 0 (1 / 2) 0 0 (3 / 4) = 5 / 2 := by
  decide +kernel

end custom

/-! ### instantiation with the real cosine and exponential -/

theorem C41_cw_bound_real (twoPi ns sp period phase t : ℝ) :
    |cwAmplitude Real.cos twoPi ns sp period phase t| ≤ 1 :=
  C41_cw_bound Real.cos Real.abs_cos_le_one twoPi ns sp period phase t

theorem C41_gauss_bound_real (twoPi sw fc cp phase t : ℝ) :
    |gaussAmplitude Real.cos Real.exp 2 6 twoPi sw fc cp phase t| ≤ 1 :=
  (C41_gauss_bound Real.cos Real.exp Real.abs_cos_le_one Real.exp_pos (fun _ h => Real.exp_le_one_iff.mpr h)
    twoPi sw fc cp phase t).2

theorem C41_envelope_range_real (t center sigma : ℝ) :
    0 < gaussEnvelope Real.exp 2 t center sigma ∧ gaussEnvelope Real.exp 2 t center sigma ≤ 1 :=
  C41_envelope_range Real.exp Real.exp_pos (fun _ h => Real.exp_le_one_iff.mpr h) t center sigma

end Fdtdx.C41
