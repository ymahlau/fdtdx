/-
C39 — Material descriptions are normalised and classified consistently.

Theorems about `FdtdxModel/C39.lean`, over an arbitrary linearly ordered field `K` (so for ℝ and ℚ), all inputs.
Normalisation: the four input forms of one tensor (scalar, 3-tuple, 9-tuple, nested 3x3) give the same 9-tuple; other
lengths and 3-tuples with a non-float raise.  Predicates: `math.isclose` with 0 ≤ rel_tol < 1 is the relative test, and
equality against 0; hence `isDiag p ⇔ p = (x,0,0,0,y,0,0,0,z)`, isotropic ⇒ diagonal with each of the six off-diagonal
entries 0 and neighbouring diagonal entries relatively close, conductive ⇔ some entry non-zero.  Order: `ordered` is
Mathlib's `insertionSort` by the 4-entry key; every per-property list, in every mode, and the rows of the dispersive
coefficient arrays are projections of this ONE list, which does not depend on the dict's insertion order when the keys
are pairwise distinct.  Complex permittivity: σ = ω ε0 ε'' gives back ε'' at the reference frequency.
-/
import FdtdxModel.C39
import Mathlib.Algebra.Order.Field.Basic
import Mathlib.Algebra.Order.AbsoluteValue.Basic
import Mathlib.Data.List.Sort
import Mathlib.Data.Prod.Lex
import Mathlib.Data.List.Nodup

namespace Fdtdx.C39

/-! ### normalisation -/
section norm
variable {K : Type} [Field K]

theorem C39_norm_scalar_eq_diag3 (v : K) :
    normalize (.scalar v) = normalize (.tuple [.flt v, .flt v, .flt v]) := rfl

theorem C39_norm_diag3_eq_flat9 (x y z : K) :
    normalize (.tuple [.flt x, .flt y, .flt z]) = normalize (.tuple ([x, 0, 0, 0, y, 0, 0, 0, z].map .flt)) := rfl

theorem C39_norm_nested_eq_flat9 (a0 a1 a2 b0 b1 b2 c0 c1 c2 : K) :
    normalize (.tuple [.row [a0, a1, a2], .row [b0, b1, b2], .row [c0, c1, c2]]) =
      normalize (.tuple ([a0, a1, a2, b0, b1, b2, c0, c1, c2].map .flt)) := rfl

theorem C39_norm_scalar_eq_nested (v : K) :
    normalize (.scalar v) = normalize (.tuple [.row [v, 0, 0], .row [0, v, 0], .row [0, 0, v]]) := rfl

theorem mapM_some_length {α β : Type} (f : α → Option β) :
    ∀ (l : List α) (p : List β), l.mapM f = some p → p.length = l.length
  | [], p, h => by
    rw [List.mapM_nil] at h
    exact Option.some.inj h ▸ rfl
  | x :: rest, p, h => by
    simp only [List.mapM_cons, Option.bind_eq_bind, Option.bind_eq_some_iff, Option.pure_def, Option.some.injEq] at h
    obtain ⟨v, -, q, hq, rfl⟩ := h
    rw [List.length_cons, List.length_cons, mapM_some_length f rest q hq]

theorem C39_norm_length (inp : Input K) (p : List K) (h : normalize inp = some p) : p.length = 9 := by
  unfold normalize at h
  split at h
  · exact Option.some.inj h ▸ rfl
  · split_ifs at h with h3 h9
    · split at h
      · split_ifs at h with hl
        simp only [ne_eq, not_or, not_not] at hl
        rw [← Option.some.inj h, List.length_append, List.length_append, hl.1, hl.2.1, hl.2.2]
      · exact Option.some.inj h ▸ rfl
      · cases h
    · rw [mapM_some_length _ _ p h, h9]

theorem C39_norm_badlen (items : List (Item K)) (h3 : items.length ≠ 3) (h9 : items.length ≠ 9) :
    normalize (.tuple items) = none := by
  simp only [normalize, h3, h9, if_false]

/-- a 3-tuple containing a number that is not a Python float (e.g. `(1, 2.0, 3.0)`) is rejected -/
theorem C39_norm_nonfloat3 (x y z : K) :
    normalize (.tuple [.other x, .flt y, .flt z]) = none ∧ normalize (.tuple [.flt x, .other y, .flt z]) = none ∧
    normalize (.tuple [.flt x, .flt y, .other z]) = none ∧ normalize (.tuple [.row [x, y, z], .flt y, .flt z]) = none :=
  ⟨rfl, rfl, rfl, rfl⟩

example : normalize (.tuple [.flt (2 : ℚ), .flt 3, .flt 4]) = some [2, 0, 0, 0, 3, 0, 0, 0, 4] := rfl

end norm

/-! ### predicates -/
section pred
variable {K : Type} [Field K] [LinearOrder K]

/-- the `a == b` shortcut of `math.isclose`: needs nothing of the tolerance -/
theorem close_self (rel a : K) : close rel a a = true := by
  simp only [close, lt_self_iff_false, decide_false, Bool.not_false, Bool.and_self, Bool.true_or]

/-- the 3-tuple form passes the off-diagonal tests, whatever the tolerance -/
theorem isDiag_diag3 (rel x y z : K) : isDiag rel [x, 0, 0, 0, y, 0, 0, 0, z] = true := by
  simp only [isDiag, List.all_cons, List.all_nil, at9, List.getD_cons_succ, List.getD_cons_zero, close_self, Bool.and_self]

theorem isIso_scalar (rel v : K) : isIso rel [v, 0, 0, 0, v, 0, 0, 0, v] = true := by
  rw [isIso, isDiag_diag3]
  simp only [at9, List.getD_cons_succ, List.getD_cons_zero, close_self, Bool.and_self]

variable [IsStrictOrderedRing K]

theorem absv_eq_abs (x : K) : absv x = |x| := by
  unfold absv
  split_ifs with h
  · exact (abs_of_neg h).symm
  · exact (abs_of_nonneg (not_lt.mp h)).symm

/-- C39_close_iff: the model of `math.isclose(a, b, rel_tol=rel)` is the relative test (`a == b` is subsumed). -/
theorem C39_close_iff (rel a b : K) (hr : 0 ≤ rel) :
    close rel a b = true ↔ |b - a| ≤ rel * |b| ∨ |b - a| ≤ rel * |a| := by
  simp only [close, Bool.or_eq_true, Bool.and_eq_true, Bool.not_eq_true', decide_eq_false_iff_not, decide_eq_true_eq,
    absv_eq_abs, abs_mul, abs_of_nonneg hr, or_assoc]
  refine or_iff_right_of_imp fun ⟨h1, h2⟩ => Or.inl ?_
  rw [le_antisymm (not_lt.mp h2) (not_lt.mp h1), sub_self, abs_zero]
  exact mul_nonneg hr (abs_nonneg _)

/-- C39_close_zero_iff: against 0 the relative test is exact equality (this is what the off-diagonal tests use). -/
theorem C39_close_zero_iff (rel a : K) (hr : 0 ≤ rel) (hr1 : rel < 1) : close rel a 0 = true ↔ a = 0 := by
  refine ⟨fun h => ?_, fun h => h ▸ close_self rel 0⟩
  rw [C39_close_iff rel a 0 hr, abs_zero, mul_zero, zero_sub, abs_neg, abs_nonpos_iff] at h
  -- `|a| ≤ rel·|a|` with `rel < 1` leaves only `a = 0`
  by_contra hne
  exact (h.resolve_left hne).not_gt (mul_lt_of_lt_one_left (abs_pos.mpr hne) hr1)

theorem at9_cons_succ (x : K) (xs : List K) (i : Nat) : at9 (x :: xs) (i + 1) = at9 xs i := rfl

theorem len9 {α : Type} (p : List α) (h : p.length = 9) : ∃ a b c d e f g i j, p = [a, b, c, d, e, f, g, i, j] := by
  match p, h with
  | [a, b, c, d, e, f, g, i, j], _ => exact ⟨a, b, c, d, e, f, g, i, j, rfl⟩

theorem C39_isDiag_iff (rel : K) (hr : 0 ≤ rel) (hr1 : rel < 1) (p : List K) (hp : p.length = 9) :
    isDiag rel p = true ↔ ∃ x y z, p = [x, 0, 0, 0, y, 0, 0, 0, z] := by
  refine ⟨fun h => ?_, fun ⟨x, y, z, e⟩ => e ▸ isDiag_diag3 rel x y z⟩
  obtain ⟨a, b, c, d, e, f, g, i, j, rfl⟩ := len9 p hp
  simp only [isDiag, List.all_cons, List.all_nil, Bool.and_true, Bool.and_eq_true, at9, List.getD_cons_succ,
    List.getD_cons_zero, C39_close_zero_iff rel _ hr hr1] at h
  obtain ⟨rfl, rfl, rfl, rfl, rfl, rfl⟩ := h
  exact ⟨a, e, j, rfl⟩

theorem C39_isIso_iff (rel : K) (hr : 0 ≤ rel) (hr1 : rel < 1) (p : List K) (hp : p.length = 9) :
    isIso rel p = true ↔ ∃ x y z, p = [x, 0, 0, 0, y, 0, 0, 0, z] ∧
      (|y - x| ≤ rel * |y| ∨ |y - x| ≤ rel * |x|) ∧ (|z - y| ≤ rel * |z| ∨ |z - y| ≤ rel * |y|) := by
  rw [isIso, Bool.and_eq_true, Bool.and_eq_true, C39_isDiag_iff rel hr hr1 p hp, C39_close_iff _ _ _ hr,
    C39_close_iff _ _ _ hr]
  constructor
  · rintro ⟨⟨h1, h2⟩, x, y, z, rfl⟩
    exact ⟨x, y, z, rfl, h1, h2⟩
  · rintro ⟨x, y, z, rfl, h1, h2⟩
    exact ⟨⟨h1, h2⟩, x, y, z, rfl⟩

theorem C39_isIso_imp_isDiag (rel : K) (p : List K) (h : isIso rel p = true) : isDiag rel p = true :=
  (Bool.and_eq_true_iff.mp h).2

/-- C39_isIso_offdiag_zero: an isotropic tensor has EVERY off-diagonal entry equal to zero (each one separately — entries
that merely cancel, as in a gyrotropic tensor (v, g, 0, -g, v, 0, 0, 0, v), do not count) and diagonal entries within the
relative tolerance. -/
theorem C39_isIso_offdiag_zero (rel : K) (hr : 0 ≤ rel) (hr1 : rel < 1) (p : List K) (hp : p.length = 9)
    (h : isIso rel p = true) :
    at9 p 1 = 0 ∧ at9 p 2 = 0 ∧ at9 p 3 = 0 ∧ at9 p 5 = 0 ∧ at9 p 6 = 0 ∧ at9 p 7 = 0 ∧
    close rel (at9 p 0) (at9 p 4) = true ∧ close rel (at9 p 4) (at9 p 8) = true := by
  obtain ⟨x, y, z, rfl⟩ := (C39_isDiag_iff rel hr hr1 p hp).mp (C39_isIso_imp_isDiag rel p h)
  rw [isIso, Bool.and_eq_true, Bool.and_eq_true] at h
  exact ⟨rfl, rfl, rfl, rfl, rfl, rfl, h.1.1, h.1.2⟩

/-- a gyrotropic tensor (cancelling off-diagonals, equal diagonal) is neither isotropic nor diagonal -/
example : isIso (1 / 1000000000 : ℚ) [2, 3 / 10, 0, -3 / 10, 2, 0, 0, 0, 2] = false ∧
    isDiag (1 / 1000000000 : ℚ) [2, 3 / 10, 0, -3 / 10, 2, 0, 0, 0, 2] = false := by decide +kernel

theorem C39_isIso_exact (p : List K) (hp : p.length = 9) :
    isIso 0 p = true ↔ ∃ v, some p = normalize (.scalar v) := by
  rw [C39_isIso_iff 0 le_rfl zero_lt_one p hp]
  simp only [zero_mul, abs_nonpos_iff, or_self, sub_eq_zero, normalize, Option.some.injEq]
  constructor
  · rintro ⟨x, y, z, rfl, rfl, rfl⟩; exact ⟨z, rfl⟩
  · rintro ⟨v, rfl⟩; exact ⟨v, v, v, rfl, rfl, rfl⟩

theorem C39_iso_scalar (rel v : K) (hr : 0 ≤ rel) (hr1 : rel < 1) (p : List K) (h : normalize (.scalar v) = some p) :
    isIso rel p = true ∧ isDiag rel p = true :=
  Option.some.inj h ▸ ⟨isIso_scalar rel v, isDiag_diag3 rel v v v⟩

theorem C39_diag_diag3 (rel x y z : K) (hr : 0 ≤ rel) (hr1 : rel < 1) (p : List K)
    (h : normalize (.tuple [.flt x, .flt y, .flt z]) = some p) : isDiag rel p = true :=
  Option.some.inj h ▸ isDiag_diag3 rel x y z

theorem C39_isConductive_iff (rel : K) (hr : 0 ≤ rel) (hr1 : rel < 1) (p : List K) (hp : p.length = 9) :
    isConductive rel p = true ↔ p ≠ [0, 0, 0, 0, 0, 0, 0, 0, 0] := by
  obtain ⟨a, b, c, d, e, f, g, i, j, rfl⟩ := len9 p hp
  unfold isConductive
  rw [Bool.not_eq_true', ← Bool.not_eq_true, not_iff_not]
  simp only [List.range, List.range.loop, List.all_cons, List.all_nil, Bool.and_true, Bool.and_eq_true, at9,
    List.getD_cons_succ, List.getD_cons_zero, C39_close_zero_iff rel _ hr hr1, List.cons.injEq, and_true]

example : isIso (1 / 1000000000 : ℚ) [2, 0, 0, 0, 2, 0, 0, 0, 2] = true := by decide +kernel
example : isIso (1 / 1000000000 : ℚ) [2, 0, 0, 0, 3, 0, 0, 0, 2] = false := by decide +kernel
example : isDiag (1 / 1000000000 : ℚ) [2, 0, 0, 0, 3, 0, 0, 0, 2] = true := by decide +kernel
example : isDiag (1 / 1000000000 : ℚ) [2, 0, 1 / 1000000000000, 0, 3, 0, 0, 0, 2] = false := by decide +kernel

end pred

/-! ### one common order -/
section order
variable {K : Type} [Field K] [LinearOrder K]

/-- the key as an element of the lexicographic product -/
def lexKey (k : K × K × K × K) : K ×ₗ K ×ₗ K ×ₗ K := toLex (k.1, toLex (k.2.1, toLex (k.2.2.1, k.2.2.2)))

/-- one level of Python's tuple comparison: "smaller, or not greater and the rest decides" is the lexicographic step -/
theorem lt_or_not_gt_and {α : Type} [LinearOrder α] {a b : α} {p : Prop} : a < b ∨ ¬ b < a ∧ p ↔ a < b ∨ a = b ∧ p := by
  constructor
  · rintro (h | ⟨h, hp⟩)
    · exact Or.inl h
    · exact (lt_or_eq_of_le (not_lt.mp h)).imp_right fun e => ⟨e, hp⟩
  · rintro (h | ⟨rfl, hp⟩)
    · exact Or.inl h
    · exact Or.inr ⟨lt_irrefl _, hp⟩

omit [Field K] in
theorem keyLt_iff (a b : K × K × K × K) : keyLt a b = true ↔ lexKey a < lexKey b := by
  simp only [keyLt, lexKey, Prod.Lex.toLex_lt_toLex, Bool.or_eq_true, Bool.and_eq_true, Bool.not_eq_true',
    decide_eq_true_eq, decide_eq_false_iff_not, lt_or_not_gt_and]

variable {ν : Type}

/-- the order relation the materials are sorted by -/
def matLe (a b : ν × Mat K) : Prop := lexKey (key a.2) ≤ lexKey (key b.2)

instance : DecidableRel (matLe (K := K) (ν := ν)) := fun a b => by unfold matLe; infer_instance
instance : Std.Total (matLe (K := K) (ν := ν)) := ⟨fun _ _ => le_total _ _⟩
instance : IsTrans (ν × Mat K) (matLe (K := K) (ν := ν)) := ⟨fun _ _ _ h1 h2 => le_trans h1 h2⟩

theorem insertBy_eq (x : ν × Mat K) (l : List (ν × Mat K)) :
    insertBy (fun a b => keyLt (key a.2) (key b.2)) x l = List.orderedInsert matLe x l := by
  induction l with
  | nil => rfl
  | cons y ys ih =>
    simp only [insertBy, List.orderedInsert_cons]
    by_cases h : keyLt (key y.2) (key x.2) = true
    · have : ¬ matLe x y := by unfold matLe; exact not_le.mpr ((keyLt_iff _ _).mp h)
      rw [if_pos h, if_neg this, ih]
    · have : matLe x y := by
        unfold matLe; exact not_lt.mp (fun hh => h ((keyLt_iff _ _).mpr hh))
      rw [if_neg h, if_pos this]

theorem ordered_eq (ms : List (ν × Mat K)) : ordered ms = List.insertionSort matLe ms := by
  unfold ordered
  induction ms with
  | nil => rfl
  | cons x xs ih => simp only [sortBy, List.insertionSort_cons, ih, insertBy_eq]

theorem C39_ordered_perm (ms : List (ν × Mat K)) : (ordered ms).Perm ms := by
  rw [ordered_eq]; exact List.perm_insertionSort _ _

/-- C39_ordered_sorted: ascending in (permittivity[0], permeability[0], el. conductivity[0], magn. conductivity[0]). -/
theorem C39_ordered_sorted (ms : List (ν × Mat K)) :
    (ordered ms).Pairwise (fun a b => lexKey (key a.2) ≤ lexKey (key b.2)) := by
  rw [ordered_eq]; exact List.pairwise_insertionSort matLe ms

theorem getElem?_map_of_lt {α β : Type} (g : α → β) {l : List α} {i : Nat} (h : i < l.length) :
    (l.map g)[i]? = some (g l[i]) :=
  List.getElem?_map.trans (congrArg _ (List.getElem?_eq_getElem h))

/-- C39_lists_one_order: whatever property and list mode, entry `i` of the list is the projection of the material
whose name is entry `i` of `orderedNames` — all lists share the order of `ordered`. -/
theorem C39_lists_one_order (sel : Mat K → List K) (mode : Nat) (ms : List (ν × Mat K)) :
    (allowed sel mode ms).length = (orderedNames ms).length ∧
    ∀ i (h : i < (ordered ms).length),
      (orderedNames ms)[i]? = some ((ordered ms)[i]).1 ∧
      (allowed sel mode ms)[i]? = some (project mode (sel ((ordered ms)[i]).2)) :=
  ⟨(List.length_map _).trans (List.length_map _).symm, fun _ h => ⟨getElem?_map_of_lt _ h, getElem?_map_of_lt _ h⟩⟩

/-- C39_dispersive_one_order: the rows of the dispersive coefficient arrays use the same order as every other list:
row `i` is the coefficient block of the material named `orderedNames[i]` (and there is one row per material). -/
theorem C39_dispersive_one_order (ms : List (ν × Mat K)) :
    (dispersiveTable ms).length = (orderedNames ms).length ∧
    ∀ i (h : i < (ordered ms).length),
      (orderedNames ms)[i]? = some ((ordered ms)[i]).1 ∧ (dispersiveTable ms)[i]? = some ((ordered ms)[i]).2.disp :=
  -- the table is the list of the selector `Mat.disp` in full mode
  C39_lists_one_order Mat.disp 2 ms

/-- C39_order_independent: with pairwise distinct keys the order is a function of the SET of materials — reordering
the dict changes nothing.  (With tied keys Python's stable sort keeps the insertion order of the tied materials.) -/
theorem C39_order_independent (ms ms' : List (ν × Mat K)) (hperm : ms.Perm ms')
    (hnd : (ms.map fun m => lexKey (key m.2)).Nodup) : ordered ms = ordered ms' := by
  -- two sorted permutations of one list agree as soon as `≤` is antisymmetric on its members
  refine List.Perm.eq_of_pairwise (fun a b ha hb hab hba => ?_) (C39_ordered_sorted ms) (C39_ordered_sorted ms')
    ((C39_ordered_perm ms).trans (hperm.trans (C39_ordered_perm ms').symm))
  exact List.inj_on_of_nodup_map hnd ((C39_ordered_perm ms).mem_iff.mp ha)
    (hperm.mem_iff.mpr ((C39_ordered_perm ms').mem_iff.mp hb)) (le_antisymm hab hba)

example : orderedNames [("b", ({ eps := [4], mu := [1], sigE := [0], sigM := [0] } : Mat ℚ)),
    ("a", { eps := [2], mu := [1], sigE := [0], sigM := [0] }), ("c", { eps := [2], mu := [1], sigE := [1/2], sigM := [0] })]
    = ["a", "c", "b"] := by decide +kernel

end order

/-! ### complex permittivity at the reference frequency -/
section cplx
variable {K : Type} [Field K]

/-- C39_complex_roundtrip: the real parts are kept, and the conductivity σ = ω·ε0·ε'' gives back
ε'' = σ/(ω·ε0) — the imaginary part of the effective permittivity ε' + iσ/(ωε0) at the reference frequency. -/
theorem C39_complex_roundtrip (omega vac : K) (ho : omega ≠ 0) (hv : vac ≠ 0) (v : List (K × K)) :
    (splitComplex omega vac v).1 = v.map (·.1) ∧
    ((splitComplex omega vac v).2.map fun s => s / (omega * vac)) = v.map (·.2) := by
  refine ⟨rfl, ?_⟩
  rw [splitComplex, List.map_map]
  exact List.map_congr_left fun c _ => mul_div_cancel_left₀ c.2 (mul_ne_zero ho hv)

/-- the reference angular frequency is non-zero whenever it comes from a non-zero frequency or wavelength -/
theorem C39_omega_ne_zero (twoPi c x : K) (h2 : twoPi ≠ 0) (hc : c ≠ 0) (hx : x ≠ 0) :
    twoPi * x ≠ 0 ∧ twoPi * (c / x) ≠ 0 :=
  ⟨mul_ne_zero h2 hx, mul_ne_zero h2 (div_ne_zero hc hx)⟩

example : (splitComplex (2 : ℚ) 3 [(5, 1/2)]).2.map (fun s => s / (2 * 3)) = [1/2] := by decide +kernel

end cplx

end Fdtdx.C39
