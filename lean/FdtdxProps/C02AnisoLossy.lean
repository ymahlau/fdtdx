/-
C02 — LOSSY full 3×3 tensors: what the reverse step does reconstruct.

With σ ≠ none the full-tensor reverse update is not an inverse of the forward update (`aniso_lossy_roundtrip_fails` of
C02Aniso): the off-diagonal entries of A and A_rev act on neighbour AVERAGES.  What survives is local
(`aniso_lossy_reconstructs_local_E` / `_H`): at a cell on no wall layer whose 3×3 systems are regular (`LossOK`) and at
which the six neighbour averages return the value of the cell itself (`AvgFixed`) for the three arrays the two half steps
average — the field, the curl of the other field, the updated field minus its source term — the reverse half step
returns the field at that cell, for any halo rule, metric, widths, sources and any state elsewhere.  There every half
step is a plain 3×3 product of the cell's own values (`cellAt`, `rowsApply_fixed`), undone by `aniso_lossy_cell_local`.
`aniso_lossy_reconstructs_const` is the instance where the hypotheses hold at every cell: homogeneous medium, every axis
periodic with ghost multipliers 1 and no walls, uniform averaging, 2 ≠ 0, spatially constant E and H.

`AvgFixed` is exactly what fails in the witness (the zero halo makes the average of E_x a quarter of its value).  The
implementation-side oracle `lossy_local_fails` of harness/c02.py evaluates these instances on the real code.
-/
import FdtdxProps.C02Aniso
import Mathlib.Tactic.NormNum

namespace Fdtdx.C02
open Fdtdx Fdtdx.Yee Fdtdx.YeeAniso Fdtdx.C01

section
variable {K : Type} [Field K]

def cellAt (V : V3 K) (i j k : Nat) : K × K × K := (V.x i j k, V.y i j k, V.z i j k)

theorem cellAt_addV (A B : V3 K) (i j k : Nat) : cellAt (addV A B) i j k = cellAt A i j k + cellAt B i j k := rfl

theorem cellAt_subV (A B : V3 K) (i j k : Nat) : cellAt (subV A B) i j k = cellAt A i j k - cellAt B i j k := rfl

theorem cellAt_maskV (m : Nat → Nat → Nat → Nat → Bool) (U : V3 K) (i j k : Nat)
    (h0 : m 0 i j k = false) (h1 : m 1 i j k = false) (h2 : m 2 i j k = false) :
    cellAt (maskV m U) i j k = cellAt U i j k := by
  simp only [cellAt, maskV, h0, h1, h2, Bool.false_eq_true, if_false]

/-- the six neighbour averages used by the rows of a full-tensor update return, at the cell, the value of the cell -/
structure AvgFixed (avg : Nat → Nat → F3 K → F3 K) (V : V3 K) (i j k : Nat) : Prop where
  yx : avg 1 0 V.y i j k = V.y i j k
  zx : avg 2 0 V.z i j k = V.z i j k
  xy : avg 0 1 V.x i j k = V.x i j k
  zy : avg 2 1 V.z i j k = V.z i j k
  xz : avg 0 2 V.x i j k = V.x i j k
  yz : avg 1 2 V.y i j k = V.y i j k

theorem rowsApply_fixed (avg : Nat → Nat → F3 K → F3 K) (T : F3 (M3 K)) (V : V3 K) (i j k : Nat)
    (h : AvgFixed avg V i j k) : cellAt (rowsApply avg T V) i j k = M3.vec (T i j k) (cellAt V i j k) := by
  simp only [cellAt, rowsApply, M3.vec, h.yx, h.zx, h.xy, h.zy, h.xz, h.yz]

/-- **aniso_lossy_reconstructs_local_E**: at such a cell both half steps are plain 3×3 products of the cell's own
matrices and values (`cellAt` passes through the projection, the sums and, by `rowsApply_fixed`, the rows), and those
are inverted by `aniso_lossy_cell_local`. -/
theorem aniso_lossy_reconstructs_local_E (cf : Cfg K) (aw : Option (AW K)) (inv : F3 (M3 K)) (sig : Option (F3 (M3 K)))
    (jE E H : V3 K) (i j k : Nat)
    (hm0 : pecMask cf 0 i j k = false) (hm1 : pecMask cf 1 i j k = false) (hm2 : pecMask cf 2 i j k = false)
    (hl : LossOK cf.c cf.eta0 (inv i j k) (sigAt sig i j k))
    (hE : AvgFixed (avgE cf aw) E i j k) (hK : AvgFixed (avgE cf aw) (curlH cf H) i j k)
    (hE' : AvgFixed (avgE cf aw) (subV (stepEFull cf aw inv sig jE E H) jE) i j k) :
    (revStepEFull cf aw inv sig jE (stepEFull cf aw inv sig jE E H) H).x i j k = E.x i j k
    ∧ (revStepEFull cf aw inv sig jE (stepEFull cf aw inv sig jE E H) H).y i j k = E.y i j k
    ∧ (revStepEFull cf aw inv sig jE (stepEFull cf aw inv sig jE E H) H).z i j k = E.z i j k := by
  have h : cellAt (revStepEFull cf aw inv sig jE (stepEFull cf aw inv sig jE E H) H) i j k = cellAt E i j k := by
    simp only [revStepEFull, projE, cellAt_maskV _ _ i j k hm0 hm1 hm2, cellAt_subV, rowsApply_fixed _ _ _ i j k hE',
      rowsApply_fixed _ _ _ i j k hK]
    simp only [stepEFull, projE, cellAt_maskV _ _ i j k hm0 hm1 hm2, cellAt_addV, rowsApply_fixed _ _ _ i j k hE,
      rowsApply_fixed _ _ _ i j k hK, add_sub_cancel_right]
    exact aniso_lossy_cell_local _ _ _ _ hl _ _
  exact ⟨congrArg Prod.fst h, congrArg (fun p => p.2.1) h, congrArg (fun p => p.2.2) h⟩

/-- **aniso_lossy_reconstructs_local_H**: the same for the H half step (PMC layers, curl of E). -/
theorem aniso_lossy_reconstructs_local_H (cf : Cfg K) (aw : Option (AW K)) (inv : F3 (M3 K)) (sig : Option (F3 (M3 K)))
    (jH E' H : V3 K) (i j k : Nat)
    (hm0 : pmcMask cf 0 i j k = false) (hm1 : pmcMask cf 1 i j k = false) (hm2 : pmcMask cf 2 i j k = false)
    (hl : LossOK cf.c (1 / cf.eta0) (inv i j k) (sigAt sig i j k))
    (hH : AvgFixed (avgH cf aw) H i j k) (hK : AvgFixed (avgH cf aw) (curlE cf E') i j k)
    (hH' : AvgFixed (avgH cf aw) (subV (stepHFull cf aw inv sig jH E' H) jH) i j k) :
    (revStepHFull cf aw inv sig jH E' (stepHFull cf aw inv sig jH E' H)).x i j k = H.x i j k
    ∧ (revStepHFull cf aw inv sig jH E' (stepHFull cf aw inv sig jH E' H)).y i j k = H.y i j k
    ∧ (revStepHFull cf aw inv sig jH E' (stepHFull cf aw inv sig jH E' H)).z i j k = H.z i j k := by
  have h : cellAt (revStepHFull cf aw inv sig jH E' (stepHFull cf aw inv sig jH E' H)) i j k = cellAt H i j k := by
    simp only [revStepHFull, projH, cellAt_maskV _ _ i j k hm0 hm1 hm2, cellAt_addV, cellAt_subV,
      rowsApply_fixed _ _ _ i j k hH', rowsApply_fixed _ _ _ i j k hK]
    simp only [stepHFull, projH, cellAt_maskV _ _ i j k hm0 hm1 hm2, cellAt_addV, cellAt_subV,
      rowsApply_fixed _ _ _ i j k hH, rowsApply_fixed _ _ _ i j k hK, add_sub_cancel_right]
    exact aniso_lossy_cell_local_H _ _ _ _ hl _ _
  exact ⟨congrArg Prod.fst h, congrArg (fun p => p.2.1) h, congrArg (fun p => p.2.2) h⟩

/-! ### instance: homogeneous lossy medium, fully periodic domain, spatially constant state -/

def cV (v : K × K × K) : V3 K := ⟨fun _ _ _ => v.1, fun _ _ _ => v.2.1, fun _ _ _ => v.2.2⟩

def cT (T : M3 K) : F3 (M3 K) := fun _ _ _ => T
def cSig (S : Option (M3 K)) : Option (F3 (M3 K)) := S.map cT

omit [Field K] in
theorem sigAt_cSig (S : Option (M3 K)) (i j k : Nat) : sigAt (cSig S) i j k = S := by
  cases S <;> rfl

theorem subV_const (u v : K × K × K) : subV (cV u) (cV v) = cV (u - v) := rfl

theorem eq_cV (V : V3 K) (v : K × K × K) (h : ∀ i j k, cellAt V i j k = v) : V = cV v := by
  apply V3.ext' <;> intro i j k
  exacts [congrArg Prod.fst (h i j k), congrArg (fun p => p.2.1) (h i j k), congrArg (fun p => p.2.2) (h i j k)]

/-- an axis that wraps with ghost multipliers 1 and carries no wall -/
def PerAxis (b : AxisBC K) : Prop :=
  b.wrap = true ∧ b.pp = 1 ∧ b.pm = 1 ∧ b.pecLo = false ∧ b.pecHi = false ∧ b.pmcLo = false ∧ b.pmcHi = false

structure PeriodicAll (cf : Cfg K) : Prop where
  x : PerAxis cf.bx
  y : PerAxis cf.by_
  z : PerAxis cf.bz

theorem next1_const (n : Nat) (b : AxisBC K) (hb : PerAxis b) (c : K) (i : Nat) : next1 n b (fun _ => c) i = c := by
  unfold next1; simp [hb.1, hb.2.1]

theorem prev1_const (n : Nat) (b : AxisBC K) (hb : PerAxis b) (c : K) (i : Nat) : prev1 n b (fun _ => c) i = c := by
  unfold prev1; simp [hb.1, hb.2.2.1]

section
variable (cf : Cfg K) (hP : PeriodicAll cf)
include hP

theorem nextAx_const (ax : Nat) (c : K) : nextAx cf ax (fun _ _ _ => c) = fun _ _ _ => c := by
  match ax with
  | 0 => funext i j k; exact next1_const cf.nx cf.bx hP.x c i
  | 1 => funext i j k; exact next1_const cf.ny cf.by_ hP.y c j
  | n + 2 => funext i j k; exact next1_const cf.nz cf.bz hP.z c k

theorem prevAx_const (ax : Nat) (c : K) : prevAx cf ax (fun _ _ _ => c) = fun _ _ _ => c := by
  match ax with
  | 0 => funext i j k; exact prev1_const cf.nx cf.bx hP.x c i
  | 1 => funext i j k; exact prev1_const cf.ny cf.by_ hP.y c j
  | n + 2 => funext i j k; exact prev1_const cf.nz cf.bz hP.z c k

theorem curl_const (v : K × K × K) : curlH cf (cV v) = cV (0, 0, 0) ∧ curlE cf (cV v) = cV (0, 0, 0) := by
  constructor
  · simp only [curlH, cV, prev1_const _ _ hP.x, prev1_const _ _ hP.y, prev1_const _ _ hP.z, sub_self, zero_mul]
  · simp only [curlE, cV, next1_const _ _ hP.x, next1_const _ _ hP.y, next1_const _ _ hP.z, sub_self, zero_mul]

theorem masks_false (c i j k : Nat) : pecMask cf c i j k = false ∧ pmcMask cf c i j k = false := by
  obtain ⟨⟨-, -, -, hx⟩, ⟨-, -, -, hy⟩, ⟨-, -, -, hz⟩⟩ := hP
  simp [pecMask, pmcMask, onWall, hx, hy, hz]

variable (h2 : (2 : K) ≠ 0)
include h2

theorem avg_const (cp l : Nat) (c : K) :
    avgE cf none cp l (fun _ _ _ => c) = (fun _ _ _ => c) ∧ avgH cf none cp l (fun _ _ _ => c) = (fun _ _ _ => c) := by
  have h4 : (4 : K) ≠ 0 := by
    have : (4 : K) = 2 * 2 := by norm_num
    rw [this]; exact mul_ne_zero h2 h2
  have q : (c + c + c + c) / 4 = c := by
    rw [div_eq_iff h4]; ring
  constructor
  · simp only [avgE, nextAx_const cf hP, prevAx_const cf hP, q]
  · simp only [avgH, nextAx_const cf hP, prevAx_const cf hP, q]

theorem avgFixed_const (V : V3 K) (v : K × K × K) (hV : V = cV v) (i j k : Nat) :
    AvgFixed (avgE cf none) V i j k ∧ AvgFixed (avgH cf none) V i j k := by
  subst hV
  constructor <;> constructor <;> simp only [cV, (avg_const cf hP h2 _ _ _).1, (avg_const cf hP h2 _ _ _).2]

/-- the forward half steps map constant states to constant states (curls vanish, averages are identities) -/
theorem stepEFull_const (T : M3 K) (S : Option (M3 K)) (a e h : K × K × K) :
    stepEFull cf none (cT T) (cSig S) (cV a) (cV e) (cV h)
      = cV (M3.vec (updMats cf.c cf.eta0 T S).1 e + M3.vec (updMats cf.c cf.eta0 T S).2 (0, 0, 0) + a) := by
  refine eq_cV _ _ fun i j k => ?_
  simp only [stepEFull, projE, cellAt_maskV _ _ i j k (masks_false cf hP 0 i j k).1 (masks_false cf hP 1 i j k).1
    (masks_false cf hP 2 i j k).1, cellAt_addV, (curl_const cf hP h).1,
    rowsApply_fixed _ _ _ i j k (avgFixed_const cf hP h2 _ _ rfl i j k).1, sigAt_cSig]
  rfl

theorem stepHFull_const (T : M3 K) (S : Option (M3 K)) (b e h : K × K × K) :
    stepHFull cf none (cT T) (cSig S) (cV b) (cV e) (cV h)
      = cV (M3.vec (updMats cf.c (1 / cf.eta0) T S).1 h - M3.vec (updMats cf.c (1 / cf.eta0) T S).2 (0, 0, 0) + b) := by
  refine eq_cV _ _ fun i j k => ?_
  simp only [stepHFull, projH, cellAt_maskV _ _ i j k (masks_false cf hP 0 i j k).2 (masks_false cf hP 1 i j k).2
    (masks_false cf hP 2 i j k).2, cellAt_addV, cellAt_subV, (curl_const cf hP e).2,
    rowsApply_fixed _ _ _ i j k (avgFixed_const cf hP h2 _ _ rfl i j k).2, sigAt_cSig]
  rfl

/-- on such a domain every cell meets the hypotheses of `aniso_lossy_reconstructs_local_E` / `_H` -/
theorem revStepEFull_stepEFull_const (T : M3 K) (S : Option (M3 K)) (hl : LossOK cf.c cf.eta0 T S) (a e h : K × K × K) :
    revStepEFull cf none (cT T) (cSig S) (cV a) (stepEFull cf none (cT T) (cSig S) (cV a) (cV e) (cV h)) (cV h) = cV e := by
  refine eq_cV _ _ fun i j k => ?_
  obtain ⟨hx, hy, hz⟩ := aniso_lossy_reconstructs_local_E cf none (cT T) (cSig S) (cV a) (cV e) (cV h) i j k
    (masks_false cf hP 0 i j k).1 (masks_false cf hP 1 i j k).1 (masks_false cf hP 2 i j k).1
    ((sigAt_cSig S i j k).symm ▸ hl) (avgFixed_const cf hP h2 _ e rfl i j k).1
    (avgFixed_const cf hP h2 _ _ (curl_const cf hP h).1 i j k).1
    (avgFixed_const cf hP h2 _ _ (by rw [stepEFull_const cf hP h2, subV_const]) i j k).1
  exact Prod.ext hx (Prod.ext hy hz)

theorem revStepHFull_stepHFull_const (T : M3 K) (S : Option (M3 K)) (hl : LossOK cf.c (1 / cf.eta0) T S)
    (b e h : K × K × K) :
    revStepHFull cf none (cT T) (cSig S) (cV b) (cV e) (stepHFull cf none (cT T) (cSig S) (cV b) (cV e) (cV h)) = cV h := by
  refine eq_cV _ _ fun i j k => ?_
  obtain ⟨hx, hy, hz⟩ := aniso_lossy_reconstructs_local_H cf none (cT T) (cSig S) (cV b) (cV e) (cV h) i j k
    (masks_false cf hP 0 i j k).2 (masks_false cf hP 1 i j k).2 (masks_false cf hP 2 i j k).2
    ((sigAt_cSig S i j k).symm ▸ hl) (avgFixed_const cf hP h2 _ h rfl i j k).2
    (avgFixed_const cf hP h2 _ _ (curl_const cf hP e).2 i j k).2
    (avgFixed_const cf hP h2 _ _ (by rw [stepHFull_const cf hP h2, subV_const]) i j k).2
  exact Prod.ext hx (Prod.ext hy hz)

end

/-- **aniso_lossy_reconstructs_const**: lossy full tensors for both fields (homogeneous), every axis periodic without walls,
uniform grid, constant sources and a spatially constant state: one backward step after one forward step returns the state. -/
theorem aniso_lossy_reconstructs_const (cf : Cfg K) (hP : PeriodicAll cf) (h2 : (2 : K) ≠ 0)
    (T1 T2 : M3 K) (S1 S2 : Option (M3 K))
    (hl1 : LossOK cf.c cf.eta0 T1 S1) (hl2 : LossOK cf.c (1 / cf.eta0) T2 S2) (a b e h : K × K × K) :
    let m : MatA K := ⟨.full (cT T1), .full (cT T2), S1.map (fun s => .full (cT s)), S2.map (fun s => .full (cT s))⟩
    backwardA cf none m (cV a) (cV b) (forwardA cf none m (cV a) (cV b) (cV e) (cV h)).1
        (forwardA cf none m (cV a) (cV b) (cV e) (cV h)).2 = (cV e, cV h) := by
  intro m
  have hfE : m.fullE = true := rfl
  have hfH : m.fullH = true := rfl
  have hsE : m.sigE.map Tens.expand = cSig S1 := by cases S1 <;> rfl
  have hsH : m.sigH.map Tens.expand = cSig S2 := by cases S2 <;> rfl
  have hiE : m.invEps.expand = cT T1 := rfl
  have hiH : m.invMu.expand = cT T2 := rfl
  simp only [backwardA, forwardA, stepEA, stepHA, revStepEA, revStepHA, hfE, hfH, if_true, hsE, hsH, hiE, hiH]
  -- the updated E is constant, so the H half step is undone; then the E half step
  rw [stepEFull_const cf hP h2 T1 S1 a e h, revStepHFull_stepHFull_const cf hP h2 T2 S2 hl2,
    ← stepEFull_const cf hP h2 T1 S1 a e h, revStepEFull_stepEFull_const cf hP h2 T1 S1 hl1]

end

/-! ### witness and non-vacuity -/

/-- in the witness the averages are NOT fixed: the zero halo makes the average of E_x a quarter of its value -/
example : ¬ AvgFixed (avgE cexCfg none) cexE 0 0 0 := by
  intro h
  have := h.xy
  revert this
  decide +kernel

example :
    let s' := forwardA cexCfg none cexMat cexZero cexZero cexE cexZero
    (backwardA cexCfg none cexMat cexZero cexZero s'.1 s'.2).1.x 0 0 0 ≠ cexE.x 0 0 0 := by
  have h := aniso_lossy_roundtrip_fails
  simp only at h ⊢
  rw [h.1, h.2]; norm_num

/-- the same lossy tensor on a periodic one-cell domain: the hypotheses of `aniso_lossy_reconstructs_const` hold -/
def perBC : AxisBC Rat := ⟨true, 1, 1, false, false, false, false⟩
def perCfg : Cfg Rat := { cexCfg with bx := perBC, by_ := perBC, bz := perBC }
example : PeriodicAll perCfg := ⟨by simp [PerAxis, perCfg, perBC], by simp [PerAxis, perCfg, perBC], by simp [PerAxis, perCfg, perBC]⟩
example : LossOK (K := ℚ) perCfg.c perCfg.eta0 ⟨1, 0, 0, 0, 1, 0, 0, 0, 1⟩ (some ⟨0, 1, 0, 1, 0, 0, 0, 0, 0⟩) := by
  constructor <;> decide +kernel

end Fdtdx.C02
