/-
C09 — tiling along y, along z, and along any combination of axes.

The x-axis theorem `C09_tile_steps` (FdtdxProps/C09.lean) is transported to the other axes through the cyclic
axis-relabelling equivariance of runs (`C08_steps_equivariant`, FdtdxProps/C08.lean; its run is that of C02, `fwdN_eq`): the y tiling IS the x tiling
of the twice relabelled scene, relabelled once more (`tileY_rot`, `tileCfgY_rot` are definitional, `tileMatY_rot` once the
optional conductivities are split), and likewise for z; `run_rot` reads a statement about a run of a scene in the relabelled scene.  Compositions follow because
a tiling along one axis preserves agreement on a region bounded along the others (`AgreeOn.tileY`, `AgreeOn.tileZ`,
`AgreeOn.comp`).

  C09_tile_steps_y, C09_tile_steps_z            one wrap axis (periodic or Bloch, abstract per-copy factors `PhaseOK`)
  C09_tile_steps_xy, _xz, _yz, _xyz             two / three axes, independent factors and per-copy phases per axis
-/
import FdtdxProps.C09
import FdtdxProps.C08
import FdtdxModel.C09Axes

namespace Fdtdx.C09
open Fdtdx Fdtdx.Yee Fdtdx.C02
open Fdtdx.C08 (rotV rotC rotM)
set_option linter.unusedSectionVars false

section
variable {K : Type} [Field K]

/-! ### the tilings along y and z are relabelled x tilings (all definitional) -/

theorem tileY_rot (n : Nat) (w : Nat → K) (V : V3 K) : tileY n w V = rotV (tileX n w (rotV (rotV V))) := rfl
theorem tileZ_rot (n : Nat) (w : Nat → K) (V : V3 K) : tileZ n w V = rotV (rotV (tileX n w (rotV V))) := rfl
theorem tileCfgY_rot (m : Nat) (P Q : K) (cf : Cfg K) : tileCfgY m P Q cf = rotC (tileCfgX m P Q (rotC (rotC cf))) := rfl
theorem tileCfgZ_rot (m : Nat) (P Q : K) (cf : Cfg K) : tileCfgZ m P Q cf = rotC (rotC (tileCfgX m P Q (rotC cf))) := rfl

theorem tileMatY_rot (n : Nat) (mt : Mat K) : tileMatY n mt = rotM (tileMatX n (rotM (rotM mt))) := by
  obtain ⟨ie, im, sE, sH⟩ := mt
  cases sE <;> cases sH <;> rfl

theorem tileMatZ_rot (n : Nat) (mt : Mat K) : tileMatZ n mt = rotM (rotM (tileMatX n (rotM mt))) := by
  obtain ⟨ie, im, sE, sH⟩ := mt
  cases sE <;> cases sH <;> rfl

/-- the runs of C08 and of C02 are the same recursion -/
theorem fwdN_eq (cf : Cfg K) (m : Mat K) (jE jH : Nat → V3 K) (t n : Nat) (s : V3 K × V3 K) :
    C08.fwdN cf m jE jH t n s = fwdN cf m jE jH t n s := by
  induction n <;> simp only [C08.fwdN, fwdN, *]

theorem fwdN_rot (cf : Cfg K) (m : Mat K) (jE jH : Nat → V3 K) (t s : Nat) (E H : V3 K) :
    fwdN (rotC cf) (rotM m) (fun u => rotV (jE u)) (fun u => rotV (jH u)) t s (rotV E, rotV H)
      = (rotV (fwdN cf m jE jH t s (E, H)).1, rotV (fwdN cf m jE jH t s (E, H)).2) := by
  rw [← fwdN_eq, ← fwdN_eq]
  exact C08.C08_steps_equivariant cf m jE jH t s (E, H)

/-! ### agreement on a region -/

/-- two fields agree, component by component, on the cells that satisfy `p`; `AgreeX N` is
`AgreeOn fun i _ _ => i < N` by unfolding, and is used as such below -/
def AgreeOn (p : Nat → Nat → Nat → Prop) (A B : V3 K) : Prop :=
  ∀ i j k, p i j k → A.x i j k = B.x i j k ∧ A.y i j k = B.y i j k ∧ A.z i j k = B.z i j k

theorem AgreeOn.trans {p : Nat → Nat → Nat → Prop} {A B C : V3 K} (h1 : AgreeOn p A B) (h2 : AgreeOn p B C) : AgreeOn p A C := by
  intro i j k hp
  obtain ⟨a1, a2, a3⟩ := h1 i j k hp
  obtain ⟨b1, b2, b3⟩ := h2 i j k hp
  exact ⟨a1.trans b1, a2.trans b2, a3.trans b3⟩

theorem AgreeOn.mono {p q : Nat → Nat → Nat → Prop} {A B : V3 K} (h : AgreeOn q A B) (hpq : ∀ i j k, p i j k → q i j k) :
    AgreeOn p A B := fun i j k hp => h i j k (hpq i j k hp)

/-- `S` follows a tiling `A` on `q`, and `A` agrees with `B` on `p`: `S` follows `B` where both hold -/
theorem AgreeOn.comp {p q r : Nat → Nat → Nat → Prop} {S A B : V3 K} (hr : ∀ i j k, r i j k → p i j k ∧ q i j k)
    (h2 : AgreeOn q S A) (h1 : AgreeOn p A B) : AgreeOn r S B :=
  (h2.mono fun i j k h => (hr i j k h).2).trans (h1.mono fun i j k h => (hr i j k h).1)

theorem AgreeOn.rot {p : Nat → Nat → Nat → Prop} {A B : V3 K} (h : AgreeOn p A B) :
    AgreeOn (fun i j k => p j k i) (rotV A) (rotV B) := by
  intro i j k hp
  obtain ⟨a, b, c⟩ := h j k i hp
  exact ⟨c, a, b⟩

/-- a tiling along y keeps agreement on a region that does not bound y -/
theorem AgreeOn.tileY {p : Nat → Nat → Prop} {A B : V3 K} (n : Nat) (v : Nat → K) (h : AgreeOn (fun i _ k => p i k) A B) :
    AgreeOn (fun i _ k => p i k) (tileY n v A) (tileY n v B) := by
  intro i j k hp
  obtain ⟨a, b, c⟩ := h i (j % n) k hp
  exact ⟨congrArg (· * v (j / n)) a, congrArg (· * v (j / n)) b, congrArg (· * v (j / n)) c⟩

theorem AgreeOn.tileZ {p : Nat → Nat → Prop} {A B : V3 K} (n : Nat) (v : Nat → K) (h : AgreeOn (fun i j _ => p i j) A B) :
    AgreeOn (fun i j _ => p i j) (tileZ n v A) (tileZ n v B) := by
  intro i j k hp
  obtain ⟨a, b, c⟩ := h i j (k % n) hp
  exact ⟨congrArg (· * v (k / n)) a, congrArg (· * v (k / n)) b, congrArg (· * v (k / n)) c⟩

/-- agreement of a state `S` with `(B1, B2)` on a region, read in the relabelled scene: there the state is `S'`, the
relabelled `S` (for the state after a run this is `fwdN_rot`), and the region is the relabelled region -/
theorem run_rot {p : Nat → Nat → Nat → Prop} {S S' : V3 K × V3 K} {B1 B2 : V3 K} (hS : S' = (rotV S.1, rotV S.2))
    (h : AgreeOn p S.1 B1 ∧ AgreeOn p S.2 B2) :
    AgreeOn (fun i j k => p j k i) S'.1 (rotV B1) ∧ AgreeOn (fun i j k => p j k i) S'.2 (rotV B2) := by
  subst hS
  exact ⟨h.1.rot, h.2.rot⟩

/-! ### one axis -/

/-- y is a wrap axis of at least one cell without walls; `AxisOKz` below: the same for z -/
def AxisOKy (cf : Cfg K) : Prop := AxisOK (rotC (rotC cf))
def AxisOKz (cf : Cfg K) : Prop := AxisOK (rotC cf)

theorem axisOKy_iff (cf : Cfg K) : AxisOKy cf ↔ (0 < cf.ny ∧ cf.by_.wrap = true ∧ cf.by_.pecLo = false ∧ cf.by_.pecHi = false
    ∧ cf.by_.pmcLo = false ∧ cf.by_.pmcHi = false) :=
  ⟨fun h => ⟨h.pos, h.wrap, h.pecLo, h.pecHi, h.pmcLo, h.pmcHi⟩, fun h => ⟨h.1, h.2.1, h.2.2.1, h.2.2.2.1, h.2.2.2.2.1, h.2.2.2.2.2⟩⟩

theorem axisOKz_iff (cf : Cfg K) : AxisOKz cf ↔ (0 < cf.nz ∧ cf.bz.wrap = true ∧ cf.bz.pecLo = false ∧ cf.bz.pecHi = false
    ∧ cf.bz.pmcLo = false ∧ cf.bz.pmcHi = false) :=
  ⟨fun h => ⟨h.pos, h.wrap, h.pecLo, h.pecHi, h.pmcLo, h.pmcHi⟩, fun h => ⟨h.1, h.2.1, h.2.2.1, h.2.2.2.1, h.2.2.2.2.1, h.2.2.2.2.2⟩⟩

variable (cf : Cfg K) (m : Nat) (w : Nat → K) (P Q : K)

/-- **C09_tile_steps_y**: the supercell along a wrap y axis evolves as the tiled base cell, any number of steps. -/
theorem C09_tile_steps_y (hax : AxisOKy cf) (hp : PhaseOK m w cf.by_.pp cf.by_.pm P Q) (hm : 0 < m) (mt : Mat K)
    (jE jH : Nat → V3 K) (t s : Nat) (E H : V3 K) :
    AgreeOn (fun _ j _ => j < m * cf.ny)
        (fwdN (tileCfgY m P Q cf) (tileMatY cf.ny mt) (fun u => tileY cf.ny w (jE u)) (fun u => tileY cf.ny w (jH u)) t s
          (tileY cf.ny w E, tileY cf.ny w H)).1
        (tileY cf.ny w (fwdN cf mt jE jH t s (E, H)).1)
    ∧ AgreeOn (fun _ j _ => j < m * cf.ny)
        (fwdN (tileCfgY m P Q cf) (tileMatY cf.ny mt) (fun u => tileY cf.ny w (jE u)) (fun u => tileY cf.ny w (jH u)) t s
          (tileY cf.ny w E, tileY cf.ny w H)).2
        (tileY cf.ny w (fwdN cf mt jE jH t s (E, H)).2) := by
  have hx := C09_tile_steps (rotC (rotC cf)) m w P Q hax hp hm (rotM (rotM mt)) (fun u => rotV (rotV (jE u)))
    (fun u => rotV (rotV (jH u))) t s (rotV (rotV E)) (rotV (rotV H))
  rw [fwdN_rot (rotC cf) (rotM mt) (fun u => rotV (jE u)) (fun u => rotV (jH u)), fwdN_rot] at hx
  rw [tileMatY_rot, tileCfgY_rot]
  simp only [tileY_rot]
  exact run_rot (fwdN_rot ..) hx

theorem C09_tile_steps_z (hax : AxisOKz cf) (hp : PhaseOK m w cf.bz.pp cf.bz.pm P Q) (hm : 0 < m) (mt : Mat K)
    (jE jH : Nat → V3 K) (t s : Nat) (E H : V3 K) :
    AgreeOn (fun _ _ k => k < m * cf.nz)
        (fwdN (tileCfgZ m P Q cf) (tileMatZ cf.nz mt) (fun u => tileZ cf.nz w (jE u)) (fun u => tileZ cf.nz w (jH u)) t s
          (tileZ cf.nz w E, tileZ cf.nz w H)).1
        (tileZ cf.nz w (fwdN cf mt jE jH t s (E, H)).1)
    ∧ AgreeOn (fun _ _ k => k < m * cf.nz)
        (fwdN (tileCfgZ m P Q cf) (tileMatZ cf.nz mt) (fun u => tileZ cf.nz w (jE u)) (fun u => tileZ cf.nz w (jH u)) t s
          (tileZ cf.nz w E, tileZ cf.nz w H)).2
        (tileZ cf.nz w (fwdN cf mt jE jH t s (E, H)).2) := by
  have hx := C09_tile_steps (rotC cf) m w P Q hax hp hm (rotM mt) (fun u => rotV (jE u)) (fun u => rotV (jH u)) t s
    (rotV E) (rotV H)
  rw [fwdN_rot] at hx
  rw [tileMatZ_rot, tileCfgZ_rot]
  simp only [tileZ_rot]
  exact run_rot (fwdN_rot ..) (run_rot (fwdN_rot ..) hx)

/-! ### compositions -/

theorem axisOKy_tileX (m1 : Nat) (P1 Q1 : K) (h : AxisOKy cf) : AxisOKy (tileCfgX m1 P1 Q1 cf) :=
  (axisOKy_iff _).2 ((axisOKy_iff cf).1 h)

theorem axisOKz_tileX (m1 : Nat) (P1 Q1 : K) (h : AxisOKz cf) : AxisOKz (tileCfgX m1 P1 Q1 cf) :=
  (axisOKz_iff _).2 ((axisOKz_iff cf).1 h)

theorem axisOKz_tileY (m1 : Nat) (P1 Q1 : K) (h : AxisOKz cf) : AxisOKz (tileCfgY m1 P1 Q1 cf) :=
  (axisOKz_iff _).2 ((axisOKz_iff cf).1 h)

variable (m1 m2 m3 : Nat) (w1 w2 w3 : Nat → K) (P1 Q1 P2 Q2 P3 Q3 : K)

/-- **C09_tile_steps_xy**: tiling along x and y (independent factors and per-copy phases) -/
theorem C09_tile_steps_xy (hx : AxisOK cf) (hy : AxisOKy cf) (hp1 : PhaseOK m1 w1 cf.bx.pp cf.bx.pm P1 Q1)
    (hp2 : PhaseOK m2 w2 cf.by_.pp cf.by_.pm P2 Q2) (hm1 : 0 < m1) (hm2 : 0 < m2) (mt : Mat K)
    (jE jH : Nat → V3 K) (t s : Nat) (E H : V3 K) :
    let T : V3 K → V3 K := fun V => tileY cf.ny w2 (tileX cf.nx w1 V)
    let S := fwdN (tileCfgY m2 P2 Q2 (tileCfgX m1 P1 Q1 cf)) (tileMatY cf.ny (tileMatX cf.nx mt)) (fun u => T (jE u))
      (fun u => T (jH u)) t s (T E, T H)
    let B := fwdN cf mt jE jH t s (E, H)
    AgreeOn (fun i j _ => i < m1 * cf.nx ∧ j < m2 * cf.ny) S.1 (T B.1)
    ∧ AgreeOn (fun i j _ => i < m1 * cf.nx ∧ j < m2 * cf.ny) S.2 (T B.2) := by
  intro T S B
  have h1 := C09_tile_steps cf m1 w1 P1 Q1 hx hp1 hm1 mt jE jH t s E H
  have h2 := C09_tile_steps_y (tileCfgX m1 P1 Q1 cf) m2 w2 P2 Q2 (axisOKy_tileX cf m1 P1 Q1 hy) hp2 hm2 (tileMatX cf.nx mt)
    (fun u => tileX cf.nx w1 (jE u)) (fun u => tileX cf.nx w1 (jH u)) t s (tileX cf.nx w1 E) (tileX cf.nx w1 H)
  exact ⟨.comp (fun _ _ _ h => h) h2.1 (.tileY cf.ny w2 h1.1), .comp (fun _ _ _ h => h) h2.2 (.tileY cf.ny w2 h1.2)⟩

theorem C09_tile_steps_xz (hx : AxisOK cf) (hz : AxisOKz cf) (hp1 : PhaseOK m1 w1 cf.bx.pp cf.bx.pm P1 Q1)
    (hp3 : PhaseOK m3 w3 cf.bz.pp cf.bz.pm P3 Q3) (hm1 : 0 < m1) (hm3 : 0 < m3) (mt : Mat K)
    (jE jH : Nat → V3 K) (t s : Nat) (E H : V3 K) :
    let T : V3 K → V3 K := fun V => tileZ cf.nz w3 (tileX cf.nx w1 V)
    let S := fwdN (tileCfgZ m3 P3 Q3 (tileCfgX m1 P1 Q1 cf)) (tileMatZ cf.nz (tileMatX cf.nx mt)) (fun u => T (jE u))
      (fun u => T (jH u)) t s (T E, T H)
    let B := fwdN cf mt jE jH t s (E, H)
    AgreeOn (fun i _ k => i < m1 * cf.nx ∧ k < m3 * cf.nz) S.1 (T B.1)
    ∧ AgreeOn (fun i _ k => i < m1 * cf.nx ∧ k < m3 * cf.nz) S.2 (T B.2) := by
  intro T S B
  have h1 := C09_tile_steps cf m1 w1 P1 Q1 hx hp1 hm1 mt jE jH t s E H
  have h2 := C09_tile_steps_z (tileCfgX m1 P1 Q1 cf) m3 w3 P3 Q3 (axisOKz_tileX cf m1 P1 Q1 hz) hp3 hm3 (tileMatX cf.nx mt)
    (fun u => tileX cf.nx w1 (jE u)) (fun u => tileX cf.nx w1 (jH u)) t s (tileX cf.nx w1 E) (tileX cf.nx w1 H)
  exact ⟨.comp (fun _ _ _ h => h) h2.1 (.tileZ cf.nz w3 h1.1), .comp (fun _ _ _ h => h) h2.2 (.tileZ cf.nz w3 h1.2)⟩

theorem C09_tile_steps_yz (hy : AxisOKy cf) (hz : AxisOKz cf) (hp2 : PhaseOK m2 w2 cf.by_.pp cf.by_.pm P2 Q2)
    (hp3 : PhaseOK m3 w3 cf.bz.pp cf.bz.pm P3 Q3) (hm2 : 0 < m2) (hm3 : 0 < m3) (mt : Mat K)
    (jE jH : Nat → V3 K) (t s : Nat) (E H : V3 K) :
    let T : V3 K → V3 K := fun V => tileZ cf.nz w3 (tileY cf.ny w2 V)
    let S := fwdN (tileCfgZ m3 P3 Q3 (tileCfgY m2 P2 Q2 cf)) (tileMatZ cf.nz (tileMatY cf.ny mt)) (fun u => T (jE u))
      (fun u => T (jH u)) t s (T E, T H)
    let B := fwdN cf mt jE jH t s (E, H)
    AgreeOn (fun _ j k => j < m2 * cf.ny ∧ k < m3 * cf.nz) S.1 (T B.1)
    ∧ AgreeOn (fun _ j k => j < m2 * cf.ny ∧ k < m3 * cf.nz) S.2 (T B.2) := by
  intro T S B
  have h1 := C09_tile_steps_y cf m2 w2 P2 Q2 hy hp2 hm2 mt jE jH t s E H
  have h2 := C09_tile_steps_z (tileCfgY m2 P2 Q2 cf) m3 w3 P3 Q3 (axisOKz_tileY cf m2 P2 Q2 hz) hp3 hm3 (tileMatY cf.ny mt)
    (fun u => tileY cf.ny w2 (jE u)) (fun u => tileY cf.ny w2 (jH u)) t s (tileY cf.ny w2 E) (tileY cf.ny w2 H)
  exact ⟨.comp (fun _ _ _ h => h) h2.1 (.tileZ cf.nz w3 h1.1), .comp (fun _ _ _ h => h) h2.2 (.tileZ cf.nz w3 h1.2)⟩

/-- **C09_tile_steps_xyz**: tiling along all three axes -/
theorem C09_tile_steps_xyz (hx : AxisOK cf) (hy : AxisOKy cf) (hz : AxisOKz cf) (hp1 : PhaseOK m1 w1 cf.bx.pp cf.bx.pm P1 Q1)
    (hp2 : PhaseOK m2 w2 cf.by_.pp cf.by_.pm P2 Q2) (hp3 : PhaseOK m3 w3 cf.bz.pp cf.bz.pm P3 Q3)
    (hm1 : 0 < m1) (hm2 : 0 < m2) (hm3 : 0 < m3) (mt : Mat K) (jE jH : Nat → V3 K) (t s : Nat) (E H : V3 K) :
    let T : V3 K → V3 K := fun V => tileZ cf.nz w3 (tileY cf.ny w2 (tileX cf.nx w1 V))
    let S := fwdN (tileCfgZ m3 P3 Q3 (tileCfgY m2 P2 Q2 (tileCfgX m1 P1 Q1 cf))) (tileMatZ cf.nz (tileMatY cf.ny (tileMatX cf.nx mt)))
      (fun u => T (jE u)) (fun u => T (jH u)) t s (T E, T H)
    let B := fwdN cf mt jE jH t s (E, H)
    AgreeOn (fun i j k => i < m1 * cf.nx ∧ j < m2 * cf.ny ∧ k < m3 * cf.nz) S.1 (T B.1)
    ∧ AgreeOn (fun i j k => i < m1 * cf.nx ∧ j < m2 * cf.ny ∧ k < m3 * cf.nz) S.2 (T B.2) := by
  intro T S B
  have h12 := C09_tile_steps_xy cf m1 m2 w1 w2 P1 Q1 P2 Q2 hx hy hp1 hp2 hm1 hm2 mt jE jH t s E H
  have h3 := C09_tile_steps_z (tileCfgY m2 P2 Q2 (tileCfgX m1 P1 Q1 cf)) m3 w3 P3 Q3
    (axisOKz_tileY _ m2 P2 Q2 (axisOKz_tileX cf m1 P1 Q1 hz)) hp3 hm3
    (tileMatY cf.ny (tileMatX cf.nx mt)) (fun u => tileY cf.ny w2 (tileX cf.nx w1 (jE u)))
    (fun u => tileY cf.ny w2 (tileX cf.nx w1 (jH u))) t s (tileY cf.ny w2 (tileX cf.nx w1 E)) (tileY cf.ny w2 (tileX cf.nx w1 H))
  exact ⟨.comp (fun _ _ _ h => ⟨⟨h.1, h.2.1⟩, h.2.2⟩) h3.1 (.tileZ cf.nz w3 h12.1),
    .comp (fun _ _ _ h => ⟨⟨h.1, h.2.1⟩, h.2.2⟩) h3.2 (.tileZ cf.nz w3 h12.2)⟩

end

/-! ### non-vacuity: a 2×3×2 scene periodic on all three axes meets the three axis hypotheses, and the periodic / Bloch
factor relations are satisfiable on every axis (`phaseOK_periodic`, `phaseOK_bloch`). -/
def exPer : Cfg ℚ :=
  { nx := 2, ny := 3, nz := 2, bx := ⟨true, 1, 1, false, false, false, false⟩, by_ := ⟨true, 1, 1, false, false, false, false⟩,
    bz := ⟨true, 2, 1 / 2, false, false, false, false⟩,
    sfx := fun _ => 1, sfy := fun _ => 1, sfz := fun _ => 1, sbx := fun _ => 1, sby := fun _ => 1, sbz := fun _ => 1,
    c := 1 / 2, eta0 := 1 }

example : AxisOK exPer ∧ AxisOKy exPer ∧ AxisOKz exPer :=
  ⟨⟨by decide, rfl, rfl, rfl, rfl, rfl⟩, (axisOKy_iff _).2 ⟨by decide, rfl, rfl, rfl, rfl, rfl⟩,
   (axisOKz_iff _).2 ⟨by decide, rfl, rfl, rfl, rfl, rfl⟩⟩
example : PhaseOK 2 (fun _ => (1 : ℚ)) exPer.by_.pp exPer.by_.pm 1 1 := phaseOK_periodic 2
example : PhaseOK 3 (fun q => (2 : ℚ) ^ q) exPer.bz.pp exPer.bz.pm (2 ^ 3) (2 ^ 3)⁻¹ := by
  have h := phaseOK_bloch (K := ℚ) 3 (by decide) 2 (by norm_num)
  simpa [exPer] using h
example : (tileCfgZ 3 (8 : ℚ) (1 / 8) (tileCfgY 2 1 1 exPer)).ny = 6 ∧ (tileCfgZ 3 (8 : ℚ) (1 / 8) (tileCfgY 2 1 1 exPer)).nz = 6 := by
  decide

end Fdtdx.C09
