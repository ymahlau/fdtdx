/-
C22 — Gaussian smoothing preserves constants and stays within the input range.

Theorems about `FdtdxModel/C22.lean`, for every design size `nx × ny ≥ 1 × 1`, kernel half-width `p`, every
present/absent pattern of the four padding vectors and every design: first for an arbitrary kernel table `k` over a
field (`C22_affine` … `C22_mirror1`, each under the hypotheses on `k` it needs), then the normalised Gaussian table of
the code is shown to meet those hypotheses for any positive `exp`, and `C22_gaussian` collects everything for `Real.exp`.

The padding is analysed once (`padded_cases`: a padded entry is a fixed design entry or padding entry); reflection of a
padded axis is `zones_mirror`.

`σ ≥ 1` is carried as a hypothesis in `C22_gaussian` although the algebra does not use it: for σ = 0 the code
computes `0/0` (NaN) whereas Lean's field division gives `0`, so the theorem would not be about the code.
-/
import FdtdxModel.C22
import FdtdxLemmas.C22
import Mathlib.Analysis.SpecialFunctions.Exp
import Mathlib.Tactic.Ring
import Mathlib.Tactic.Linarith
import Mathlib.Tactic.Positivity

namespace Fdtdx.C22
open Finset

/-! ### the padded array, point-wise -/

section pad
variable {K : Type}

theorem extIdx_le (p nx r : Nat) : extIdx p nx r ≤ nx - 1 := by
  unfold extIdx
  split_ifs <;> omega

/-- reflecting a position of a padded axis (`p` low cells, `n` cells, `p` high cells) exchanges the low and the high
zone and reverses the middle one -/
theorem zones_mirror {β : Type} (p n r : Nat) (hr : r < n + 2 * p) (a c : β) (m : Nat → β) :
    (if n + 2 * p - 1 - r < p then a else if n + 2 * p - 1 - r < p + n then m (n + 2 * p - 1 - r - p) else c) =
      if r < p then c else if r < p + n then m (n - 1 - (r - p)) else a := by
  by_cases h1 : r < p
  · rw [if_pos h1, if_neg (by omega), if_neg (by omega)]
  · by_cases h2 : r < p + n
    · rw [if_neg h1, if_pos h2, if_neg (by omega), if_pos (by omega)]
      congr 1
      omega
    · rw [if_neg h1, if_neg h2, if_pos (by omega)]

theorem extIdx_mirror (p nx r : Nat) (hr : r < nx + 2 * p) :
    nx - 1 - extIdx p nx r = extIdx p nx (nx + 2 * p - 1 - r) := by
  unfold extIdx
  rw [zones_mirror p nx r hr 0 (nx - 1) fun i => i]
  split_ifs
  · rfl
  · rfl
  · exact Nat.sub_self _

theorem padRows_cases (p nx : Nat) (P : Pads K) (r : Nat) :
    (∃ i ≤ nx - 1, ∀ x c, padRows p nx x P r c = x i c) ∨
    (∃ f, (P.lo0 = some f ∨ P.hi0 = some f) ∧ ∀ x c, padRows p nx x P r c = f c) := by
  unfold padRows
  split_ifs with h1 h2
  · cases h : P.lo0 with
    | none => exact .inl ⟨0, Nat.zero_le _, fun _ _ => rfl⟩
    | some f => exact .inr ⟨f, .inl rfl, fun _ _ => rfl⟩
  · exact .inl ⟨r - p, by omega, fun _ _ => rfl⟩
  · cases h : P.hi0 with
    | none => exact .inl ⟨nx - 1, le_rfl, fun _ _ => rfl⟩
    | some f => exact .inr ⟨f, .inr rfl, fun _ _ => rfl⟩

theorem padded_cols (p nx ny : Nat) (P : Pads K) (r c : Nat) :
    (∃ j ≤ ny - 1, ∀ x, padded p nx ny x P r c = padRows p nx x P r j) ∨
    (∃ f, (P.lo1 = some f ∨ P.hi1 = some f) ∧ ∀ x, padded p nx ny x P r c = f (extIdx p nx r)) := by
  unfold padded
  split_ifs with h1 h2
  · cases h : P.lo1 with
    | none => exact .inl ⟨0, Nat.zero_le _, fun _ => rfl⟩
    | some f => exact .inr ⟨f, .inl rfl, fun _ => rfl⟩
  · exact .inl ⟨c - p, by omega, fun _ => rfl⟩
  · cases h : P.hi1 with
    | none => exact .inl ⟨ny - 1, le_rfl, fun _ => rfl⟩
    | some f => exact .inr ⟨f, .inr rfl, fun _ => rfl⟩

/-- which design entry or padding entry a padded entry is does not depend on the design -/
theorem padded_cases (p nx ny : Nat) (P : Pads K) (r c : Nat) :
    (∃ i ≤ nx - 1, ∃ j ≤ ny - 1, ∀ x, padded p nx ny x P r c = x i j) ∨
    (∃ f, (P.lo0 = some f ∨ P.hi0 = some f) ∧ ∃ j ≤ ny - 1, ∀ x, padded p nx ny x P r c = f j) ∨
    (∃ f, (P.lo1 = some f ∨ P.hi1 = some f) ∧ ∃ i ≤ nx - 1, ∀ x, padded p nx ny x P r c = f i) := by
  rcases padded_cols p nx ny P r c with ⟨j, hj, h⟩ | ⟨f, hf, h⟩
  · rcases padRows_cases p nx P r with ⟨i, hi, hx⟩ | ⟨f, hf, hx⟩
    · exact .inl ⟨i, hi, j, hj, fun x => (h x).trans (hx x j)⟩
    · exact .inr (.inl ⟨f, hf, j, hj, fun x => (h x).trans (hx x j)⟩)
  · exact .inr (.inr ⟨f, hf, _, extIdx_le p nx r, h⟩)

/-- the paddings "match" the constant `v`: each is absent or constantly `v` -/
def PadsConst (P : Pads K) (v : K) : Prop :=
  (∀ f, P.lo0 = some f → ∀ i, f i = v) ∧ (∀ f, P.hi0 = some f → ∀ i, f i = v) ∧
  (∀ f, P.lo1 = some f → ∀ i, f i = v) ∧ (∀ f, P.hi1 = some f → ∀ i, f i = v)

/-- mirrored paddings for a flip of axis 0: low/high of axis 0 swapped, axis-1 vectors reversed -/
def Pads.mirror0 (nx : Nat) (P : Pads K) : Pads K :=
  ⟨P.hi0, P.lo0, P.lo1.map (fun f i => f (nx - 1 - i)), P.hi1.map (fun f i => f (nx - 1 - i))⟩

/-- … and of axis 1 -/
def Pads.mirror1 (ny : Nat) (P : Pads K) : Pads K :=
  ⟨P.lo0.map (fun f j => f (ny - 1 - j)), P.hi0.map (fun f j => f (ny - 1 - j)), P.hi1, P.lo1⟩

theorem padRows_mirror0 (p nx : Nat) (x : Nat → Nat → K) (P : Pads K) (r c : Nat) (hr : r < nx + 2 * p) :
    padRows p nx (fun i j => x (nx - 1 - i) j) (P.mirror0 nx) r c = padRows p nx x P (nx + 2 * p - 1 - r) c := by
  unfold padRows Pads.mirror0
  rw [zones_mirror p nx r hr _ _ fun i => x i c]
  split_ifs
  · rfl
  · rfl
  · cases P.lo0 <;> simp

theorem padded_mirror0 (p nx ny : Nat) (x : Nat → Nat → K) (P : Pads K) (r c : Nat) (hr : r < nx + 2 * p) :
    padded p nx ny (fun i j => x (nx - 1 - i) j) (P.mirror0 nx) r c = padded p nx ny x P (nx + 2 * p - 1 - r) c := by
  have hrows := fun c => padRows_mirror0 p nx x P r c hr
  unfold padded
  simp only [hrows, ← extIdx_mirror p nx r hr]
  unfold Pads.mirror0
  cases P.lo1 <;> cases P.hi1 <;> rfl

theorem padRows_mirror1 (p nx ny : Nat) (x : Nat → Nat → K) (P : Pads K) (r c : Nat) :
    padRows p nx (fun i j => x i (ny - 1 - j)) (P.mirror1 ny) r c = padRows p nx x P r (ny - 1 - c) := by
  unfold padRows Pads.mirror1
  cases P.lo0 <;> cases P.hi0 <;> rfl

theorem padded_mirror1 (p nx ny : Nat) (x : Nat → Nat → K) (P : Pads K) (r c : Nat) (hc : c < ny + 2 * p) :
    padded p nx ny (fun i j => x i (ny - 1 - j)) (P.mirror1 ny) r c = padded p nx ny x P r (ny + 2 * p - 1 - c) := by
  unfold padded
  rw [zones_mirror p ny c hc _ _ fun j => padRows p nx x P r j]
  simp only [padRows_mirror1]
  unfold Pads.mirror1
  split_ifs
  · rfl
  · rfl
  · rw [Nat.sub_self]

end pad

/-! ### property theorems for an arbitrary kernel table -/

section kernel
variable {K : Type} [Field K]
variable (p : Nat) (k : Nat → Nat → K) (nx ny : Nat)

/-- C22_affine: affine combinations of designs (same padding vectors) are preserved. -/
theorem C22_affine (x y : Nat → Nat → K) (P : Pads K) (t : K) (i j : Nat) :
    smoothWith p k nx ny (fun a b => t * x a b + (1 - t) * y a b) P i j =
      t * smoothWith p k nx ny x P i j + (1 - t) * smoothWith p k nx ny y P i j := by
  unfold smoothWith
  rw [← conv_comb]
  congr 1
  funext r c
  rcases padded_cases p nx ny P r c with ⟨a, _, b, _, h⟩ | ⟨f, _, b, _, h⟩ | ⟨f, _, a, _, h⟩ <;>
    simp only [h] <;> ring

/-- C22_linear_default: with edge-replicated (default) padding the smoothing is linear. -/
theorem C22_linear_default (x y : Nat → Nat → K) (s t : K) (i j : Nat) :
    smoothWith p k nx ny (fun a b => s * x a b + t * y a b) ⟨none, none, none, none⟩ i j =
      s * smoothWith p k nx ny x ⟨none, none, none, none⟩ i j +
        t * smoothWith p k nx ny y ⟨none, none, none, none⟩ i j := by
  unfold smoothWith
  rw [← conv_comb]
  congr 1
  funext r c
  rcases padded_cases p nx ny (⟨none, none, none, none⟩ : Pads K) r c with ⟨a, _, b, _, h⟩ | ⟨f, hf, _⟩ | ⟨f, hf, _⟩
  · simp only [h]
  all_goals simp at hf

/-- C22_const: a constant design with default or matching padding is unchanged (kernel sums to one). -/
theorem C22_const (hsum : ∑ a ∈ range (2 * p + 1), ∑ b ∈ range (2 * p + 1), k a b = 1)
    (v : K) (P : Pads K) (hP : PadsConst P v) (i j : Nat) :
    smoothWith p k nx ny (fun _ _ => v) P i j = v := by
  unfold smoothWith
  obtain ⟨h0, h1, h2, h3⟩ := hP
  have : padded p nx ny (fun _ _ => v) P = fun _ _ => v := by
    funext r c
    rcases padded_cases p nx ny P r c with ⟨a, _, b, _, h⟩ | ⟨f, hf, b, _, h⟩ | ⟨f, hf, a, _, h⟩ <;> rw [h]
    · exact hf.elim (h0 f · b) (h1 f · b)
    · exact hf.elim (h2 f · a) (h3 f · a)
  rw [this]
  exact conv_const p k v hsum i j

/-- C22_mirror0: flipping the design along axis 0, with the axis-0 paddings swapped and the axis-1 paddings
reversed, flips the output (kernel symmetric along axis 0). -/
theorem C22_mirror0 (hk : ∀ a b, a ≤ 2 * p → k (2 * p - a) b = k a b)
    (x : Nat → Nat → K) (P : Pads K) {i : Nat} (hi : i < nx) (j : Nat) :
    smoothWith p k nx ny (fun a b => x (nx - 1 - a) b) (P.mirror0 nx) i j = smoothWith p k nx ny x P (nx - 1 - i) j := by
  unfold smoothWith
  exact conv_mirror0 p nx k _ _ hk (fun r c hr => padded_mirror0 p nx ny x P r c hr) hi j

/-- C22_mirror1: the same along axis 1. -/
theorem C22_mirror1 (hk : ∀ a b, b ≤ 2 * p → k a (2 * p - b) = k a b)
    (x : Nat → Nat → K) (P : Pads K) (i : Nat) {j : Nat} (hj : j < ny) :
    smoothWith p k nx ny (fun a b => x a (ny - 1 - b)) (P.mirror1 ny) i j = smoothWith p k nx ny x P i (ny - 1 - j) := by
  unfold smoothWith
  exact conv_mirror1 p ny k _ _ hk (fun r c hc => padded_mirror1 p nx ny x P r c hc) i hj

end kernel

section ordered
variable {K : Type} [LinearOrder K]

/-- all design entries and all entries of the present padding vectors lie in `[lo, hi]` -/
def InRange (nx ny : Nat) (x : Nat → Nat → K) (P : Pads K) (lo hi : K) : Prop :=
  (∀ i j, i < nx → j < ny → lo ≤ x i j ∧ x i j ≤ hi) ∧
  (∀ f, P.lo0 = some f → ∀ j, j < ny → lo ≤ f j ∧ f j ≤ hi) ∧
  (∀ f, P.hi0 = some f → ∀ j, j < ny → lo ≤ f j ∧ f j ≤ hi) ∧
  (∀ f, P.lo1 = some f → ∀ i, i < nx → lo ≤ f i ∧ f i ≤ hi) ∧
  (∀ f, P.hi1 = some f → ∀ i, i < nx → lo ≤ f i ∧ f i ≤ hi)

variable [Field K] [IsStrictOrderedRing K]

/-- C22_range: every output value lies between bounds of the design and of the padding values
(non-negative kernel summing to one). -/
theorem C22_range (p : Nat) (k : Nat → Nat → K) (hk : ∀ a b, 0 ≤ k a b)
    (hsum : ∑ a ∈ range (2 * p + 1), ∑ b ∈ range (2 * p + 1), k a b = 1)
    {nx ny : Nat} (hnx : 0 < nx) (hny : 0 < ny) {x : Nat → Nat → K} {P : Pads K} {lo hi : K}
    (h : InRange nx ny x P lo hi) (i j : Nat) :
    lo ≤ smoothWith p k nx ny x P i j ∧ smoothWith p k nx ny x P i j ≤ hi := by
  unfold smoothWith
  refine conv_bounds p k _ lo hi hk hsum (fun r c => ?_) i j
  obtain ⟨hx, h0, h1, h2, h3⟩ := h
  rcases padded_cases p nx ny P r c with ⟨a, ha, b, hb, e⟩ | ⟨f, hf, b, hb, e⟩ | ⟨f, hf, a, ha, e⟩ <;> rw [e]
  · exact hx a b (Nat.lt_of_le_sub_one hnx ha) (Nat.lt_of_le_sub_one hny hb)
  · exact hf.elim (h0 f · b (Nat.lt_of_le_sub_one hny hb)) (h1 f · b (Nat.lt_of_le_sub_one hny hb))
  · exact hf.elim (h2 f · a (Nat.lt_of_le_sub_one hnx ha)) (h3 f · a (Nat.lt_of_le_sub_one hnx ha))

end ordered

/-! ### the concrete kernel of the code -/

section gauss
variable {K : Type} [Field K]

theorem kernelTotal_eq_sum (ex : K → K) (cast : Nat → K) (σ : Nat) :
    kernelTotal ex cast σ = ∑ a ∈ range (6 * σ + 1), ∑ b ∈ range (6 * σ + 1), rawKernel ex cast σ a b := by
  simp only [kernelTotal, sumRange_eq_sum]

theorem natAbs_mirror (p a : Nat) (ha : a ≤ 2 * p) : ((↑(2 * p - a) : Int) - ↑p).natAbs = ((↑a : Int) - ↑p).natAbs := by
  rw [← Int.natAbs_neg, Nat.cast_sub ha]
  congr 1
  push_cast
  ring

variable (ex : K → K) (cast : Nat → K) (σ : Nat)

theorem normKernel_symm0 (a b : Nat) (ha : a ≤ 2 * (3 * σ)) :
    normKernel ex cast σ (2 * (3 * σ) - a) b = normKernel ex cast σ a b := by
  unfold normKernel rawKernel dist2
  rw [natAbs_mirror _ a ha]

theorem normKernel_symm1 (a b : Nat) (hb : b ≤ 2 * (3 * σ)) :
    normKernel ex cast σ a (2 * (3 * σ) - b) = normKernel ex cast σ a b := by
  unfold normKernel rawKernel dist2
  rw [natAbs_mirror _ b hb]

variable [LinearOrder K] (hex : ∀ t, 0 < ex t)
include hex

theorem rawKernel_pos (a b : Nat) : 0 < rawKernel ex cast σ a b := hex _

variable [IsStrictOrderedRing K]

theorem kernelTotal_pos : 0 < kernelTotal ex cast σ := by
  rw [kernelTotal_eq_sum]
  exact sum_pos (fun a _ => sum_pos (fun b _ => rawKernel_pos ex cast σ hex a b) (by simp)) (by simp)

theorem normKernel_nonneg (a b : Nat) : 0 ≤ normKernel ex cast σ a b :=
  div_nonneg (rawKernel_pos ex cast σ hex a b).le (kernelTotal_pos ex cast σ hex).le

theorem normKernel_sum_one :
    ∑ a ∈ range (2 * (3 * σ) + 1), ∑ b ∈ range (2 * (3 * σ) + 1), normKernel ex cast σ a b = 1 := by
  unfold normKernel
  simp only [← sum_div]
  rw [show 2 * (3 * σ) + 1 = 6 * σ + 1 by omega, ← kernelTotal_eq_sum]
  exact div_self (kernelTotal_pos ex cast σ hex).ne'

end gauss

/-- C22_gaussian: the four clauses of the property for `GaussianSmoothing2D` itself, with `Real.exp`, every
`std_discrete = σ ≥ 1`, every design size ≥ 1 × 1 and every padding pattern. -/
theorem C22_gaussian (σ : Nat) (_hσ : 1 ≤ σ) (nx ny : Nat) (hnx : 0 < nx) (hny : 0 < ny)
    (x y : Nat → Nat → ℝ) (P : Pads ℝ) :
    let S := smooth Real.exp (fun n => (n : ℝ)) σ nx ny
    -- affine
    (∀ t i j, S (fun a b => t * x a b + (1 - t) * y a b) P i j = t * S x P i j + (1 - t) * S y P i j) ∧
    -- linear with default padding
    (∀ s t i j, S (fun a b => s * x a b + t * y a b) ⟨none, none, none, none⟩ i j =
        s * S x ⟨none, none, none, none⟩ i j + t * S y ⟨none, none, none, none⟩ i j) ∧
    -- constants
    (∀ v, PadsConst P v → ∀ i j, S (fun _ _ => v) P i j = v) ∧
    -- range
    (∀ lo hi, InRange nx ny x P lo hi → ∀ i j, lo ≤ S x P i j ∧ S x P i j ≤ hi) ∧
    -- mirroring
    (∀ i j, i < nx → S (fun a b => x (nx - 1 - a) b) (P.mirror0 nx) i j = S x P (nx - 1 - i) j) ∧
    (∀ i j, j < ny → S (fun a b => x a (ny - 1 - b)) (P.mirror1 ny) i j = S x P i (ny - 1 - j)) := by
  intro S
  refine ⟨fun t i j => C22_affine _ _ nx ny x y P t i j, fun s t i j => C22_linear_default _ _ nx ny x y s t i j,
    fun v hP i j => C22_const _ _ nx ny (normKernel_sum_one Real.exp _ σ Real.exp_pos) v P hP i j,
    fun lo hi h i j => C22_range _ _ (normKernel_nonneg Real.exp _ σ Real.exp_pos) (normKernel_sum_one Real.exp _ σ Real.exp_pos) hnx hny h i j,
    fun i j hi => C22_mirror0 _ _ nx ny (fun a b ha => normKernel_symm0 Real.exp _ σ a b ha) x P hi j,
    fun i j hj => C22_mirror1 _ _ nx ny (fun a b hb => normKernel_symm1 Real.exp _ σ a b hb) x P i hj⟩

-- non-vacuity: hypotheses are satisfiable by concrete non-trivial data
example : InRange 2 2 (fun i j => ((i + 2 * j : Nat) : ℚ)) ⟨some (fun _ => 1), none, none, some (fun i => (i : ℚ))⟩ 0 3 := by
  refine ⟨fun i j hi hj => ⟨Nat.cast_nonneg _, ?_⟩, ?_, nofun, nofun, ?_⟩
  · show ((i + 2 * j : Nat) : ℚ) ≤ 3
    exact_mod_cast (by omega : i + 2 * j ≤ 3)
  · rintro f ⟨⟩ j -
    norm_num
  · rintro f ⟨⟩ i hi
    exact ⟨Nat.cast_nonneg _, show (i : ℚ) ≤ 3 by exact_mod_cast (by omega : i ≤ 3)⟩
example : PadsConst (⟨some (fun _ => (5 : ℚ)), none, none, some (fun _ => 5)⟩ : Pads ℚ) 5 := by
  refine ⟨?_, ?_, ?_, ?_⟩ <;> intro f hf <;> simp at hf <;> (try subst hf) <;> simp
example : dist2 3 0 5 = 13 ∧ dist2 3 (2 * 3 - 0) 5 = 13 := by decide

end Fdtdx.C22
