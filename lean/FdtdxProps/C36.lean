/-
C36 — Dispersive cells follow their recurrence; accepted passive media stay bounded.

About `FdtdxModel/C36.lean` (the pole coefficients of the witness are those of the C35 model, `C35.coefChecked`):
* a cell whose pole slots are all zero (coefficients and polarisation) takes exactly the non-dispersive step, in the
  explicit and in the implicit (c4) branch, and stays zero: over any number of steps and any curl history;
* after a step every slot stores `c1 P + c2 P_prev + c3 E (+ c4 E')`, `P_prev' = P`; over a run from rest it holds `pTraj`
  of the cell's own field history; `(1 + l)·E' = x - inv_eps·Σ (P' - P)`: the step is the non-dispersive step plus the
  polarisation current;
* boundedness of accepted media, necessity side: for one coupling pole the stability measure exceeds 1 exactly when the
  monic characteristic polynomial of the grid-Nyquist mode is negative at `z = -1`, and over ℝ it then has a root
  `z < -1`.  Witness (Drude, `ω_p dt = 3/2`, `γ = 0`, courant_factor 3/4, vacuum background): the Nyquist amplitudes are
  multiplied by `-2` in every step; the tree as found accepts that medium silently, the repaired validation warns.
Sufficiency for a single pole per Fourier mode is in `FdtdxProps/C36Suff.lean`.  NOT proved: that every medium with
measure ≤ 1 - margin keeps the field energy within 10x.
-/
import FdtdxModel.C36
import FdtdxModel.C35
import Mathlib.Tactic.Ring
import Mathlib.Tactic.FieldSimp
import Mathlib.Tactic.Linarith
import Mathlib.Tactic.NormNum
import Mathlib.Tactic.Positivity
import Mathlib.Tactic.LinearCombination
import Mathlib.Algebra.Order.Field.Basic
import Mathlib.Topology.Algebra.Polynomial
import Mathlib.Topology.Order.IntermediateValue
import Mathlib.Topology.Instances.Real.Lemmas

namespace Fdtdx.C36

section field
variable {K : Type} [Field K]

/-- a zero-padded / non-dispersive slot at rest -/
def ZeroSlot (q : PoleCell K) : Prop := q.c1 = 0 ∧ q.c2 = 0 ∧ q.c3 = 0 ∧ q.c4 = 0 ∧ q.p = 0

theorem sumBy_zero (f : PoleCell K → K) (ps : List (PoleCell K)) (h : ∀ q ∈ ps, f q = 0) : sumBy f ps = 0 := by
  induction ps with
  | nil => rfl
  | cons q r ih =>
    simp only [sumBy]
    rw [h q (by simp), ih (fun q' hq' => h q' (by simp [hq'])), add_zero]

theorem sumBy_add (f g : PoleCell K → K) (ps : List (PoleCell K)) :
    sumBy (fun q => f q + g q) ps = sumBy f ps + sumBy g ps := by
  induction ps with
  | nil => simp [sumBy]
  | cons q r ih => simp only [sumBy, ih]; ring

theorem sumBy_sub (f g : PoleCell K → K) (ps : List (PoleCell K)) :
    sumBy (fun q => f q - g q) ps = sumBy f ps - sumBy g ps := by
  induction ps with
  | nil => simp [sumBy]
  | cons q r ih => simp only [sumBy, ih]; ring

theorem sumBy_mul_right (f : PoleCell K → K) (a : K) (ps : List (PoleCell K)) :
    sumBy (fun q => f q * a) ps = sumBy f ps * a := by
  induction ps with
  | nil => simp [sumBy]
  | cons q r ih => simp only [sumBy, ih]; ring

theorem sumBy_congr (f g : PoleCell K → K) (ps : List (PoleCell K)) (h : ∀ q ∈ ps, f q = g q) :
    sumBy f ps = sumBy g ps :=
  sub_eq_zero.mp ((sumBy_sub f g ps).symm.trans (sumBy_zero _ ps fun q hq => sub_eq_zero.mpr (h q hq)))

theorem cellE_zero (invEps l x e : K) (hasC4 : Bool) (ps : List (PoleCell K)) (hz : ∀ q ∈ ps, ZeroSlot q) :
    cellE invEps l x e hasC4 ps = ndStep l x := by
  have h1 : sumBy (fun q => q.p - pHat e q) ps = 0 := by
    apply sumBy_zero
    intro q hq
    obtain ⟨a, b, c, _, d⟩ := hz q hq
    simp [pHat, a, b, c, d]
  have h2 : sumBy (fun q => q.c4) ps = 0 := sumBy_zero _ _ (fun q hq => (hz q hq).2.2.2.1)
  unfold cellE ndStep
  cases hasC4 <;> simp [h1, h2]

/-- C36 (first clause): a cell with all-zero pole coefficients (at rest) evolves exactly like the same cell without
dispersion, whichever branch (explicit / implicit c4 divide) the simulation uses; the slots stay at rest. -/
theorem C36_zero_coeff_step (invEps l x e : K) (hasC4 : Bool) (ps : List (PoleCell K)) (hz : ∀ q ∈ ps, ZeroSlot q) :
    (cellStep invEps l x e hasC4 ps).1 = ndStep l x ∧
    (∀ q ∈ (cellStep invEps l x e hasC4 ps).2, ZeroSlot q ∧ q.pp = 0) := by
  refine ⟨cellE_zero invEps l x e hasC4 ps hz, ?_⟩
  intro q hq
  simp only [cellStep, List.mem_map] at hq
  obtain ⟨q0, hq0, rfl⟩ := hq
  obtain ⟨a, b, c, d, p0⟩ := hz q0 hq0
  cases hasC4 <;> simp [ZeroSlot, pHat, a, b, c, d, p0]

theorem cellRun_succ (invEps l factor : K) (hasC4 : Bool) (drive : Nat → K) (n : Nat) (s : K × List (PoleCell K)) :
    cellRun invEps l factor hasC4 drive (n + 1) s =
      cellStep invEps l (factor * (cellRun invEps l factor hasC4 drive n s).1 + drive n)
        (cellRun invEps l factor hasC4 drive n s).1 hasC4 (cellRun invEps l factor hasC4 drive n s).2 := rfl

/-- … and therefore over any number of steps, for any history of the curl term. -/
theorem C36_zero_coeff_run (invEps l factor : K) (hasC4 : Bool) (drive : Nat → K) (e0 : K) (ps : List (PoleCell K))
    (hz : ∀ q ∈ ps, ZeroSlot q) (n : Nat) :
    (cellRun invEps l factor hasC4 drive n (e0, ps)).1 = ndRun l factor drive n e0 ∧
    (∀ q ∈ (cellRun invEps l factor hasC4 drive n (e0, ps)).2, ZeroSlot q) := by
  induction n with
  | zero => exact ⟨rfl, hz⟩
  | succ n ih =>
    rw [cellRun_succ]
    obtain ⟨hE, hZ⟩ := C36_zero_coeff_step invEps l
      (factor * (cellRun invEps l factor hasC4 drive n (e0, ps)).1 + drive n)
      (cellRun invEps l factor hasC4 drive n (e0, ps)).1 hasC4 _ ih.2
    exact ⟨by rw [hE, ih.1]; rfl, fun q hq => (hZ q hq).1⟩

/-- C36 (recurrence): after a step every slot stores `c1 P + c2 P_prev + c3 E (+ c4 E')` and `P_prev' = P`;
the coefficients are untouched. -/
theorem C36_recurrence (invEps l x e : K) (hasC4 : Bool) (ps : List (PoleCell K)) :
    (cellStep invEps l x e hasC4 ps).2 =
      ps.map (fun q => { q with
        p := q.c1 * q.p + q.c2 * q.pp + q.c3 * e + (if hasC4 then q.c4 * (cellStep invEps l x e hasC4 ps).1 else 0),
        pp := q.p }) := by
  cases hasC4 <;> simp [cellStep, pHat]

theorem C36_pTraj_recurrence (c1 c2 c3 c4 : K) (E : Nat → K) (n : Nat) :
    (pTraj c1 c2 c3 c4 E (n + 2)).1 =
      c1 * (pTraj c1 c2 c3 c4 E (n + 1)).1 + c2 * (pTraj c1 c2 c3 c4 E n).1 + c3 * E (n + 1) + c4 * E (n + 2) := by
  simp [pTraj]

/-- C36 (recurrence over a run): started at rest, every slot of a running cell holds the solution `pTraj` of the
documented recurrence driven by the cell's own field history. -/
theorem C36_polarisation_history (invEps l factor : K) (hasC4 : Bool) (drive : Nat → K) (e0 : K)
    (ps : List (PoleCell K)) (hrest : ∀ q ∈ ps, q.p = 0 ∧ q.pp = 0) (n : Nat) :
    (cellRun invEps l factor hasC4 drive n (e0, ps)).2 =
      ps.map (fun q => { q with
        p := (pTraj q.c1 q.c2 q.c3 (if hasC4 then q.c4 else 0)
                (fun k => (cellRun invEps l factor hasC4 drive k (e0, ps)).1) n).1,
        pp := (pTraj q.c1 q.c2 q.c3 (if hasC4 then q.c4 else 0)
                (fun k => (cellRun invEps l factor hasC4 drive k (e0, ps)).1) n).2 }) := by
  induction n with
  | zero =>
    simp only [cellRun, pTraj]
    conv_lhs => rw [← List.map_id ps]
    apply List.map_congr_left
    intro q hq
    obtain ⟨a, b⟩ := hrest q hq
    cases q; simp_all
  | succ n ih =>
    rw [cellRun_succ, C36_recurrence, ← cellRun_succ, ih, List.map_map]
    apply List.map_congr_left
    intro q _
    cases hasC4 <;> simp [pTraj]

theorem cellStep_fst_mul_divisor (invEps l x e : K) (hasC4 : Bool) (ps : List (PoleCell K))
    (hdiv : (if hasC4 then 1 + invEps * sumBy (fun q => q.c4) ps + l else 1 + l) ≠ 0) :
    (cellStep invEps l x e hasC4 ps).1 * (if hasC4 then 1 + invEps * sumBy (fun q => q.c4) ps + l else 1 + l)
      = x + invEps * sumBy (fun q => q.p - pHat e q) ps := by
  cases hasC4 <;> exact div_mul_cancel₀ _ hdiv

/-- C36 (Ampère form of the step): the dispersive update is the non-dispersive update plus the polarisation
current, `(1 + l)·E' = x - inv_eps · Σ_p (P_p' - P_p)`. -/
theorem C36_ampere (invEps l x e : K) (hasC4 : Bool) (ps : List (PoleCell K))
    (hdiv : (if hasC4 then 1 + invEps * sumBy (fun q => q.c4) ps + l else 1 + l) ≠ 0) :
    (1 + l) * (cellStep invEps l x e hasC4 ps).1 =
      x - invEps * sumBy (fun q => (pHat e q + (if hasC4 then q.c4 * (cellStep invEps l x e hasC4 ps).1 else 0)) - q.p) ps := by
  have hE := cellStep_fst_mul_divisor invEps l x e hasC4 ps hdiv
  rw [sumBy_sub] at hE
  cases hasC4
  · simp only [Bool.false_eq_true, if_false, add_zero] at hE ⊢
    rw [sumBy_sub]
    linear_combination hE
  · simp only [if_true] at hE ⊢
    rw [sumBy_sub, sumBy_add, sumBy_mul_right]
    linear_combination hE

/-- the measure of a single slot with `c4 = 0`: the coupling test `c3 == 0` only skips a zero term -/
theorem measure_single [DecidableEq K] (cf eps mu c1 c2 c3 p pp : K) :
    measure cf eps mu [⟨c1, c2, c3, 0, p, pp⟩] = (cf * cf * (1 / mu) + c3 / (1 + c1 - c2)) / eps := by
  simp only [measure, sumBy, sub_zero, add_zero]
  split
  · rename_i h; rw [beq_iff_eq.mp h, zero_div]
  · rfl

theorem C36_charPoly_neg_one (nu2 invEps c1 c2 c3 : K) :
    charPoly nu2 invEps c1 c2 c3 (-1) = 4 * ((1 + c1 - c2) * (1 - nu2) - c3 * invEps) := by
  unfold charPoly; ring

/-- the identity on which necessity and sufficiency of the coupled bound both turn.  With `m = cf²/μ`, `ν² = m/ε∞`,
`q = 1 + c1 - c2` (for stored coefficients `(4 - ω0²dt²)/D`), coupling `k` (`c3`, or `K dt²` with `D` cleared), mode
parameter `σ` (`σ = 1`: grid-Nyquist) and the measure `M = (m + k/q)/ε∞`:
`q (4 - 4σν²) - 4k/ε∞ = 4 q ((1 - M) + (1 - σ) ν²)`; the left side is the per-mode `charPoly` at `z = -1` -/
theorem margin_eq (m k q eps σ : K) (hq : q ≠ 0) :
    q * (4 - 4 * (σ * (m * (1 / eps)))) - 4 * (k * (1 / eps))
      = 4 * q * (1 - (m + k / q) / eps + (1 - σ) * (m * (1 / eps))) := by
  linear_combination (4 * k * (1 / eps)) * mul_inv_cancel₀ hq

end field

/-! ### the grid-Nyquist mode: necessity of the coupled bound -/
section nyquist
variable {F : Type} [Field F] [LinearOrder F] [IsStrictOrderedRing F]

/-- `1 < M ↔ charPoly (-1) < 0` in variables: by `margin_eq` at `σ = 1` the right side is `4 q (1 - M)` -/
theorem nyquist_sign_aux (A eps q c3 : F) (hq : 0 < q) :
    1 < (A + c3 / q) / eps ↔ 4 * (q * (1 - A * (1 / eps)) - c3 * (1 / eps)) < 0 := by
  rw [show 4 * (q * (1 - A * (1 / eps)) - c3 * (1 / eps)) = 4 * q * (1 - (A + c3 / q) / eps) by
      linear_combination margin_eq A c3 q eps 1 hq.ne',
    ← sub_neg, ← mul_lt_mul_iff_right₀ (mul_pos four_pos hq), mul_zero]

/-- for a medium with one coupling Lorentz/Drude pole: the stability measure exceeds 1 exactly when the (monic)
characteristic polynomial of the Nyquist mode is negative at `z = -1`. -/
theorem C36_nyquist_sign [DecidableEq F] (cf eps mu c1 c2 c3 p pp : F) (heps : 0 < eps) (hq : 0 < 1 + c1 - c2)
    (hc3 : c3 ≠ 0) :
    1 < measure cf eps mu [⟨c1, c2, c3, 0, p, pp⟩] ↔
      charPoly (cf * cf * (1 / mu) * (1 / eps)) (1 / eps) c1 c2 c3 (-1) < 0 := by
  rw [C36_charPoly_neg_one, measure_single, nyquist_sign_aux _ _ _ _ hq]

end nyquist

section witness

/-- the Nyquist amplitudes of a lossless Drude medium with `ω_p dt = 3/2` at `courant_factor = 3/4`
(`κ = 3/2`, vacuum background) are multiplied by `-2` in every step — for all `n`. -/
theorem C36_nyquist_witness (n : Nat) :
    nyqRun (3 / 2 : ℚ) 1 1 2 (-1) (9 / 4) n ⟨4, -4, -2, 1⟩
      = ⟨4 * (-2) ^ n, -4 * (-2) ^ n, -2 * (-2) ^ n, (-2) ^ n⟩ := by
  induction n with
  | zero => simp [nyqRun]
  | succ n ih =>
    simp only [nyqRun, ih, nyqStep, pow_succ]
    congr 1 <;> ring

/-- these are the coefficients fdtdx stores for that pole (C35 model), `-2` is a root of the characteristic
polynomial, and the tree as found accepts the medium: the per-pole guard passes and nothing else is checked -/
theorem C36_as_found_accepts_witness :
    C35.coefChecked (C35.drude (3 / 2 : ℚ) 0) 1 = some ⟨2, -1, 9 / 4, 0⟩ ∧
    charPoly ((3 / 4 : ℚ) * (3 / 4)) 1 2 (-1) (9 / 4) (-2) = 0 ∧
    AsFound.warns (3 / 4 : ℚ) 1 1 [⟨2, -1, 9 / 4, 0, 0, 0⟩] = false := by
  refine ⟨?_, ?_, rfl⟩
  · simp only [C35.coefChecked, C35.drude, C35.coef]; norm_num
  · norm_num [charPoly]

/-- the repaired validation warns about it (measure 9/8) and is silent for the stable neighbour `ω_p dt = 1/2` -/
theorem C36_fixed_warns_witness :
    warns (3 / 4 : ℚ) 1 1 (1 / 100) [⟨2, -1, 9 / 4, 0, 0, 0⟩] = true ∧
    warns (3 / 4 : ℚ) 1 1 (1 / 100) [⟨2, -1, 1 / 4, 0, 0, 0⟩] = false := by
  constructor <;> (simp only [warns, measure, sumBy]; norm_num)

end witness

/-! ### existence of the root beyond -1 (ℝ) -/
section root

private theorem abs_mul_pow_le (a M : ℝ) (hM : 1 ≤ M) (k : ℕ) (hk : k ≤ 3) : -(|a| * M ^ 3) ≤ a * M ^ k := by
  have hk' : 0 ≤ M ^ k := pow_nonneg (zero_le_one.trans hM) k
  calc -(|a| * M ^ 3) ≤ -(|a| * M ^ k) :=
        neg_le_neg (mul_le_mul_of_nonneg_left (pow_le_pow_right₀ hM hk) (abs_nonneg a))
    _ = -|a * M ^ k| := by rw [abs_mul, abs_of_nonneg hk']
    _ ≤ a * M ^ k := neg_abs_le _

/-- a monic quartic is positive at `M = 1 + Σ|aᵢ|`: each lower term is at least `-|aᵢ| M³` -/
private theorem quartic_pos (a3 a2 a1 a0 : ℝ) :
    ∃ M : ℝ, 1 ≤ M ∧ 0 < M ^ 4 + a3 * M ^ 3 + a2 * M ^ 2 + a1 * M + a0 := by
  obtain ⟨M, hM⟩ : ∃ M : ℝ, M = 1 + |a3| + |a2| + |a1| + |a0| := ⟨_, rfl⟩
  have hM1 : 1 ≤ M := by
    have := abs_nonneg a3; have := abs_nonneg a2; have := abs_nonneg a1; have := abs_nonneg a0
    linarith
  refine ⟨M, hM1, ?_⟩
  have h3 := abs_mul_pow_le a3 M hM1 3 le_rfl
  have h2 := abs_mul_pow_le a2 M hM1 2 (by norm_num)
  have h1 := abs_mul_pow_le a1 M hM1 1 (by norm_num)
  have h0 := abs_mul_pow_le a0 M hM1 0 (by norm_num)
  rw [pow_one] at h1
  rw [pow_zero, mul_one] at h0
  have hM4 : M ^ 4 = M ^ 3 + |a3| * M ^ 3 + |a2| * M ^ 3 + |a1| * M ^ 3 + |a0| * M ^ 3 := by
    rw [pow_succ M 3]; nth_rewrite 2 [hM]; ring
  have := pow_pos (zero_lt_one.trans_le hM1) 3
  linarith

theorem C36_root_beyond_minus_one (nu2 invEps c1 c2 c3 : ℝ)
    (h : charPoly nu2 invEps c1 c2 c3 (-1) < 0) : ∃ z : ℝ, z < -1 ∧ charPoly nu2 invEps c1 c2 c3 z = 0 := by
  have hcont : Continuous (charPoly nu2 invEps c1 c2 c3) := by
    unfold charPoly; fun_prop
  -- in `t = -z` the polynomial is a monic quartic, so it is positive at some `z = -M ≤ -1`
  obtain ⟨M, hM1, hM⟩ := quartic_pos (2 + c1 - c3 * invEps - 4 * nu2)
    (1 + 2 * c1 - c2 - 2 * (c3 * invEps) - 4 * nu2 * c1) (c1 - 2 * c2 - c3 * invEps + 4 * nu2 * c2) (-c2)
  have hpos : 0 < charPoly nu2 invEps c1 c2 c3 (-M) := by
    unfold charPoly; linear_combination hM
  obtain ⟨z, hz, hfz⟩ := intermediate_value_Icc' (neg_le_neg hM1) hcont.continuousOn ⟨h.le, hpos.le⟩
  refine ⟨z, lt_of_le_of_ne hz.2 ?_, hfz⟩
  rintro rfl
  exact h.ne hfz

end root

/-! ### non-vacuity -/
section nonvacuity

/-- hypotheses of `C36_zero_coeff_step`: a two-slot cell at rest with zero coefficients -/
example : ∀ q ∈ [(⟨0, 0, 0, 0, 0, 7⟩ : PoleCell ℚ), ⟨0, 0, 0, 0, 0, 0⟩], ZeroSlot q := by
  intro q hq; simp at hq; rcases hq with rfl | rfl <;> simp [ZeroSlot]

/-- the statement is not trivially true of every cell: with a coupling pole the step differs -/
example : (cellStep (1 : ℚ) 0 1 1 false [⟨2, -1, 1 / 2, 0, 0, 0⟩]).1 ≠ ndStep 0 1 := by
  norm_num [cellStep, cellE, sumBy, pHat, ndStep]

/-- hypotheses of `C36_nyquist_sign` / `C36_root_beyond_minus_one` for the witness medium -/
example : (0 : ℚ) < 1 ∧ (0 : ℚ) < 1 + 2 - (-1) ∧ (9 / 4 : ℚ) ≠ 0 ∧
    charPoly ((3 / 4 : ℚ) * (3 / 4) * (1 / 1) * (1 / 1)) (1 / 1) 2 (-1) (9 / 4) (-1) < 0 := by
  norm_num [charPoly]

end nonvacuity

end Fdtdx.C36
