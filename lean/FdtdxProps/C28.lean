/-
C28 — Static materials are painted by placement order.

Theorems about `FdtdxModel/C28.lean`, for any number of objects, any boxes and voxel masks, any placement orders
(ties included), any materials, over an arbitrary field.

The winner of a cell is the covering object with the largest (placement_order, list index) (`IsWinner`; unique, and
it exists as soon as some object covers the cell).  `paintAll_winner` is the painter's rule for an abstract step:
after the loop over the stably sorted objects the cell holds the winner's target.  Its instances are the
inverse-stored arrays (`C28_painter_inv`), the conductivities (`C28_painter_cond`) and the permittivity with the
per-object sub-pixel switch (`C28_painter_eps`, `C28_unsmoothed_exact`); `C28_initArrays_*` restate them for the
arrays `_init_arrays` returns.  Then: the volume never wins a cell another object covers and is painted first;
component counts are the widest tier any material needs (`C28_tier_cases`, `C28_tier_widest`, `C28_nEps_smooth`);
the permeability is the scalar 1 iff nothing is magnetic, no conductivity array iff nothing conducts; the reference
spacing c·dt/courant on uniform and rectilinear grids.

For tier 9 the inverse is a 3×3 matrix inverse and the theorems need the painted tensors to be invertible
(`det3 ≠ 0`, hypothesis `hreg`; `jnp.linalg.inv` has the same precondition).  Tiers 1 and 3 need nothing.
-/
import FdtdxModel.C28
import FdtdxLemmas.C28Sort
import Mathlib.Tactic.Ring
import Mathlib.Tactic.FieldSimp
import Mathlib.Tactic.IntervalCases
import Mathlib.Algebra.Field.Basic

namespace Fdtdx.C28
open Fdtdx.C28Lemmas

/-! ### the nine-component record -/
section v9
variable {α : Type}

theorem V9.get_ofFn (f : Nat → α) (k : Nat) (h : k < 9) : (V9.ofFn f).get k = f k := by
  interval_cases k <;> rfl

theorem V9.ofFn_get (v : V9 α) : V9.ofFn v.get = v := by
  cases v; rfl

theorem V9.ofFn_congr {f g : Nat → α} (h : ∀ k, k < 9 → f k = g k) : V9.ofFn f = V9.ofFn g := by
  simp only [V9.ofFn, h 0 (by omega), h 1 (by omega), h 2 (by omega), h 3 (by omega), h 4 (by omega),
    h 5 (by omega), h 6 (by omega), h 7 (by omega), h 8 (by omega)]

end v9

/-! ### the winner of a cell -/
section winner
variable {ι α : Type}

theorem covers_iff (o : SObj ι α) (c : ι) :
    covers o c = true ↔ o.inBox c = true ∧ (o.uniform = true ∨ o.mask c = true) := by
  rw [covers, Bool.and_eq_true, Bool.or_eq_true]

theorem not_covers (o : SObj ι α) (c : ι) (h : covers o c = false) (hb : o.inBox c = true) :
    o.uniform = false ∧ o.mask c = false := by
  rwa [covers, hb, Bool.true_and, Bool.or_eq_false_iff] at h

/-- `j` is the covering object of cell `c` with the largest (placement_order, list index) -/
def IsWinner (objs : List (SObj ι α)) (c : ι) (j : Nat) : Prop :=
  ∃ h : j < objs.length, covers objs[j] c = true ∧
    ∀ (k : Nat) (hk : k < objs.length), covers objs[k] c = true →
      objs[k].order < objs[j].order ∨ (objs[k].order = objs[j].order ∧ k ≤ j)

theorem C28_winner_unique (objs : List (SObj ι α)) (c : ι) (i j : Nat)
    (hi : IsWinner objs c i) (hj : IsWinner objs c j) : i = j := by
  obtain ⟨h1, c1, m1⟩ := hi
  obtain ⟨h2, c2, m2⟩ := hj
  have a := m1 j h2 c2
  have b := m2 i h1 c1
  omega

theorem sortObjs_eq (objs : List (SObj ι α)) :
    sortObjs objs = objs.mergeSort (fun a b => decide (a.order ≤ b.order)) := rfl

/-- the last covering object of the sorted list is the winner -/
theorem sorted_last_cover (objs : List (SObj ι α)) (c : ι) (z : SObj ι α)
    (h : ((sortObjs objs).filter (fun o => covers o c)).getLast? = some z) :
    ∃ j, ∃ hw : IsWinner objs c j, z = objs[j]'hw.1 := by
  obtain ⟨j, hj, heq, hp, hmax⟩ :=
    mergeSort_filter_getLast? (fun o : SObj ι α => o.order) (fun o => covers o c) objs z h
  exact ⟨j, ⟨hj, hp, hmax⟩, heq⟩

theorem exists_last_cover (objs : List (SObj ι α)) (c : ι) (k : Nat) (hk : k < objs.length)
    (hc : covers objs[k] c = true) :
    ∃ z, ((sortObjs objs).filter (fun o => covers o c)).getLast? = some z := by
  have hm : objs[k] ∈ (sortObjs objs).filter (fun o => covers o c) :=
    List.mem_filter.mpr ⟨List.mem_mergeSort.mpr (List.getElem_mem hk), hc⟩
  exact Option.isSome_iff_exists.mp (List.getLast?_isSome.mpr (List.ne_nil_of_mem hm))

/-- **C28 (existence)**: a covered cell has a winner. -/
theorem C28_winner_exists (objs : List (SObj ι α)) (c : ι) (k : Nat) (hk : k < objs.length)
    (hc : covers objs[k] c = true) : ∃ j, IsWinner objs c j := by
  obtain ⟨z, hz⟩ := exists_last_cover objs c k hk hc
  obtain ⟨j, hw, _⟩ := sorted_last_cover objs c z hz
  exact ⟨j, hw⟩

theorem winner_last (objs : List (SObj ι α)) (c : ι) (j : Nat) (hw : IsWinner objs c j) :
    ((sortObjs objs).filter (fun o => covers o c)).getLast? = some (objs[j]'hw.1) := by
  obtain ⟨z, hz⟩ := exists_last_cover objs c j hw.1 hw.2.1
  obtain ⟨j', hw', rfl⟩ := sorted_last_cover objs c z hz
  cases C28_winner_unique objs c j' j hw' hw
  exact hz

/-- **C28 (the volume is lowest)**: if the object at list index 0 has the smallest placement order (the volume:
index 0 by construction of `place_objects`, order -1000 by default), it does not win any cell that another
object covers. -/
theorem C28_volume_lowest (objs : List (SObj ι α)) (c : ι) (j k : Nat) (hw : IsWinner objs c j)
    (h0 : 0 < objs.length) (hlow : ∀ (i : Nat) (hi : i < objs.length), objs[0].order ≤ objs[i].order)
    (hk : k < objs.length) (hk0 : 0 < k) (hc : covers objs[k] c = true) : j ≠ 0 := by
  obtain ⟨hj, _, hmax⟩ := hw
  intro hj0
  subst hj0
  have := hmax k hk hc
  have := hlow k hk
  omega

/-- … and it is the first object painted. -/
theorem C28_sorted_head (objs : List (SObj ι α)) (h0 : 0 < objs.length)
    (hlow : ∀ (i : Nat) (hi : i < objs.length), objs[0].order ≤ objs[i].order) :
    (sortObjs objs).head? = some objs[0] := by
  match objs, h0, hlow with
  | x :: xs, _, hlow =>
    obtain ⟨l₁, l₂, h₁, _, h₃⟩ := List.mergeSort_cons (le := fun a b : SObj ι α => decide (a.order ≤ b.order))
      (keyLE_trans fun o : SObj ι α => o.order) (keyLE_total fun o : SObj ι α => o.order) x xs
    -- an element standing before `x` in the sorted list would have to be strictly below it
    have hl1 : l₁ = [] := List.eq_nil_iff_forall_not_mem.mpr fun b hb => by
      have hbm : b ∈ x :: xs := List.mem_mergeSort.mp (h₁ ▸ List.mem_append_left _ hb)
      obtain ⟨i, hi, rfl⟩ := List.getElem_of_mem hbm
      have := h₃ _ hb
      have hle : x.order ≤ (x :: xs)[i].order := hlow i hi
      rw [decide_eq_true hle] at this
      cases this
    rw [sortObjs_eq, h₁, hl1]
    rfl

end winner

/-! ### the painter loop at one cell -/
section fold
variable {ι α : Type}

theorem foldl_paintArr (step : ι → V9 α → SObj ι α → V9 α) (c : ι) :
    ∀ (L : List (SObj ι α)) (arr : ι → V9 α),
      (L.foldl (paintArr step) arr) c = L.foldl (fun v o => step c v o) (arr c)
  | [], _ => rfl
  | x :: xs, arr => by
    rw [List.foldl_cons, List.foldl_cons, foldl_paintArr step c xs]
    rfl

/-- abstract painter's rule for `paintAll`: if, for the objects of the scene, a step writes `tgt o` where `o`
covers the cell and leaves `good` values alone where it does not, and the targets are good, the cell ends with the
winner's target. -/
theorem paintAll_winner [OfNat α 0] (step : ι → V9 α → SObj ι α → V9 α) (tgt : SObj ι α → V9 α)
    (good : V9 α → Prop) (c : ι) (objs : List (SObj ι α))
    (hcov : ∀ o ∈ objs, ∀ v, covers o c = true → step c v o = tgt o)
    (hnot : ∀ o ∈ objs, ∀ v, covers o c = false → good v → step c v o = v)
    (hgood : ∀ o ∈ objs, covers o c = true → good (tgt o))
    (j : Nat) (hw : IsWinner objs c j) :
    paintAll step objs c = tgt (objs[j]'hw.1) := by
  have hmem : ∀ o ∈ sortObjs objs, o ∈ objs := fun o => List.mem_mergeSort.mp
  rw [paintAll, foldl_paintArr]
  exact foldl_last_cover (fun v o => step c v o) (fun o => covers o c) tgt good _ _ _
    (fun o ho => hcov o (hmem o ho)) (fun o ho => hnot o (hmem o ho)) (fun o ho => hgood o (hmem o ho))
    (winner_last objs c j hw)

end fold

/-! ### inverse-stored properties and conductivities over a field -/
section field
variable {ι K : Type} [Field K]

/-- the stored inverse reads only the nine stored components -/
theorem ofFn_invTier_get (n : Nat) (f : Nat → K) :
    V9.ofFn (invTier n (V9.ofFn f).get) = V9.ofFn (invTier n f) := by
  unfold invTier
  split <;> rfl

theorem ofFn_invTier_congr (n : Nat) {f g : Nat → K} (h : V9.ofFn f = V9.ofFn g) :
    V9.ofFn (invTier n f) = V9.ofFn (invTier n g) := by
  rw [← ofFn_invTier_get n f, h, ofFn_invTier_get]

/-- a stored value survives the round trip `inv ∘ inv` of a multi-material object that does not cover the cell -/
def Good (n : Nat) (v : V9 K) : Prop := V9.ofFn (invTier n (V9.ofFn (invTier n v.get)).get) = v

theorem det3_div (a : Nat → K) (d : K) : det3 (fun k => a k / d) = det3 a / d ^ 3 := by
  simp only [det3]
  ring

theorem det3_adj3 (m : Nat → K) : det3 (adj3 m) = det3 m ^ 2 := by
  simp only [det3, adj3]
  ring

theorem minor_div (x y z w d : K) : x / d * (y / d) - z / d * (w / d) = (x * y - z * w) / d ^ 2 := by
  ring

theorem adj3_div (a : Nat → K) (d : K) : ∀ k, k < 9 → adj3 (fun i => a i / d) k = adj3 a k / d ^ 2
  | 0, _ | 1, _ | 2, _ | 3, _ | 4, _ | 5, _ | 6, _ | 7, _ | 8, _ => minor_div _ _ _ _ d
  | k + 9, h => absurd h (by omega)

theorem adj3_adj3 (m : Nat → K) (k : Nat) (hk : k < 9) : adj3 (adj3 m) k = det3 m * m k := by
  interval_cases k <;> simp only [adj3, det3] <;> ring

/-- `inv3x3` is an involution on invertible tensors -/
theorem inv3x3_invol (m : Nat → K) (h : det3 m ≠ 0) : ∀ k, k < 9 → inv3x3 (inv3x3 m) k = m k := by
  intro k hk
  unfold inv3x3
  rw [det3_div, adj3_div _ _ k hk, det3_adj3, adj3_adj3 m k hk]
  field_simp

/-- `invTier` is an involution on regular values: at tiers 1 and 3 every value, at tier 9 the invertible tensors -/
theorem invTier_invol (n : Nat) (f : Nat → K) (hreg : n = 9 → det3 f ≠ 0) :
    ∀ k, k < 9 → invTier n (invTier n f) k = f k := by
  intro k hk
  by_cases hn : n = 9
  · simp only [invTier, if_pos hn]
    exact inv3x3_invol f (hreg hn) k hk
  · simp only [invTier, if_neg hn]
    exact one_div_one_div _

theorem good_invTier (n : Nat) (f : Nat → K) (hreg : n = 9 → det3 f ≠ 0) : Good n (V9.ofFn (invTier n f)) := by
  rw [Good, ofFn_invTier_get]
  exact (ofFn_invTier_congr n (ofFn_invTier_get n _)).trans
    (ofFn_invTier_congr n (V9.ofFn_congr (invTier_invol n f hreg)))

variable (n : Nat) (prop : Mat K → Nat → K) (c : ι)

theorem paintInv_cover (v : V9 K) (o : SObj ι K) (h : covers o c = true) :
    paintInv n prop c v o = V9.ofFn (invTier n (tierVal n (prop o.mat))) := by
  obtain ⟨hb, hm⟩ := (covers_iff o c).mp h
  rw [paintInv, if_pos hb]
  by_cases hu : o.uniform = true
  · rw [if_pos hu]
  · rw [if_neg hu, if_pos (hm.resolve_left hu), ofFn_invTier_get]
    congr 2
    funext k
    ring

theorem paintInv_noncover (v : V9 K) (o : SObj ι K) (h : covers o c = false) (hg : Good n v) :
    paintInv n prop c v o = v := by
  rw [paintInv]
  by_cases hb : o.inBox c = true
  · obtain ⟨hu, hm⟩ := not_covers o c h hb
    rw [if_pos hb, if_neg (by simp [hu]), if_neg (by simp [hm]), ofFn_invTier_get]
    refine Eq.trans ?_ hg
    congr 2
    funext k
    ring
  · rw [if_neg hb]

/-- **C28 (painter's rule, inverse-stored arrays)**: after the loop over the stably sorted objects, the array value
at a cell is the inverse of the tier value of the material of the covering object with the largest
(placement_order, list index). -/
theorem C28_painter_inv (objs : List (SObj ι K)) (j : Nat) (hw : IsWinner objs c j)
    (hreg : n = 9 → ∀ o ∈ objs, covers o c = true → det3 (tierVal n (prop o.mat)) ≠ 0) :
    paintAll (paintInv n prop) objs c = V9.ofFn (invTier n (tierVal n (prop (objs[j]'hw.1).mat))) :=
  paintAll_winner (paintInv n prop) (fun o => V9.ofFn (invTier n (tierVal n (prop o.mat)))) (Good n) c objs
    (fun o _ v h => paintInv_cover n prop c v o h)
    (fun o _ v h hg => paintInv_noncover n prop c v o h hg)
    (fun o ho hc => good_invTier n _ fun h9 => hreg h9 o ho hc) j hw

variable (sp : K)

theorem paintCond_cover (v : V9 K) (o : SObj ι K) (h : covers o c = true) :
    paintCond n sp prop c v o = V9.ofFn (fun k => tierVal n (prop o.mat) k * sp) := by
  obtain ⟨hb, hm⟩ := (covers_iff o c).mp h
  rw [paintCond, if_pos hb]
  by_cases hu : o.uniform = true
  · rw [if_pos hu]
  · rw [if_neg hu, if_pos (hm.resolve_left hu)]
    dsimp only
    congr 1
    funext k
    ring

theorem paintCond_noncover (v : V9 K) (o : SObj ι K) (h : covers o c = false) :
    paintCond n sp prop c v o = v := by
  rw [paintCond]
  by_cases hb : o.inBox c = true
  · obtain ⟨hu, hm⟩ := not_covers o c h hb
    rw [if_pos hb, if_neg (by simp [hu]), if_neg (by simp [hm])]
    refine Eq.trans ?_ (V9.ofFn_get v)
    dsimp only
    congr 1
    funext k
    ring
  · rw [if_neg hb]

/-- **C28 (painter's rule, conductivities)**: the conductivity array at a cell is the tier value of the winner's
conductivity times the reference spacing. -/
theorem C28_painter_cond (objs : List (SObj ι K)) (j : Nat) (hw : IsWinner objs c j) :
    paintAll (paintCond n sp prop) objs c = V9.ofFn (fun k => tierVal n (prop (objs[j]'hw.1).mat) k * sp) :=
  paintAll_winner (paintCond n sp prop) (fun o => V9.ofFn (fun k => tierVal n (prop o.mat) k * sp)) (fun _ => True)
    c objs (fun o _ v h => paintCond_cover n prop c sp v o h)
    (fun o _ v h _ => paintCond_noncover n prop c sp v o h)
    (fun _ _ _ => trivial) j hw

end field

/-! ### permittivity with the per-object sub-pixel switch -/
section eps
variable {ι K : Type} [Field K]

/-- what a covering object leaves at a cell: its tier value, or — for a smoothed multi-material object — its xx
entry on every stored component (binary fill: the Farjadpour blend collapses to the bulk value) -/
def tgtEps (n : Nat) (o : SObj ι K) : V9 K :=
  if o.smooth && !o.uniform then V9.ofFn (invTier n (fun _ => tierVal n o.mat.eps 0))
  else V9.ofFn (invTier n (tierVal n o.mat.eps))

variable (n : Nat) (c : ι)

theorem paintEps_cover (v : V9 K) (o : SObj ι K) (hn : (o.smooth && !o.uniform) = true → n ≠ 9)
    (h : covers o c = true) : paintEps n c v o = tgtEps n o := by
  rw [paintEps, tgtEps]
  by_cases hs : (o.smooth && !o.uniform) = true
  · obtain ⟨hb, hm⟩ := (covers_iff o c).mp h
    have hu : ¬ o.uniform = true := by simpa using (Bool.and_eq_true_iff.mp hs).2
    rw [if_pos hs, if_pos hs, if_pos hb, if_pos (hm.resolve_left hu), ofFn_invTier_get]
    -- full cell: `epsBar = epsH = eps2`, so every component is `eps2`
    simp only [invTier, if_neg (hn hs)]
    congr 1
    funext k
    simp
  · rw [if_neg hs, if_neg hs]
    exact paintInv_cover n _ c v o h

theorem paintEps_noncover (v : V9 K) (o : SObj ι K) (h : covers o c = false) (hg : Good n v)
    (hfoot : (o.smooth && !o.uniform) = true → o.inBox c = true → o.mask c = true) :
    paintEps n c v o = v := by
  rw [paintEps]
  by_cases hs : (o.smooth && !o.uniform) = true
  · rw [if_pos hs]
    by_cases hb : o.inBox c = true
    · have hm := hfoot hs hb
      rw [(not_covers o c h hb).2] at hm
      cases hm
    · rw [if_neg hb]
  · rw [if_neg hs]
    exact paintInv_noncover n _ c v o h hg

/-- **C28 (painter's rule for the permittivity, per-object smoothing switch)**.  `hfoot`: the cell does not lie in
the part of a smoothed object's grid slice that the object does not cover (there the blend overwrites yy/zz of
whatever lies underneath with its xx entry — the code warns about it).  Then the value is the winner's, decided by
the winner's own flag only. -/
theorem C28_painter_eps (objs : List (SObj ι K)) (j : Nat) (hw : IsWinner objs c j)
    (hn : n = 9 → ∀ o ∈ objs, (o.smooth && !o.uniform) = false)
    (hreg : n = 9 → ∀ o ∈ objs, covers o c = true → det3 (tierVal n o.mat.eps) ≠ 0)
    (hfoot : ∀ o ∈ objs, (o.smooth && !o.uniform) = true → o.inBox c = true → o.mask c = true) :
    paintAll (paintEps n) objs c = tgtEps n (objs[j]'hw.1) := by
  have hn9 : ∀ o ∈ objs, (o.smooth && !o.uniform) = true → n ≠ 9 := fun o ho hs h9 => by
    rw [hn h9 o ho] at hs
    cases hs
  refine paintAll_winner (paintEps n) (tgtEps n) (Good n) c objs
    (fun o ho v hc => paintEps_cover n c v o (hn9 o ho) hc)
    (fun o ho v hc hg => paintEps_noncover n c v o hc hg (hfoot o ho)) (fun o ho hc => ?_) j hw
  rw [tgtEps]
  split
  · exact good_invTier n _ fun h9 => absurd h9 (hn9 o ho ‹_›)
  · exact good_invTier n _ fun h9 => hreg h9 o ho hc

/-- **C28 (un-smoothed objects are exact)**: if the winner of the cell does not request smoothing, the cell carries
exactly the winner's material at the scene's tier, component by component — whatever the other objects request. -/
theorem C28_unsmoothed_exact (objs : List (SObj ι K)) (j : Nat) (hw : IsWinner objs c j)
    (hn : n = 9 → ∀ o ∈ objs, (o.smooth && !o.uniform) = false)
    (hreg : n = 9 → ∀ o ∈ objs, covers o c = true → det3 (tierVal n o.mat.eps) ≠ 0)
    (hfoot : ∀ o ∈ objs, (o.smooth && !o.uniform) = true → o.inBox c = true → o.mask c = true)
    (hj : ((objs[j]'hw.1).smooth && !(objs[j]'hw.1).uniform) = false) :
    paintAll (paintEps n) objs c = V9.ofFn (invTier n (tierVal n (objs[j]'hw.1).mat.eps)) := by
  rw [C28_painter_eps n c objs j hw hn hreg hfoot, tgtEps, hj]
  rfl

omit [Field K] in
/-- cells outside every smoothed object's grid slice satisfy `hfoot` trivially -/
theorem hfoot_of_outside (objs : List (SObj ι K))
    (hout : ∀ o ∈ objs, (o.smooth && !o.uniform) = true → o.inBox c = false) :
    ∀ o ∈ objs, (o.smooth && !o.uniform) = true → o.inBox c = true → o.mask c = true := by
  intro o ho hs hb
  rw [hout o ho hs] at hb
  cases hb

end eps

/-! ### the arrays `_init_arrays` returns -/

/-- the shape of an optional array: allocated unless the test `b` holds -/
theorem ite_none_iff {β : Type} {b : Prop} [Decidable b] {x : β} : (if b then none else some x) = none ↔ b := by
  split <;> simp [*]

theorem some_of_ite_none {β : Type} {b : Prop} [Decidable b] {x y : β} (h : (if b then none else some x) = some y) :
    x = y := by
  split at h
  · cases h
  · exact Option.some.inj h

section arrays
variable {ι K : Type} [Field K] (close : K → K → Bool) (cc dt cn : K)
  (objs : List (SObj ι K)) (devs : List (Mat K))

/-- any smoothed (multi-material) object forces three permittivity components; otherwise the count is `tierOf` -/
theorem C28_nEps_smooth :
    (initArrays close cc dt cn objs devs).nEps
      = if objs.any (fun o => o.smooth && !o.uniform) then 3
        else tierOf close ((allMats objs devs).map (·.eps)) := rfl

/-- inverse permittivity: stored components at a cell = those of the winner (`tgtEps`: the inverse of its tier value,
or of its xx entry when the winner itself is smoothed), for every cell outside the uncovered part of smoothed slices -/
theorem C28_initArrays_invEps (c : ι) (j : Nat) (hw : IsWinner objs c j)
    (hreg : (initArrays close cc dt cn objs devs).nEps = 9 → ∀ o ∈ objs, covers o c = true → det3 o.mat.eps ≠ 0)
    (hfoot : ∀ o ∈ objs, (o.smooth && !o.uniform) = true → o.inBox c = true → o.mask c = true) :
    (initArrays close cc dt cn objs devs).invEps c
      = tgtEps (initArrays close cc dt cn objs devs).nEps (objs[j]'hw.1) := by
  refine C28_painter_eps _ c objs j hw ?_ ?_ hfoot
  · -- nine components only arise without smoothed objects
    intro h9 o ho
    split at h9
    · cases h9
    · rename_i hany
      exact Bool.eq_false_iff.mpr fun hso => hany (List.any_eq_true.mpr ⟨o, ho, hso⟩)
  · intro h9 o ho hc
    rw [h9]
    exact hreg h9 o ho hc

/-- inverse permeability, when the scene is magnetic -/
theorem C28_initArrays_invMu (c : ι) (j : Nat) (hw : IsWinner objs c j)
    (n : Nat) (hreg : n = 9 → ∀ o ∈ objs, covers o c = true → det3 o.mat.mu ≠ 0) (arr : ι → V9 K) (h : (initArrays close cc dt cn objs devs).invMu = some (n, arr)) :
    arr c = V9.ofFn (invTier n (tierVal n (objs[j]'hw.1).mat.mu)) := by
  obtain ⟨rfl, rfl⟩ := Prod.mk.inj (some_of_ite_none h)
  refine C28_painter_inv _ _ c objs j hw fun h9 o ho hc => ?_
  rw [h9]
  exact hreg h9 o ho hc

/-- electric conductivity, when some material conducts: σ_winner × c·dt/courant -/
theorem C28_initArrays_sigE (c : ι) (j : Nat) (hw : IsWinner objs c j)
    (n : Nat) (arr : ι → V9 K) (h : (initArrays close cc dt cn objs devs).sigE = some (n, arr)) :
    arr c = V9.ofFn (fun k => tierVal n (objs[j]'hw.1).mat.sigE k * condSpacing cc dt cn) := by
  obtain ⟨rfl, rfl⟩ := Prod.mk.inj (some_of_ite_none h)
  exact C28_painter_cond _ _ c _ objs j hw

theorem C28_initArrays_sigM (c : ι) (j : Nat) (hw : IsWinner objs c j)
    (n : Nat) (arr : ι → V9 K) (h : (initArrays close cc dt cn objs devs).sigM = some (n, arr)) :
    arr c = V9.ofFn (fun k => tierVal n (objs[j]'hw.1).mat.sigM k * condSpacing cc dt cn) := by
  obtain ⟨rfl, rfl⟩ := Prod.mk.inj (some_of_ite_none h)
  exact C28_painter_cond _ _ c _ objs j hw

/-- **C28 (scalar permeability)**: the permeability is the scalar 1 (no array) exactly when no material of the
scene — static objects, unused dict entries and devices included — is magnetic. -/
theorem C28_nonmagnetic_scalar :
    (initArrays close cc dt cn objs devs).invMu = none ↔
      ∀ m ∈ allMats objs devs, isUnit close m.mu = true :=
  ite_none_iff.trans List.all_eq_true

/-- no conductivity array exactly when no material conducts -/
theorem C28_nonconductive_none :
    ((initArrays close cc dt cn objs devs).sigE = none ↔ ∀ m ∈ allMats objs devs, isNull close m.sigE = true)
    ∧ ((initArrays close cc dt cn objs devs).sigM = none ↔ ∀ m ∈ allMats objs devs, isNull close m.sigM = true) :=
  ⟨ite_none_iff.trans List.all_eq_true, ite_none_iff.trans List.all_eq_true⟩

end arrays

/-! ### component counts -/
section tiers
variable {α : Type} [OfNat α 0] (close : α → α → Bool)

/-- the narrowest tier one tensor needs -/
def need (p : Nat → α) : Nat := if isIso close p then 1 else if isDiag close p then 3 else 9

theorem isDiag_of_isIso (p : Nat → α) (h : isIso close p = true) : isDiag close p = true :=
  (Bool.and_eq_true_iff.mp h).2

/-- the three ways `tierOf` comes out -/
theorem tierOf_cases (ps : List (Nat → α)) :
    ((∀ p ∈ ps, isIso close p = true) ∧ tierOf close ps = 1) ∨
    ((¬ ∀ p ∈ ps, isIso close p = true) ∧ (∀ p ∈ ps, isDiag close p = true) ∧ tierOf close ps = 3) ∨
    ((¬ ∀ p ∈ ps, isDiag close p = true) ∧ tierOf close ps = 9) := by
  simp only [tierOf, List.all_eq_true]
  split
  · exact Or.inl ⟨‹_›, rfl⟩
  · split
    · exact Or.inr (Or.inl ⟨‹_›, ‹_›, rfl⟩)
    · exact Or.inr (Or.inr ⟨‹_›, rfl⟩)

/-- **C28 (tier cases)** -/
theorem C28_tier_cases (ps : List (Nat → α)) :
    (tierOf close ps = 1 ↔ ∀ p ∈ ps, isIso close p = true) ∧
    (tierOf close ps = 3 ↔ (¬ ∀ p ∈ ps, isIso close p = true) ∧ ∀ p ∈ ps, isDiag close p = true) ∧
    (tierOf close ps = 9 ↔ ¬ ∀ p ∈ ps, isDiag close p = true) := by
  have hd : (∀ p ∈ ps, isIso close p = true) → ∀ p ∈ ps, isDiag close p = true :=
    fun h p hp => isDiag_of_isIso close p (h p hp)
  rcases tierOf_cases close ps with ⟨h1, e⟩ | ⟨h1, h3, e⟩ | ⟨h3, e⟩ <;> rw [e]
  · exact ⟨iff_of_true rfl h1, iff_of_false (by decide) fun h => h.1 h1, iff_of_false (by decide) fun h => h (hd h1)⟩
  · exact ⟨iff_of_false (by decide) h1, iff_of_true rfl ⟨h1, h3⟩, iff_of_false (by decide) fun h => h h3⟩
  · exact ⟨iff_of_false (by decide) fun h => h3 (hd h), iff_of_false (by decide) fun h => h3 h.2, iff_of_true rfl h3⟩

/-- **C28 (component count)**: the count is the widest tier any material needs. -/
theorem C28_tier_widest (ps : List (Nat → α)) :
    (∀ p ∈ ps, need close p ≤ tierOf close ps) ∧
    (tierOf close ps = 1 ∨ ∃ p ∈ ps, need close p = tierOf close ps) := by
  rcases tierOf_cases close ps with ⟨h1, e⟩ | ⟨h1, h3, e⟩ | ⟨h3, e⟩ <;> rw [e]
  · exact ⟨fun p hp => by rw [need, if_pos (h1 p hp)], Or.inl rfl⟩
  · obtain ⟨p, hp⟩ := not_forall.mp h1
    obtain ⟨hp, hi⟩ := Classical.not_imp.mp hp
    refine ⟨fun q hq => ?_, Or.inr ⟨p, hp, by rw [need, if_neg hi, if_pos (h3 p hp)]⟩⟩
    rw [need, if_pos (h3 q hq)]
    split <;> decide
  · obtain ⟨p, hp⟩ := not_forall.mp h3
    obtain ⟨hp, hd⟩ := Classical.not_imp.mp hp
    refine ⟨fun q _ => ?_,
      Or.inr ⟨p, hp, by rw [need, if_neg fun h => hd (isDiag_of_isIso close p h), if_neg hd]⟩⟩
    rw [need]
    split
    · decide
    · split <;> decide

end tiers

/-! ### the reference spacing -/
section spacing
variable {K : Type} [Field K]

/-- **C28 (conductivity scaling, uniform grid)**: with `dt = courant·h/c` the reference spacing is `h`. -/
theorem C28_cond_spacing_uniform (c courant h : K) (hc : c ≠ 0) (hcn : courant ≠ 0) :
    condSpacing c (courant * h / c) courant = h := by
  unfold condSpacing
  field_simp

/-- rectilinear grid: `courant = cf/√3`, `dt = cf/(c·√S)` with `S = 1/dx² + 1/dy² + 1/dz²`; `s3`, `r` stand for
`√3`, `√S`. -/
theorem C28_cond_spacing_rect (c cf s3 r : K) (hc : c ≠ 0) (hcf : cf ≠ 0) (hs : s3 ≠ 0) (hr : r ≠ 0) :
    condSpacing c (cf / (c * r)) (cf / s3) = s3 / r := by
  unfold condSpacing
  field_simp

end spacing

/-! ### non-vacuity: a concrete scene over ℚ -/
section examples

def isoMat (e : Rat) : Mat Rat :=
  { eps := fun k => if k = 0 ∨ k = 4 ∨ k = 8 then e else 0, mu := fun k => if k = 0 ∨ k = 4 ∨ k = 8 then 1 else 0,
    sigE := fun _ => 0, sigM := fun _ => 0 }

/-- cells 0..3; volume (order -1000) everywhere; a box (order 1) on cells 1,2; a sphere-like masked object
(order 1, listed later) whose box is cells 1..3 and whose mask is cells 2,3 -/
def demo : List (SObj Nat Rat) :=
  [ { order := -1000, uniform := true, inBox := fun _ => true, mask := fun _ => true, mat := isoMat 1, mats := [isoMat 1], smooth := false, nrm2 := fun _ _ => 0 },
    { order := 1, uniform := true, inBox := fun c => c == 1 || c == 2, mask := fun _ => true, mat := isoMat 2, mats := [isoMat 2], smooth := false, nrm2 := fun _ _ => 0 },
    { order := 1, uniform := false, inBox := fun c => c ≥ 1, mask := fun c => c ≥ 2, mat := isoMat 4, mats := [isoMat 4], smooth := false, nrm2 := fun _ _ => 0 } ]

example : IsWinner demo 2 2 := by unfold IsWinner; decide
example : IsWinner demo 1 1 := by unfold IsWinner; decide
-- the scene is isotropic: one stored component
theorem demo_nEps : (initArrays (fun a b : Rat => decide (a = b)) 3 1 2 demo []).nEps = 1 := by decide +kernel
-- the theorem applies and gives the painter's rule on this scene: cell 2 holds 1/4 (the later object of the tie),
-- cell 1 holds 1/2 (the masked object does not cover it)
example : ((initArrays (fun a b : Rat => decide (a = b)) 3 1 2 demo []).invEps 2).get 0 = 1 / 4 := by
  rw [C28_initArrays_invEps _ 3 1 2 demo [] 2 2 (by unfold IsWinner; decide)
    (fun h9 => absurd h9 (by rw [demo_nEps]; decide)) (by decide), demo_nEps]
  decide +kernel
/-- a scene with the per-object switch: a smoothed object on cell 1 (slice = mask), an UN-smoothed birefringent object
on cell 2 -/
def diagMat (a b d : Rat) : Mat Rat :=
  { eps := fun k => if k = 0 then a else if k = 4 then b else if k = 8 then d else 0,
    mu := fun k => if k = 0 ∨ k = 4 ∨ k = 8 then 1 else 0, sigE := fun _ => 0, sigM := fun _ => 0 }

def demoS : List (SObj Nat Rat) :=
  [ { order := -1000, uniform := true, inBox := fun _ => true, mask := fun _ => true, mat := isoMat 1, mats := [isoMat 1],
      smooth := false, nrm2 := fun _ _ => 0 },
    { order := 0, uniform := false, inBox := fun c => c == 1, mask := fun c => c == 1, mat := isoMat 5, mats := [isoMat 5],
      smooth := true, nrm2 := fun _ _ => 0 },
    { order := 0, uniform := false, inBox := fun c => c == 2, mask := fun c => c == 2, mat := diagMat 2 3 4,
      mats := [diagMat 2 3 4], smooth := false, nrm2 := fun _ _ => 0 } ]

theorem demoS_nEps : (initArrays (fun a b : Rat => decide (a = b)) 3 1 2 demoS []).nEps = 3 := by decide +kernel

-- the un-smoothed object keeps xx, yy, zz separately although another object of the scene is smoothed
example : (List.range 3).map ((initArrays (fun a b : Rat => decide (a = b)) 3 1 2 demoS []).invEps 2).get
    = [1 / 2, 1 / 3, 1 / 4] := by
  rw [C28_initArrays_invEps _ 3 1 2 demoS [] 2 2 (by unfold IsWinner; decide)
    (fun h9 => absurd h9 (by rw [demoS_nEps]; decide)) (by decide), demoS_nEps]
  decide +kernel

example : det3 (isoMat 2).eps ≠ 0 := by decide +kernel

end examples

end Fdtdx.C28
