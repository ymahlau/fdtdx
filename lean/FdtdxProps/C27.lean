/-
C27 — Placement does not depend on the order of objects or constraints.

Property theorems about `FdtdxModel/C26.lean` (`solve` = `fdtdx.resolve_object_constraints` after the three
`fix:` commits), for EVERY system, every permutation of its object list and of its constraint list, every
grid, every scalar type.  `C27_perm` has one escape: the permuted run may not settle within its `max_iter`
(`SolveExhausts`, which `solve` reports as an error for every object); `C27_perm_full` removes it when the volume
declares its shape and all constraint axes are 0-2, since then every productive pass assigns one of the 9·#objects
slots.  `C27_confluence` is the engine-level statement both rest on.

Proof: if run A ends without error then every atom is stable on each of its quiescent states; by induction over
B's assignments every value B assigns is the value A's quiescent state has, so B never conflicts; B's quiescent
state is stable too, so A's assignments are below it: the quiescent states coincide, the extension step is a
function of that state and of the constraint SET, and the argument repeats per round (FdtdxLemmas/C26Loop.lean,
`confluent`).

The examples at the end: non-vacuity, and for each of the three defects of the pinned tree (`AsFound.solve`) one
system and two orders with different success — and the same inputs under `solve`.
-/
import FdtdxLemmas.C26Sys
import FdtdxLemmas.C26Term
import FdtdxProps.C26

namespace Fdtdx.C26

variable {α : Type} [Add α] [Sub α] [Mul α] [Div α] [Neg α] [LT α] [DecidableLT α]
  [OfNat α 0] [OfNat α 1] [OfNat α 2]

set_option linter.unusedSectionVars false

/-- the run of `solve sys n` uses up `max_iter = n` passes before it settles (the code then flags every object:
"did not converge") -/
def SolveExhausts (sys : Sys α) (n : Nat) : Prop :=
  ∃ σ₀, init sys = some σ₀ ∧ Exhausts sys (groups sys) n σ₀ []

/-- the resolved slices of a successful placement -/
def Outcome.success : Outcome → Option St
  | .done σ [] => some σ
  | _ => none

theorem success_iff (o : Outcome) (r : St) : o.success = some r ↔ o = .done r [] := by
  cases o with
  | raised => simp [Outcome.success]
  | done σ e =>
    cases e with
    | nil => simp [Outcome.success]
    | cons x xs => simp [Outcome.success]

theorem PermSys.symm {sA sB : Sys α} (p : PermSys sA sB) : PermSys sB sA :=
  ⟨p.grid.symm, p.objs.symm, p.cons.symm⟩

/-- C27_confluence: two runs over the same atoms (in any order and grouping) with the same extension function:
if one succeeds with final state τ, the other one ends in τ without errors or runs out of fuel. -/
theorem C27_confluence {sA sB : Sys α} {gA gB : List Group} (hs : SameSys sA sB gA gB) {τ : St}
    (nA nB : Nat) (σ₀ : St) (h : loop sA gA nA σ₀ [] = some (τ, [])) :
    loop sB gB nB σ₀ [] = some (τ, []) ∨ Exhausts sB gB nB σ₀ [] :=
  confluent hs nA σ₀ σ₀ nB (SameClosure.refl gA σ₀) h

/-- **C27_perm** — permuting the object list and the constraint list changes neither whether placement succeeds
nor any resolved slice (unless the permuted run does not settle within its `max_iter`). -/
theorem C27_perm {sA sB : Sys α} (p : PermSys sA sB) {nA nB : Nat} {r : St}
    (h : solve sA nA = .done r []) : solve sB nB = .done r [] ∨ SolveExhausts sB nB := by
  obtain ⟨hwf, σ₀, hinit, hloop, hval⟩ := solve_done h
  have h1 := wellFormed_oneVol hwf
  have hwfB : wellFormed sB = true := by rw [p.wellFormed]; exact hwf
  have hinitB : init sB = some σ₀ := by rw [p.init (wellFormed_nodup hwf)]; exact hinit
  rcases C27_confluence (p.sameSys h1) nA nB σ₀ hloop with hB | hB
  · left
    unfold solve
    simp only [hwfB, Bool.not_true, Bool.false_eq_true, if_false, hinitB, hB, p.validate_nil h1 hval]
  · exact Or.inr ⟨σ₀, hinitB, hB⟩

/-- C27_perm_iff — symmetric form. -/
theorem C27_perm_iff {sA sB : Sys α} (p : PermSys sA sB) {nA nB : Nat}
    (hA : ¬ SolveExhausts sA nA) (hB : ¬ SolveExhausts sB nB) :
    (solve sA nA).success = (solve sB nB).success := by
  cases hsA : (solve sA nA).success with
  | some r =>
    rcases C27_perm p (nB := nB) ((success_iff _ r).1 hsA) with h | h
    · exact ((success_iff _ r).2 h).symm
    · exact absurd h hB
  | none =>
    cases hsB : (solve sB nB).success with
    | none => rfl
    | some r =>
      rcases C27_perm p.symm (nB := nA) ((success_iff _ r).1 hsB) with h | h
      · rw [(success_iff _ r).2 h] at hsA; cases hsA
      · exact absurd h hA

/-- C27_terminates: if the volume declares its shape and every constraint names axes 0-2, every productive pass
assigns one of the 9 · #objects slots, so a run with more passes never ends in the "did not converge" branch. -/
theorem C27_terminates {sys : Sys α} {n : Nat} (hwf : wellFormed sys = true) (hax : axesOK sys = true)
    (hvol : volSizedInit sys = true) (hn : 9 * sys.objs.length < n) : ¬ SolveExhausts sys n := by
  rintro ⟨σ₀, hinit, hex⟩
  exact not_exhausts (targetsIn_groups hwf hax) (volSizedInit_spec hvol hinit) hn hex

/-- **C27_perm_full** — with the bound on the number of passes: if the volume declares its shape and every
constraint names axes 0-2, then ANY `max_iter > 9 · #objects` suffices for the permuted run, so permuting objects
and constraints changes neither success nor any resolved slice. (The default `max_iter` is 1000.) -/
theorem C27_perm_full {sA sB : Sys α} (p : PermSys sA sB) {nA nB : Nat} {r : St}
    (hax : axesOK sA = true) (hvol : volSizedInit sA = true) (hn : 9 * sA.objs.length < nB)
    (h : solve sA nA = .done r []) : solve sB nB = .done r [] := by
  obtain ⟨hwf, _⟩ := solve_done h
  -- the hypotheses of `C27_terminates` do not depend on the order either
  refine (C27_perm p h).resolve_right (C27_terminates ?_ ?_ ?_ ?_)
  · rw [p.wellFormed]; exact hwf
  · rw [p.axesOK]; exact hax
  · rw [p.volSizedInit hwf]; exact hvol
  · rw [p.objs.length_eq]; exact hn

/-! ### non-vacuity -/
section Examples
open W

/-- a permuted pair of systems (objects and constraints in another order) … -/
example : PermSys (sysW [posAB, full 2 1, full 1 3])
    ⟨gInt, [cube 1, vol8, cube 2], [full 2 1, posAB, full 1 3]⟩ :=
  ⟨rfl, List.Perm.swap _ _ _, List.Perm.swap _ _ _⟩

/-- … on which both orders succeed with the same slices (so neither exhausts `max_iter`) -/
example : okAnd (solve (sysW [posAB, full 2 1, full 1 3]) 10)
    (fun σ => σ ⟨1, 0, .lo⟩ == some 3 && σ ⟨1, 0, .hi⟩ == some 5 && σ ⟨2, 0, .lo⟩ == some 1) = true := solve_posAB
example : okAnd (solve ⟨gInt, [cube 1, vol8, cube 2], [full 2 1, posAB, full 1 3]⟩ 10)
    (fun σ => σ ⟨1, 0, .lo⟩ == some 3 && σ ⟨1, 0, .hi⟩ == some 5 && σ ⟨2, 0, .lo⟩ == some 1) = true := by decide +kernel

/-- the hypotheses of `C27_perm_full` hold for it (3 objects: any max_iter ≥ 28 will do) -/
example : axesOK (sysW [posAB, full 2 1, full 1 3]) = true ∧ volSizedInit (sysW [posAB, full 2 1, full 1 3]) = true ∧
    9 * (sysW [posAB, full 2 1, full 1 3]).objs.length < 28 := by decide +kernel

/-- the escape clause is real: with `max_iter = 1` the run does not settle -/
example : okAnd (solve (sysW [posAB, full 2 1, full 1 3]) 1) (fun _ => true) = false := solve_posAB_one

end Examples

/-! ### the pinned tree violated the property: one system, two orders, different success -/
section AsFoundWitnesses
open W

/-- defect 1 (early exit) -/
example : okAnd (AsFound.solve (sysW [posAB, full 2 1, full 1 5]) 1000) (fun _ => true) = true ∧
    okAnd (AsFound.solve (sysW [full 2 1, posAB, full 1 5]) 1000) (fun _ => true) = false :=
  ⟨okAnd_mono asFound_early fun _ _ => rfl, by decide +kernel⟩

/-- defect 2 (`partial_real_position` not verified once both bounds are known) -/
example : okAnd (AsFound.solve (sysR [full 3 5, full 2 0, sizeAB, gridA, extAC]) 1000) (fun _ => true) = true ∧
    okAnd (AsFound.solve (sysR [full 2 0, sizeAB, gridA, extAC, full 3 5]) 1000) (fun _ => true) = false :=
  ⟨okAnd_mono asFound_skip fun _ _ => rfl, by decide +kernel⟩

/-- defect 3 (extension to a volume boundary that is not known yet raises) -/
example : okAnd (AsFound.solve (sysV [gV, xA, gA]) 1000) (fun σ => σ ⟨1, 0, .hi⟩ == some 8) = true ∧
    okAnd (AsFound.solve (sysV [xA, gV, gA]) 1000) (fun _ => true) = false := by decide +kernel

/-- after the fixes all orders of the three systems agree -/
example : okAnd (solve (sysW [posAB, full 2 1, full 1 5]) 1000) (fun _ => true) = false ∧
    okAnd (solve (sysW [full 2 1, posAB, full 1 5]) 1000) (fun _ => true) = false ∧
    okAnd (solve (sysR [full 3 5, full 2 0, sizeAB, gridA, extAC]) 1000) (fun _ => true) = false ∧
    okAnd (solve (sysR [full 2 0, sizeAB, gridA, extAC, full 3 5]) 1000) (fun _ => true) = false ∧
    okAnd (solve (sysV [gV, xA, gA]) 1000) (fun σ => σ ⟨1, 0, .lo⟩ == some 3 && σ ⟨1, 0, .hi⟩ == some 8) = true ∧
    okAnd (solve (sysV [xA, gV, gA]) 1000) (fun σ => σ ⟨1, 0, .lo⟩ == some 3 && σ ⟨1, 0, .hi⟩ == some 8) = true :=
  ⟨solve_conflict, by decide +kernel, solve_skip, by decide +kernel, by decide +kernel⟩

end AsFoundWitnesses

end Fdtdx.C26
