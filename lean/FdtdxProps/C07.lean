/-
C07 — Stopping conditions stop exactly where documented.

Theorems about `FdtdxModel/C07.lean` (the `__call__` predicates after the `fix:` commit) and the loop of
`checkpointed_fdtd` (`C05.checkpointedRun`), for every total step count T, every min/max setting, every trace
(energies / detector readings are arbitrary functions of the step) and every step function.

The halt step s is the first step at which the condition reports stop, capped by T (`C07_stop_first_false`,
`C07_stop_unique`), and `run_fdtd(stopping_condition)` returns the state of a plain run of s steps.  For the three
conditions: TimeStepCondition halts at T; EnergyThresholdCondition and the (fixed) DetectorConvergenceCondition halt
no later than max_steps and T, not before min_steps unless one of those comes first, and an earlier halt means the
test succeeded at s ≥ min_steps and at no earlier step ≥ min_steps.  In a validated set-up the two reading windows
[t-(p+1)spp, t-spp) and [t-spp, t) are not clipped for min_steps ≤ t ≤ T; the defaults are max_steps = T and
min_steps = round(T/10) resp. (p+1)·spp, and explicit values (0 included) are used as passed.

As found (pinned tree) the DetectorConvergenceCondition never read max_steps: `asFound_ignores_max_steps` is the
machine-checked refutation of `s ≤ max_steps` (max_steps = 30, T = 60, threshold 0 ⇒ halts at 60), replayed on the
implementation by K/S; the fixed predicate halts at 30.
-/
import FdtdxProps.C05
import FdtdxModel.C07

namespace Fdtdx.C07
open Fdtdx.C05

/-! ### the halt step -/

theorem succ_iterate_zero (n : Nat) : (fun x : Nat => x + 1)^[n] 0 = n := by
  induction n with
  | zero => rfl
  | succ n ih => rw [Function.iterate_succ_apply', ih]

/-- **C07 (halts at the first reported stop)** -/
theorem C07_stop_first_false (T : Nat) (cont : Nat → Bool) :
    stopStep T cont ≤ T
    ∧ (∀ t, t < stopStep T cont → cont t = true)
    ∧ (stopStep T cont = T ∨ cont (stopStep T cont) = false) := by
  obtain ⟨n, hn, he, htrue, hstop⟩ := whileLoop_spec cont (· + 1) T 0
  have hs : stopStep T cont = n := he.trans (succ_iterate_zero n)
  simp only [succ_iterate_zero] at htrue hstop
  rw [hs]
  exact ⟨hn, htrue, hstop⟩

/-- **C07 (… and nowhere else)** -/
theorem C07_stop_unique (T : Nat) (cont : Nat → Bool) (s : Nat) (hs : s ≤ T)
    (htrue : ∀ t, t < s → cont t = true) (hstop : s = T ∨ cont s = false) : stopStep T cont = s := by
  refine (whileLoop_eq_iterate cont (· + 1) T 0 s hs ?_ ?_).trans (succ_iterate_zero s)
  · simpa only [succ_iterate_zero] using htrue
  · simpa only [succ_iterate_zero] using hstop

theorem C07_stop_le_of_report (T : Nat) (cont : Nat → Bool) (t : Nat) (h : cont t = false) : stopStep T cont ≤ t := by
  by_contra hlt
  have := (C07_stop_first_false T cont).2.1 t (by omega)
  rw [h] at this; exact Bool.noConfusion this

/-! ### the state at the halt step -/

section state
variable {σ : Type}

/-- **C07 (state at the halt step = plain run of that many steps)**: with `reports t` = what the condition says
on the state a plain run has reached after t steps, `run_fdtd(stopping_condition)` returns the halt step
`s = stopStep T reports` and exactly the state of the plain run after `s` steps. -/
theorem C07_state_eq_plain_run (T : Nat) (cond : Nat × σ → Bool) (reset : σ → σ) (body : Nat → σ → σ) (a : σ) :
    let reports := fun t => cond ((step body)^[t] (0, reset a))
    runFdtd T .none (some cond) false reset body a
      = .ok (stopStep T reports, (List.range (stopStep T reports)).foldl (fun acc t => body t acc) (reset a)) := by
  intro reports
  have h : checkpointedRun T cond reset body a = (step body)^[stopStep T reports] (0, reset a) := by
    obtain ⟨hle, htrue, hstop⟩ := C07_stop_first_false T reports
    exact whileLoop_eq_iterate cond (step body) T (0, reset a) _ hle htrue hstop
  simp only [runFdtd, h, C05_iterate_eq_foldl]

/-- the same state as the plain (TimeStepCondition) run of a scene configured with `s` total steps -/
theorem C07_state_eq_shorter_run (T : Nat) (cond : Nat × σ → Bool) (reset : σ → σ) (body : Nat → σ → σ) (a : σ) :
    let s := stopStep T (fun t => cond ((step body)^[t] (0, reset a)))
    runFdtd T .none (some cond) false reset body a = runFdtd s .none none false reset body a := by
  intro s
  have h1 := C07_state_eq_plain_run T cond reset body a
  simp only at h1
  rw [h1, C05_strategy_independent s .none trivial]

end state

/-! ### the three conditions -/

/-- **C07 (TimeStepCondition)** halts at T -/
theorem C07_time (T : Nat) : stopStep T (timeCond T) = T :=
  C07_stop_unique T _ T (Nat.le_refl T) (fun _ ht => decide_eq_true ht) (Or.inl rfl)

/-- the energy predicate reports stop from `max_steps` on, and at the steps `≥ min_steps` with the energy below the
threshold -/
theorem energyCond_eq_false_iff {maxS minS : Nat} {below : Nat → Bool} {t : Nat} :
    energyCond maxS minS below t = false ↔ maxS ≤ t ∨ (minS ≤ t ∧ below t = true) := by
  simp only [energyCond, Bool.and_eq_false_iff, Bool.or_eq_false_iff, decide_eq_false_iff_not, Nat.not_lt,
    Bool.not_eq_false']

/-- **C07 (EnergyThresholdCondition, bounds)**: never later than max_steps or T; never before min_steps unless
max_steps or T come first. -/
theorem C07_energy_bounds (T maxS minS : Nat) (below : Nat → Bool) :
    stopStep T (energyCond maxS minS below) ≤ maxS
    ∧ stopStep T (energyCond maxS minS below) ≤ T
    ∧ (minS ≤ stopStep T (energyCond maxS minS below)
        ∨ stopStep T (energyCond maxS minS below) = maxS ∨ stopStep T (energyCond maxS minS below) = T) := by
  obtain ⟨hT, -, hstop⟩ := C07_stop_first_false T (energyCond maxS minS below)
  have hmax : stopStep T (energyCond maxS minS below) ≤ maxS :=
    C07_stop_le_of_report T _ maxS (energyCond_eq_false_iff.mpr (Or.inl (Nat.le_refl maxS)))
  refine ⟨hmax, hT, ?_⟩
  rcases hstop with h | h
  · exact Or.inr (Or.inr h)
  · rcases energyCond_eq_false_iff.mp h with h' | h'
    · exact Or.inr (Or.inl (Nat.le_antisymm hmax h'))
    · exact Or.inl h'.1

/-- **C07 (EnergyThresholdCondition, reason)**: halting before `min(max_steps, T)` means the energy is below the
threshold there, at a step ≥ min_steps, and it was not below the threshold at any earlier step ≥ min_steps. -/
theorem C07_energy_reason (T maxS minS : Nat) (below : Nat → Bool)
    (h1 : stopStep T (energyCond maxS minS below) < maxS) (h2 : stopStep T (energyCond maxS minS below) < T) :
    below (stopStep T (energyCond maxS minS below)) = true
    ∧ minS ≤ stopStep T (energyCond maxS minS below)
    ∧ ∀ t, minS ≤ t → t < stopStep T (energyCond maxS minS below) → below t = false := by
  rcases (C07_stop_first_false T (energyCond maxS minS below)).2.2 with h | h
  · exact absurd h (Nat.ne_of_lt h2)
  · rcases energyCond_eq_false_iff.mp h with h' | h'
    · exact absurd h' (Nat.not_le.mpr h1)
    · refine ⟨h'.2, h'.1, fun t hmin hlt => ?_⟩
      -- an earlier step `≥ min_steps` below the threshold would have been a stop report
      by_contra hb
      exact absurd (C07_stop_le_of_report T _ t
        (energyCond_eq_false_iff.mpr (Or.inr ⟨hmin, Bool.of_not_eq_false hb⟩))) (Nat.not_le.mpr hlt)

/-- the fixed detector predicate is the energy predicate with `close` for `below` -/
theorem detCond_eq (maxS minS : Nat) (close : Nat → Bool) : detCond maxS minS close = energyCond maxS minS close := by
  funext t
  unfold detCond energyCond detConverged
  by_cases h : t ≥ minS
  · simp [h, Nat.not_lt.mpr h]
  · simp [h, Nat.lt_of_not_le h]

/-- **C07 (DetectorConvergenceCondition, bounds)** — the fixed predicate -/
theorem C07_detector_bounds (T maxS minS : Nat) (close : Nat → Bool) :
    stopStep T (detCond maxS minS close) ≤ maxS
    ∧ stopStep T (detCond maxS minS close) ≤ T
    ∧ (minS ≤ stopStep T (detCond maxS minS close)
        ∨ stopStep T (detCond maxS minS close) = maxS ∨ stopStep T (detCond maxS minS close) = T) := by
  rw [detCond_eq]; exact C07_energy_bounds T maxS minS close

/-- **C07 (DetectorConvergenceCondition, reason)** -/
theorem C07_detector_reason (T maxS minS : Nat) (close : Nat → Bool)
    (h1 : stopStep T (detCond maxS minS close) < maxS) (h2 : stopStep T (detCond maxS minS close) < T) :
    close (stopStep T (detCond maxS minS close)) = true
    ∧ minS ≤ stopStep T (detCond maxS minS close)
    ∧ ∀ t, minS ≤ t → t < stopStep T (detCond maxS minS close) → close t = false := by
  rw [detCond_eq] at h1 h2 ⊢; exact C07_energy_reason T maxS minS close h1 h2

theorem clipInt_of_mem (x hi : Int) (h0 : 0 ≤ x) (h1 : x ≤ hi) : clipInt x 0 hi = x := by
  unfold clipInt
  rw [max_eq_left h0, min_eq_left h1]

/-- **C07 (reading windows)**: in an accepted set-up, at every step the convergence test can run
(`min_steps ≤ t ≤ T`), neither window start is clipped; the windows are `[t-(p+1)spp, t-spp)` and `[t-spp, t)`. -/
theorem C07_detector_window (T spp p t : Nat) (hwin : (p + 1) * spp ≤ t) (ht : t ≤ T) :
    clipInt ((t : Int) - ((p + 1) * spp : Nat)) 0 ((T : Int) - (p * spp : Nat)) = ((t - (p + 1) * spp : Nat) : Int)
    ∧ clipInt ((t : Int) - (spp : Nat)) 0 ((T : Int) - (spp : Nat)) = ((t - spp : Nat) : Int)
    ∧ (t - (p + 1) * spp) + p * spp = t - spp ∧ (t - spp) + spp = t := by
  have hs : (p + 1) * spp = p * spp + spp := Nat.succ_mul p spp
  have hspp : spp ≤ t := Nat.le_trans (hs ▸ Nat.le_add_left spp (p * spp)) hwin
  refine ⟨?_, ?_, by omega, Nat.sub_add_cancel hspp⟩
  · rw [Int.ofNat_sub hwin]
    exact clipInt_of_mem _ _ (Int.sub_nonneg_of_le (Int.ofNat_le.mpr hwin))
      (Int.sub_le_sub (Int.ofNat_le.mpr ht) (Int.ofNat_le.mpr (hs ▸ Nat.le_add_right _ _)))
  · rw [Int.ofNat_sub hspp]
    exact clipInt_of_mem _ _ (Int.sub_nonneg_of_le (Int.ofNat_le.mpr hspp))
      (Int.sub_le_sub_right (Int.ofNat_le.mpr ht) _)

/-- **C07 (set-up)**: defaults and what validation guarantees -/
theorem C07_setup_defaults (T spp p : Nat) :
    energySetup T true none none = .ok (T, roundTenth T)
    ∧ (∀ mn mx maxS minS, detSetup T spp p true true mn mx = .ok (maxS, minS) →
        (p + 1) * spp ≤ minS ∧ (p + 1) * spp ≤ T ∧ maxS = mx.getD T ∧ minS = mn.getD ((p + 1) * spp)) := by
  refine ⟨rfl, ?_⟩
  intro mn mx maxS minS h
  unfold detSetup at h
  by_cases h1 : (p + 1) * spp > T
  · rw [if_pos h1] at h; cases h
  · by_cases h2 : mn.getD ((p + 1) * spp) < (p + 1) * spp
    · simp only [if_neg h1, if_pos h2, Bool.not_true, Bool.false_eq_true, if_false] at h; cases h
    · simp only [if_neg h1, if_neg h2, Bool.not_true, Bool.false_eq_true, if_false, Except.ok.injEq,
        Prod.mk.injEq] at h
      exact ⟨h.2 ▸ Nat.le_of_not_lt h2, Nat.le_of_not_gt h1, h.1.symm, h.2.symm⟩

/-- **C07 (set-up, explicit values)**: an explicitly passed `min_steps` / `max_steps` - *including 0* - is what the
condition uses; only an unset (`none`) one is replaced by the documented default (seed C07h: `min_steps or default`
turned an explicit 0 into round(T/10)). -/
theorem C07_setup_explicit (T mn mx : Nat) :
    energySetup T true (some mn) (some mx) = .ok (mx, mn)
    ∧ energySetup T true (some mn) none = .ok (T, mn)
    ∧ energySetup T true none (some mx) = .ok (mx, roundTenth T) := ⟨rfl, rfl, rfl⟩

/-- with an explicit `min_steps = 0` a run whose energy is already below the threshold halts at step 0 -/
theorem C07_energy_min_zero (T maxS : Nat) (below : Nat → Bool) (h0 : below 0 = true) :
    stopStep T (energyCond maxS 0 below) = 0 :=
  Nat.le_zero.mp (C07_stop_le_of_report T _ 0
    (energyCond_eq_false_iff.mpr (Or.inr ⟨Nat.le_refl 0, h0⟩)))

/-- the energy default `round(T/10)` never exceeds T (so the default minimum cannot block the run's end) -/
theorem roundTenth_le (T : Nat) : roundTenth T ≤ T := by
  have := (roundHalfEven_bounds T 10 (by decide)).1
  unfold roundTenth
  omega

/-! ### non-vacuity -/

-- a run that halts for each of the three reasons (threshold, max_steps, T)
example : stopStep 12 (energyCond 10 3 (fun t => decide (t ≥ 6))) = 6 := rfl
example : stopStep 12 (energyCond 5 3 (fun t => decide (t ≥ 6))) = 5 := rfl
example : stopStep 4 (energyCond 10 3 (fun t => decide (t ≥ 6))) = 4 := rfl
example : stopStep 12 (energyCond 10 8 (fun _ => true)) = 8 := rfl          -- converged early: waits for min_steps
example : stopStep 12 (energyCond 5 8 (fun _ => true)) = 5 := rfl           -- max_steps < min_steps: max wins
example : (2 + 1) * 3 ≤ 11 ∧ 11 ≤ 20 := by omega                                 -- hypotheses of C07_detector_window
example : detSetup 20 3 2 true true none (some 15) = .ok (15, 9) := rfl
example : detSetup 20 3 2 true true (some 8) none = .error "ValueError min_steps" := rfl
example : detSetup 8 3 2 true true none none = .error "ValueError window" := rfl

/-! ### refutation of `stop ≤ max_steps` for the tree as found -/

/-- as found: max_steps = 30, T = 60, threshold 0 (never converged), min_steps 10: the run halts at 60 -/
example : stopStep 60 (AsFound.detCond 60 10 (fun _ => false)) = 60 := rfl
/-- as found, for every T and min_steps: a run that never converges halts at T — the predicate has no `max_steps` to read -/
theorem asFound_ignores_max_steps (T minS : Nat) : stopStep T (AsFound.detCond T minS (fun _ => false)) = T :=
  C07_stop_unique T _ T (Nat.le_refl T) (fun t ht => by simp [AsFound.detCond, detConverged, ht]) (Or.inl rfl)
/-- the fixed predicate on the same input halts at max_steps -/
example : stopStep 60 (detCond 30 10 (fun _ => false)) = 30 := rfl
/-- as found, below min_steps even T is ignored by the predicate (only the loop bound ends the run) -/
example : AsFound.detCond 60 100 (fun _ => true) 75 = true := rfl

end Fdtdx.C07
