/-
C32 — Symmetry unfolding is consistent.

Theorems about `FdtdxModel/C32.lean`, for every array extent, entry type / scalar, symmetry tuple and detector
description.

One axis (lists): the upper half of an unfolded line is the line and the extent doubles (also for a single on-plane
sample, after the fix); full[n-1-i] = p · full[n+i] for the plain flip of half-cell-offset samples; full[n-j] =
p · full[n+j], 1 ≤ j < n, for samples on an electric plane, with the documented repeated edge sample full[0] = full[1].
Tables: the PEC/PMC parity of every (field kind, component, axis, wall) in closed form; E/H and PEC/PMC have opposite
parity; the m ± j pairing holds exactly for tangential E / normal H across an electric plane, and such a component is
odd; S_i is odd exactly across the plane normal to i, and both products of the cross product have that parity.
Three axes (nested lists, any shapes): keeping the upper half on every symmetric axis undoes the three passes; the passes
commute (commutative scalars), so along EVERY symmetric axis the final array is the one-axis unfolding of its own upper
half and the one-axis laws hold on it; `unfold_fields` and `unfold_array` accordingly.
Reductions (plain flip on every touched axis): Σ unfolded = ∏_{touched a}(1 + s_a) · Σ stored, the mean likewise with
(1 + s_a)/2, and `_reduce_factor` is that product; energy: every sign is +1 and the factor is 2^count, the count being
the planes the detector itself crosses.

Refutation witnesses for the tree as found, before the fix: the `example`s about `AsFound.unfoldList` at the end.
-/
import FdtdxModel.C32
import FdtdxLemmas.C32
import Mathlib.Tactic.Ring
import Mathlib.Algebra.Field.Basic
import Mathlib.Algebra.BigOperators.Group.List.Basic
import Mathlib.Algebra.BigOperators.Ring.List
import Mathlib.Tactic.NormNum

namespace Fdtdx.C32

/-! ### one axis -/
section OneAxis
variable {β : Type}

theorem C32_doubles (act : β → β) (op : Bool) (a : List β) :
    (unfoldList act op a).length = 2 * a.length := by
  rw [unfoldList, List.length_append, mirrorLow_length, Nat.two_mul]

theorem C32_upper_half (act : β → β) (op : Bool) (a : List β) :
    upperHalf (unfoldList act op a) = a := by
  rw [upperHalf, C32_doubles, Nat.mul_div_cancel_left _ Nat.two_pos, unfoldList, ← mirrorLow_length act op a,
    List.drop_left]

theorem C32_mirror_offplane (act : β → β) (a : List β) (i : Nat) (hi : i < a.length) :
    (unfoldList act false a)[a.length - 1 - i]? = ((unfoldList act false a)[a.length + i]?).map act := by
  rw [unfoldList_kept, unfoldList_mirror_off act a i hi]

theorem C32_mirror_onplane (act : β → β) (a : List β) (j : Nat) (h1 : 1 ≤ j) (hj : j < a.length) :
    (unfoldList act true a)[a.length - j]? = ((unfoldList act true a)[a.length + j]?).map act := by
  rw [unfoldList_kept, unfoldList_mirror_on act a j h1 hj]

theorem C32_edge_fill (act : β → β) (a : List β) (h2 : 2 ≤ a.length) :
    (unfoldList act true a)[0]? = (unfoldList act true a)[1]? := by
  match a, h2 with
  | x :: y :: t, _ =>
    rw [unfoldList, mirrorLow_on act x (List.cons_ne_nil y t)]
    cases hm : (y :: t).reverse.map act with
    | nil => simp at hm
    | cons r R => rfl

example : unfoldList (fun x : Int => -1 * x) true [10, 20, 30] = [-30, -30, -20, 10, 20, 30] := by decide
example : unfoldList (fun x : Int => -1 * x) false [10, 20, 30] = [-30, -20, -10, 10, 20, 30] := by decide
example : unfoldList (fun x : Int => -1 * x) true [10] = [-10, 10] := by decide

end OneAxis

/-! ### tables -/

/-- PEC (-1): tangential E and normal H are odd; PMC (+1): tangential H and normal E. -/
theorem C32_parity_table (ft : FT) (c a : Nat) (w : Int) (hw : w = -1 ∨ w = 1) :
    fieldParity ft c a w =
      some ((if c = a then 1 else -1) * (if ft = FT.E then 1 else -1) * (-w)) := by
  rcases hw with rfl | rfl <;> cases ft <;> by_cases h : c = a <;> simp [fieldParity, h]

theorem C32_parity_errors (ft : FT) (c a : Nat) (w : Int) (hw : w ≠ -1 ∧ w ≠ 1) :
    fieldParity ft c a w = none := by
  unfold fieldParity
  rw [if_neg hw.1, if_neg hw.2]

theorem C32_parity_duality (c a : Nat) (w : Int) (hw : w = -1 ∨ w = 1) :
    fieldParity .H c a w = (fieldParity .E c a w).map (fun p => -p) ∧
    ∀ ft, fieldParity ft c a (-w) = (fieldParity ft c a w).map (fun p => -p) := by
  -- in the closed form of the table both swaps flip one factor
  refine ⟨?_, fun ft => ?_⟩
  · rw [C32_parity_table .H c a w hw, C32_parity_table .E c a w hw, Option.map_some]
    simp only [reduceCtorEq, if_false, if_true, mul_one, mul_neg, neg_mul]
  · rw [C32_parity_table ft c a (-w) (by omega), C32_parity_table ft c a w hw, Option.map_some]
    simp only [mul_neg, neg_neg]

theorem C32_onplane_table (ft : FT) (c a : Nat) (w : Int) :
    pairsOnPlane ft c a w = true ↔ w = -1 ∧ ((ft = FT.E ∧ c ≠ a) ∨ (ft = FT.H ∧ c = a)) := by
  cases ft <;> simp [pairsOnPlane, sitsOnPlane]

/-- a sample that is its own mirror image belongs to an odd component. -/
theorem C32_onplane_is_odd (ft : FT) (c a : Nat) (w : Int) (h : pairsOnPlane ft c a w = true) :
    fieldParity ft c a w = some (-1) := by
  rw [C32_onplane_table] at h
  obtain ⟨rfl, ⟨rfl, hc⟩ | ⟨rfl, hc⟩⟩ := h <;> simp [fieldParity, hc]

theorem C32_poynting_parity (i a : Nat) (hi : i < 3) (ha : a < 3) (w : Int) (hw : w = -1 ∨ w = 1) :
    poyntingParity i a w = some (if i = a then -1 else 1) ∧
    (do let pe ← fieldParity .E (others i).2 a w
        let ph ← fieldParity .H (others i).1 a w
        pure (pe * ph)) = poyntingParity i a w := by
  have hi' : i = 0 ∨ i = 1 ∨ i = 2 := by omega
  have ha' : a = 0 ∨ a = 1 ∨ a = 2 := by omega
  rcases hw with rfl | rfl <;> rcases hi' with rfl | rfl | rfl <;> rcases ha' with rfl | rfl | rfl <;> decide

theorem C32_poynting_errors (i a : Nat) (w : Int) (hw : w ≠ -1 ∧ w ≠ 1) : poyntingParity i a w = none := by
  simp [poyntingParity, C32_parity_errors _ _ _ _ hw]

/-- every parity squares to one: energy density (and any product of a component with itself) is even -/
theorem C32_parity_sq (ft : FT) (c a : Nat) (w : Int) (p : Int) (h : fieldParity ft c a w = some p) :
    p * p = 1 := by
  have hw : w = -1 ∨ w = 1 := by
    by_contra hn
    rw [C32_parity_errors ft c a w (not_or.mp hn)] at h
    cases h
  -- `p` is a product of three signs
  rw [C32_parity_table ft c a w hw, Option.some.injEq] at h
  subst h
  rcases hw with rfl | rfl <;> split_ifs <;> rfl

/-! ### three axes -/
section ThreeAxes
variable {α : Type}

/-- keep the upper half on every axis with a non-zero entry (`restrict_to_kept_half`) -/
def restrictKept (w : Nat → Int) (A : A3 α) : A3 α :=
  let A2 := if w 2 = 0 then A else upperAxis 2 A
  let A1 := if w 1 = 0 then A2 else upperAxis 1 A2
  if w 0 = 0 then A1 else upperAxis 0 A1

theorem upperAxis_unfoldAxis [Mul α] (a : Nat) (s : α) (op : Bool) (A : A3 α) :
    upperAxis a (unfoldAxis a s op A) = A := by
  match a with
  | 0 => exact C32_upper_half _ _ _
  | 1 =>
    simp only [upperAxis, unfoldAxis, List.map_map]
    exact List.map_id'' (fun P => C32_upper_half _ _ P) A
  | (n + 2) =>
    simp only [upperAxis, unfoldAxis, List.map_map]
    refine List.map_id'' (fun P => ?_) A
    rw [Function.comp, List.map_map]
    exact List.map_id'' (fun r => C32_upper_half _ _ r) P

theorem stage_of_ne [Mul α] {w : Int} (hw : w ≠ 0) (a : Nat) (s : α) (op : Bool) (X : A3 α) :
    stage w a s op X = unfoldAxis a s op X := if_neg hw

theorem upper_stage [Mul α] (w : Int) (a : Nat) (s : α) (op : Bool) (X : A3 α) :
    (if w = 0 then stage w a s op X else upperAxis a (stage w a s op X)) = X := by
  unfold stage
  split
  · rfl
  · exact upperAxis_unfoldAxis a s op X

theorem C32_unfold3_upper_half [Mul α] (w : Nat → Int) (s : Nat → α) (op : Nat → Bool) (A : A3 α) :
    restrictKept w (unfold3 w s op A) = A := by
  simp only [restrictKept, unfold3, upper_stage]

end ThreeAxes

section Commute
variable {α : Type} [CommSemigroup α]

theorem unfoldList_scale (s t : α) (op : Bool) (r : List α) :
    (unfoldList (fun x => s * x) op r).map (fun x => t * x) =
      unfoldList (fun x => s * x) op (r.map (fun x => t * x)) :=
  unfoldList_natural _ _ _ (fun b => mul_left_comm t s b) op r

/-- unfoldings along two different axes commute: the inner one is a map over the blocks the outer one mirrors, and it
    commutes with the outer sign -/
theorem unfoldAxis_comm (a b : Nat) (hab : a < b) (hb : b < 3) (s t : α) (o p : Bool) (A : A3 α) :
    unfoldAxis b t p (unfoldAxis a s o A) = unfoldAxis a s o (unfoldAxis b t p A) := by
  obtain ⟨rfl, rfl⟩ | ⟨rfl, rfl⟩ | ⟨rfl, rfl⟩ : (a = 0 ∧ b = 1) ∨ (a = 0 ∧ b = 2) ∨ (a = 1 ∧ b = 2) := by
    omega
  · refine unfoldList_natural _ _ _ (fun P => (unfoldList_natural _ _ _ (fun r => ?_) p P).symm) o A
    rw [List.map_map, List.map_map]
    exact List.map_congr_left fun x _ => mul_left_comm s t x
  · refine unfoldList_natural _ _ _ (fun P => ?_) o A
    rw [List.map_map, List.map_map]
    exact List.map_congr_left fun r _ => (unfoldList_scale t s p r).symm
  · simp only [unfoldAxis, List.map_map]
    exact List.map_congr_left fun P _ => unfoldList_natural _ _ _ (fun r => (unfoldList_scale t s p r).symm) o P

theorem stage_comm (a b : Nat) (hab : a < b) (hb : b < 3) (w v : Int) (s t : α) (o p : Bool) (A : A3 α) :
    stage v b t p (stage w a s o A) = stage w a s o (stage v b t p A) := by
  unfold stage
  split_ifs <;> first | rfl | exact unfoldAxis_comm a b hab hb s t o p A

/-- the passes commute, so the pass along any symmetric axis can be taken to be the last one -/
theorem unfold3_eq_unfoldAxis (w : Nat → Int) (s : Nat → α) (op : Nat → Bool) (A : A3 α)
    (a : Nat) (ha : a < 3) (hw : w a ≠ 0) : ∃ Y, unfold3 w s op A = unfoldAxis a (s a) (op a) Y := by
  obtain rfl | rfl | rfl : a = 0 ∨ a = 1 ∨ a = 2 := by omega
  · exact ⟨_, by rw [unfold3, stage_comm 0 1 (by decide) (by decide), stage_comm 0 2 (by decide) (by decide),
      stage_of_ne hw]⟩
  · exact ⟨_, by rw [unfold3, stage_comm 1 2 (by decide) (by decide), stage_of_ne hw]⟩
  · exact ⟨_, by rw [unfold3, stage_of_ne hw]⟩

theorem C32_unfold3_self_similar (w : Nat → Int) (s : Nat → α) (op : Nat → Bool) (A : A3 α)
    (a : Nat) (ha : a < 3) (hw : w a ≠ 0) :
    unfold3 w s op A = unfoldAxis a (s a) (op a) (upperAxis a (unfold3 w s op A)) := by
  obtain ⟨Y, hY⟩ := unfold3_eq_unfoldAxis w s op A a ha hw
  rw [hY, upperAxis_unfoldAxis]

end Commute

/-! ### `unfold_fields` and `unfold_array` -/
section Fields
variable {α : Type} [Mul α]

theorem unfoldFields_eq (cast : Int → α) (ft : FT) (sym : Nat → Int) (F : List (A3 α))
    (h1 : noSym sym = false) (h2 : validSym sym = true) :
    unfoldFields cast ft sym F = some (F.mapIdx (fun c A =>
      unfold3 sym (fun a => cast (parityD ft c a (sym a))) (fun a => pairsOnPlane ft c a (sym a)) A)) := by
  simp [unfoldFields, h1, h2]

theorem C32_fields_errors (cast : Int → α) (ft : FT) (sym : Nat → Int) (F : List (A3 α)) :
    unfoldFields cast ft sym F = none ↔ (noSym sym = true ∨ validSym sym = false) := by
  unfold unfoldFields
  cases noSym sym <;> cases validSym sym <;> simp

theorem unfoldFields_some (cast : Int → α) (ft : FT) (sym : Nat → Int) (F G : List (A3 α))
    (h : unfoldFields cast ft sym F = some G) :
    G = F.mapIdx (fun c A =>
      unfold3 sym (fun a => cast (parityD ft c a (sym a))) (fun a => pairsOnPlane ft c a (sym a)) A) := by
  unfold unfoldFields at h
  split at h
  · cases h
  · exact (Option.some.inj h).symm

/-- under `validSym` the parity used is the table's -/
theorem parityD_spec (ft : FT) (c a : Nat) (w : Int) (hw : w = -1 ∨ w = 1) :
    fieldParity ft c a w = some (parityD ft c a w) := by
  unfold parityD; rw [C32_parity_table ft c a w hw]; rfl

theorem C32_fields_component (cast : Int → α) (ft : FT) (sym : Nat → Int) (F G : List (A3 α))
    (h : unfoldFields cast ft sym F = some G) (c : Nat) (hc : c < F.length) :
    G[c]? = some (unfold3 sym (fun a => cast (parityD ft c a (sym a)))
      (fun a => pairsOnPlane ft c a (sym a)) F[c]) := by
  rw [unfoldFields_some cast ft sym F G h, List.getElem?_mapIdx, List.getElem?_eq_getElem hc, Option.map_some]

theorem map_restrictKept_mapIdx (sym : Nat → Int) (s : Nat → Nat → α) (op : Nat → Nat → Bool)
    (F : List (A3 α)) :
    (F.mapIdx (fun c A => unfold3 sym (s c) (op c) A)).map (restrictKept sym) = F := by
  refine List.ext_getElem? fun c => ?_
  rw [List.getElem?_map, List.getElem?_mapIdx]
  cases F[c]? with
  | none => rfl
  | some A => exact congrArg some (C32_unfold3_upper_half sym (s c) (op c) A)

theorem C32_fields_upper_half (cast : Int → α) (ft : FT) (sym : Nat → Int) (F G : List (A3 α))
    (h : unfoldFields cast ft sym F = some G) : G.map (restrictKept sym) = F := by
  rw [unfoldFields_some cast ft sym F G h]
  exact map_restrictKept_mapIdx sym _ _ F

/-- the same for `unfold_array`, on every record layout (outer, component, x, y, z) -/
theorem C32_array_upper_half (sym : Nat → Int) (signs : Nat → Nat → α) (on : List Nat) (R S : A5 α)
    (h : unfoldArray sym signs on R = some S) :
    S.map (fun comps => comps.map (restrictKept sym)) = R := by
  unfold unfoldArray at h
  split at h
  · cases h
  · rw [← Option.some.inj h, List.map_map]
    exact List.map_id'' (fun comps => map_restrictKept_mapIdx sym _ _ comps) R

example : unfoldFields (fun p : Int => p) .E (sym3 (-1) 0 0) [[[[1]], [[2]]], [[[3]], [[4]]], [[[5]], [[6]]]]
    = some [[[[2]], [[1]], [[1]], [[2]]], [[[-4]], [[-4]], [[3]], [[4]]], [[[-6]], [[-6]], [[5]], [[6]]]] := by
  decide

end Fields

/-! ### reductions -/
section Reduce
variable {K : Type}

/-- total of a 3-D record -/
def sum3 [AddMonoid K] (A : A3 K) : K := (A.map (fun P => (P.map List.sum).sum)).sum

/-- number of samples of a 3-D record -/
def size3 {α : Type} (A : A3 α) : Nat := (A.map (fun P => (P.map List.length).sum)).sum

/-- plain flip along any axis, for the total of a per-line measure `g` that scaling a line multiplies by `c`
    (`sum3`: `g = List.sum`, `c = s`; `size3`: `g = List.length`, `c = 1`) -/
theorem total3_unfoldAxis {α M : Type} [Mul α] [Semiring M] (g : List α → M) (c : M) (s : α)
    (hscale : ∀ r, g (r.map (fun x => s * x)) = c * g r)
    (hline : ∀ r, g (unfoldList (fun x => s * x) false r) = (1 + c) * g r) (a : Nat) (A : A3 α) :
    ((unfoldAxis a s false A).map (fun P => (P.map g).sum)).sum =
      (1 + c) * (A.map (fun P => (P.map g).sum)).sum := by
  match a with
  | 0 => exact sum_map_unfoldList_off _ _ c (fun P => sum_map_map_of_mul _ g c hscale P) A
  | 1 => exact sum_map_map_of_mul _ _ (1 + c) (fun P => sum_map_unfoldList_off _ g c hscale P) A
  | _ + 2 => exact sum_map_map_of_mul _ _ (1 + c) (fun P => sum_map_map_of_mul _ g (1 + c) hline P) A

theorem sum3_unfoldAxis [CommRing K] (a : Nat) (s : K) (A : A3 K) :
    sum3 (unfoldAxis a s false A) = (1 + s) * sum3 A :=
  total3_unfoldAxis List.sum s s (fun r => by simpa using List.sum_map_mul_left (l := r) (f := id) (r := s))
    (sum_unfoldList_off s) a A

theorem size3_unfoldAxis {α : Type} [Mul α] (a : Nat) (s : α) (A : A3 α) :
    size3 (unfoldAxis a s false A) = 2 * size3 A :=
  total3_unfoldAxis List.length 1 s (fun r => by rw [List.length_map, one_mul])
    (fun r => by rw [C32_doubles]) a A

/-- the factor one pass contributes to a sum -/
def passFactor [Add K] [One K] (w : Int) (s : K) : K := if w = 0 then 1 else 1 + s

theorem sum3_stage [CommRing K] (w : Int) (a : Nat) (s : K) (X : A3 K) :
    sum3 (stage w a s false X) = passFactor w s * sum3 X := by
  unfold stage passFactor
  split
  · rw [one_mul]
  · exact sum3_unfoldAxis a s X

theorem C32_sum_unfold3 [CommRing K] (w : Nat → Int) (s : Nat → K) (A : A3 K) :
    sum3 (unfold3 w s (fun _ => false) A) =
      passFactor (w 0) (s 0) * passFactor (w 1) (s 1) * passFactor (w 2) (s 2) * sum3 A := by
  rw [unfold3, sum3_stage, sum3_stage, sum3_stage]
  ring

theorem foldl_mul_eq_prod {ι M : Type} [Monoid M] (g : ι → M) (init : M) (ps : List ι) :
    ps.foldl (fun f p => f * g p) init = init * (ps.map g).prod := by
  induction ps generalizing init with
  | nil => rw [List.foldl_nil, List.map_nil, List.prod_nil, mul_one]
  | cons p t ih => rw [List.foldl_cons, ih, List.map_cons, List.prod_cons, mul_assoc]

theorem C32_reduce_factor_sum [Field K] (cast : Int → K) (h1 : cast 1 = 1) (ps : List Int) :
    reduceFactor cast false ps = (ps.map (fun p => cast (1 + p))).prod := by
  rw [reduceFactor, foldl_mul_eq_prod, h1, one_mul]
  rfl

theorem C32_reduce_factor_mean [Field K] (cast : Int → K) (h1 : cast 1 = 1) (ps : List Int) :
    reduceFactor cast true ps = (ps.map (fun p => cast (1 + p) / cast 2)).prod := by
  rw [reduceFactor, foldl_mul_eq_prod, h1, one_mul]
  rfl

theorem prod_map_touchedAxes {M : Type} [Monoid M] (w : Nat → Int) (g : Nat → M) :
    ((touchedAxes w).map g).prod =
      (if w 0 = 0 then 1 else g 0) * (if w 1 = 0 then 1 else g 1) * (if w 2 = 0 then 1 else g 2) := by
  have step (a : Nat) (l : List Nat) : (((a :: l).filter fun a => w a != 0).map g).prod =
      (if w a = 0 then 1 else g a) * ((l.filter fun a => w a != 0).map g).prod := by
    by_cases h : w a = 0 <;> simp [h]
  rw [touchedAxes, step, step, step, List.filter_nil, List.map_nil, List.prod_nil, mul_one, mul_assoc]

/-- the touched-axis product of `_reduce_factor` equals the per-pass product of `C32_sum_unfold3` -/
theorem C32_reduce_factor_matches [Field K] (cast : Int → K) (h1 : cast 1 = 1)
    (hadd : ∀ p : Int, cast (1 + p) = 1 + cast p) (w : Nat → Int) (p : Nat → Int) :
    reduceFactor cast false ((touchedAxes w).map p) =
      passFactor (w 0) (cast (p 0)) * passFactor (w 1) (cast (p 1)) * passFactor (w 2) (cast (p 2)) := by
  rw [C32_reduce_factor_sum cast h1, List.map_map, prod_map_touchedAxes]
  simp only [Function.comp, hadd, passFactor]

/-- the factor one pass contributes to a mean -/
def passFactorMean [Field K] (w : Int) (s : K) : K := if w = 0 then 1 else (1 + s) / 2

theorem mean_stage [Field K] (w : Int) (a : Nat) (s : K) (X : A3 K) :
    sum3 (stage w a s false X) / (size3 (stage w a s false X) : K) =
      passFactorMean w s * (sum3 X / (size3 X : K)) := by
  unfold stage passFactorMean
  split
  · rw [one_mul]
  · rw [sum3_unfoldAxis, size3_unfoldAxis, Nat.cast_mul, Nat.cast_ofNat, mul_div_mul_comm]

theorem C32_mean_unfold3 [Field K] (w : Nat → Int) (s : Nat → K) (A : A3 K) :
    sum3 (unfold3 w s (fun _ => false) A) / (size3 (unfold3 w s (fun _ => false) A) : K) =
      passFactorMean (w 0) (s 0) * passFactorMean (w 1) (s 1) * passFactorMean (w 2) (s 2) *
        (sum3 A / (size3 A : K)) := by
  rw [unfold3, mean_stage, mean_stage, mean_stage]
  ring

/-- the touched-axis product of `_reduce_factor(mean=True)` equals the per-pass product of `C32_mean_unfold3` -/
theorem C32_reduce_factor_mean_matches [Field K] (cast : Int → K) (h1 : cast 1 = 1) (h2 : cast 2 = 2)
    (hadd : ∀ p : Int, cast (1 + p) = 1 + cast p) (w : Nat → Int) (p : Nat → Int) :
    reduceFactor cast true ((touchedAxes w).map p) =
      passFactorMean (w 0) (cast (p 0)) * passFactorMean (w 1) (cast (p 1)) *
        passFactorMean (w 2) (cast (p 2)) := by
  rw [C32_reduce_factor_mean cast h1, List.map_map, prod_map_touchedAxes]
  simp only [Function.comp, hadd, h2, passFactorMean]

/-- with every sign +1 the sum factor is `2 ^ count` (`state * 2**count`). -/
theorem C32_energy_factor [Field K] (cast : Int → K) (h1 : cast 1 = 1)
    (hadd : ∀ p : Int, cast (1 + p) = 1 + cast p) (w : Nat → Int) :
    reduceFactor cast false ((touchedAxes w).map (fun _ => 1)) = 2 ^ (touchedAxes w).length := by
  rw [C32_reduce_factor_sum cast h1]
  simp only [hadd, List.map_const', List.map_replicate, List.prod_replicate, h1]
  norm_num

theorem touchedAxes_touchedOf (sym start : Nat → Int) :
    touchedAxes (fun a => touchedOf (sym a) (start a)) =
      [0, 1, 2].filter (fun a => decide (sym a ≠ 0 ∧ start a < 0)) := by
  refine List.filter_congr fun a _ => ?_
  unfold touchedOf
  by_cases h : start a < 0 <;> by_cases h0 : sym a = 0 <;> simp [h, h0]

theorem detFactors_energy {α : Type} [Mul α] [Div α] (cast : Int → α) (d : Det)
    (hk : d.kind = Kind.energy) (touched : Nat → Int) :
    detFactors cast d touched = some [cast ((2 : Int) ^ (touchedAxes touched).length)] := by
  unfold detFactors perComponent
  simp only [hk, compParities]
  -- the per-axis parities of an energy detector never fail
  rw [show List.mapM (fun _ => (some [1] : Option (List Int))) (touchedAxes touched) =
      some ((touchedAxes touched).map fun _ => [1]) from List.mapM_pure]
  rfl

/-- the `2 ** count` of a reduce_volume EnergyDetector counts the planes THIS detector
    crosses (symmetric axis AND negative unclipped start), not the symmetric axes of the configuration. -/
theorem C32_energy_count_is_straddled {α : Type} [Mul α] [Div α] (cast : Int → α) (d : Det)
    (hk : d.kind = Kind.energy) (sym start : Nat → Int) :
    detFactors cast d (fun a => touchedOf (sym a) (start a)) =
      some [cast ((2 : Int) ^ ([0, 1, 2].filter (fun a => decide (sym a ≠ 0 ∧ start a < 0))).length)] := by
  rw [detFactors_energy cast d hk, touchedAxes_touchedOf]

/-- a detector inside the upper x half of an (x, y)-symmetric domain that crosses only the y plane: factor 2, not 4 -/
example : detFactors (fun p : Int => p)
    { kind := .energy, comps := [], reduceVolume := true, exact := false, asSlices := false, keepAll := false, propAxis := 0 }
    (fun a => touchedOf (sym3 1 1 0 a) (sym3 1 (-4) 0 a)) = some [2] := by decide

/-- non-vacuity: a 1×1×2 record, touched by an x- and a z-plane, odd along z -/
example : sum3 (unfold3 (sym3 (-1) 0 1) (fun a => if a = 2 then (-1 : Int) else 1) (fun _ => false) [[[3, 5]]]) = 0
    ∧ sum3 (unfold3 (sym3 (-1) 0 1) (fun _ => (1 : Int)) (fun _ => false) [[[3, 5]]]) = 4 * 8 := by decide

end Reduce

/-! ### the tree as found, before the fix: refutation witnesses -/

/-- a single on-plane sample produced an EMPTY low block: the extent was not doubled … -/
example : (AsFound.unfoldList (fun x : Int => -1 * x) true [7]).length = 1 := by decide
/-- … so in `unfold_fields` the tangential (on-plane) and normal (flipped) components of a reduced field with one
    cell on an electric axis got different extents (1 vs 2) and the component concatenation raised. -/
example : (AsFound.unfoldList (fun x : Int => -1 * x) true [7]).length ≠
    (AsFound.unfoldList (fun x : Int => 1 * x) false [7]).length := by decide

end Fdtdx.C32
