/-
C09 — any-tier (full 3×3 tensor) supercells along y, along z, and along any combination of axes.

The x-axis theorem `C09_aniso_tile_steps` (FdtdxProps/C09Aniso.lean) is transported to the other axes through the cyclic
axis-relabelling equivariance of any-tier runs (`C08_aniso_steps_equivariant`, FdtdxProps/C08Aniso.lean), exactly as
`FdtdxProps/C09Axes.lean` does for the diagonal tier: the y tiling IS the x tiling of the twice relabelled scene, relabelled
once more (`tileMatAY_rot`, `tileAWY_rot`, together with the definitional `tileY_rot`, `tileCfgY_rot`), likewise for z.
Compositions as there (`AgreeOn.tileY`, `AgreeOn.tileZ`, `AgreeOn.comp`).

  C09_aniso_tile_steps_y, C09_aniso_tile_steps_z          one wrap axis (periodic or Bloch, abstract factors `PhaseOK`)
  C09_aniso_tile_steps_xy, _xz, _yz, _xyz                 two / three axes, independent factors and phases per axis

Materials of any tier (scalar / 1 / 3 / 9 components, lossy or lossless), uniform or spacing-weighted neighbour averages;
for the latter the widths of every tiled axis must satisfy the seam condition (`WidthsTileOK`, `WidthsTileOKy`,
`WidthsTileOKz`: uniform grid, or first width = last width on that axis).
-/
import FdtdxModel.C09AnisoAxes
import FdtdxProps.C09Aniso
import FdtdxProps.C09Axes
import FdtdxProps.C08Aniso

namespace Fdtdx.C09
open Fdtdx Fdtdx.Yee Fdtdx.YeeAniso Fdtdx.C02
open Fdtdx.C08 (rotV rotC rotMA rotAW rotTens)
set_option linter.unusedSectionVars false

section
variable {K : Type} [Field K]

/-! ### the material / width tilings along y and z are relabelled x tilings -/

theorem tileTensY_rot (n : Nat) (t : Tens K) : tileTensY n t = rotTens (tileTens n (rotTens (rotTens t))) := by
  cases t <;> rfl

theorem tileTensZ_rot (n : Nat) (t : Tens K) : tileTensZ n t = rotTens (rotTens (tileTens n (rotTens t))) := by
  cases t <;> rfl

theorem tileMatAY_rot (n : Nat) (mt : MatA K) : tileMatAY n mt = rotMA (tileMatAX n (rotMA (rotMA mt))) := by
  obtain ⟨ie, im, sE, sH⟩ := mt
  cases sE <;> cases sH <;> simp [tileMatAY, tileMatAX, rotMA, tileTensY_rot]

theorem tileMatAZ_rot (n : Nat) (mt : MatA K) : tileMatAZ n mt = rotMA (rotMA (tileMatAX n (rotMA mt))) := by
  obtain ⟨ie, im, sE, sH⟩ := mt
  cases sE <;> cases sH <;> simp [tileMatAZ, tileMatAX, rotMA, tileTensZ_rot]

theorem tileAWY_rot (n : Nat) (aw : Option (AW K)) :
    aw.map (tileAWY n) = ((((aw.map rotAW).map rotAW).map (tileAWX n)).map rotAW) := by
  cases aw <;> rfl

theorem tileAWZ_rot (n : Nat) (aw : Option (AW K)) :
    aw.map (tileAWZ n) = ((((aw.map rotAW).map (tileAWX n)).map rotAW).map rotAW) := by
  cases aw <;> rfl

theorem fwdNA_eq (cf : Cfg K) (aw : Option (AW K)) (m : MatA K) (jE jH : Nat → V3 K) (t n : Nat) (s : V3 K × V3 K) :
    C08.fwdNA cf aw m jE jH t n s = fwdNA cf aw m jE jH t n s := by
  induction n <;> simp only [C08.fwdNA, fwdNA, *]

theorem fwdNA_rot (cf : Cfg K) (aw : Option (AW K)) (m : MatA K) (jE jH : Nat → V3 K) (t s : Nat) (E H : V3 K) :
    fwdNA (rotC cf) (aw.map rotAW) (rotMA m) (fun u => rotV (jE u)) (fun u => rotV (jH u)) t s (rotV E, rotV H)
      = (rotV (fwdNA cf aw m jE jH t s (E, H)).1, rotV (fwdNA cf aw m jE jH t s (E, H)).2) := by
  rw [← fwdNA_eq, ← fwdNA_eq]
  exact C08.C08_aniso_steps_equivariant cf aw m jE jH t s (E, H)

/-- seam condition on the y (resp. z) widths -/
def WidthsTileOKy (n : Nat) (aw : Option (AW K)) : Prop := WidthsTileOK n ((aw.map rotAW).map rotAW)
def WidthsTileOKz (n : Nat) (aw : Option (AW K)) : Prop := WidthsTileOK n (aw.map rotAW)

theorem widthsTileOKy_iff (n : Nat) (aw : Option (AW K)) :
    WidthsTileOKy n aw ↔ ∀ wv, aw = some wv → ∀ j, wPrev (fun t => wv.wy (t % n)) j = wPrev wv.wy (j % n) := by
  cases aw with
  | none => exact ⟨fun _ _ => nofun, fun _ _ => nofun⟩
  | some wv => exact ⟨fun h _ e => (by cases e; exact h _ rfl), fun h _ e => (by cases e; exact h wv rfl)⟩

theorem widthsTileOKz_iff (n : Nat) (aw : Option (AW K)) :
    WidthsTileOKz n aw ↔ ∀ wv, aw = some wv → ∀ k, wPrev (fun t => wv.wz (t % n)) k = wPrev wv.wz (k % n) := by
  cases aw with
  | none => exact ⟨fun _ _ => nofun, fun _ _ => nofun⟩
  | some wv => exact ⟨fun h _ e => (by cases e; exact h _ rfl), fun h _ e => (by cases e; exact h wv rfl)⟩

variable (cf : Cfg K) (m : Nat) (w : Nat → K) (P Q : K)

/-- **C09_aniso_tile_steps_y**: the any-tier supercell along a wrap y axis evolves as the tiled base cell. -/
theorem C09_aniso_tile_steps_y (hax : AxisOKy cf) (hp : PhaseOK m w cf.by_.pp cf.by_.pm P Q) (hm : 0 < m)
    (aw : Option (AW K)) (hW : WidthsTileOKy cf.ny aw) (mt : MatA K) (jE jH : Nat → V3 K) (t s : Nat) (E H : V3 K) :
    AgreeOn (fun _ j _ => j < m * cf.ny)
        (fwdNA (tileCfgY m P Q cf) (aw.map (tileAWY cf.ny)) (tileMatAY cf.ny mt) (fun u => tileY cf.ny w (jE u))
          (fun u => tileY cf.ny w (jH u)) t s (tileY cf.ny w E, tileY cf.ny w H)).1
        (tileY cf.ny w (fwdNA cf aw mt jE jH t s (E, H)).1)
    ∧ AgreeOn (fun _ j _ => j < m * cf.ny)
        (fwdNA (tileCfgY m P Q cf) (aw.map (tileAWY cf.ny)) (tileMatAY cf.ny mt) (fun u => tileY cf.ny w (jE u))
          (fun u => tileY cf.ny w (jH u)) t s (tileY cf.ny w E, tileY cf.ny w H)).2
        (tileY cf.ny w (fwdNA cf aw mt jE jH t s (E, H)).2) := by
  have hx := C09_aniso_tile_steps (rotC (rotC cf)) m w P Q hax hp hm ((aw.map rotAW).map rotAW) hW (rotMA (rotMA mt))
    (fun u => rotV (rotV (jE u))) (fun u => rotV (rotV (jH u))) t s (rotV (rotV E)) (rotV (rotV H))
  rw [fwdNA_rot (rotC cf) (aw.map rotAW) (rotMA mt) (fun u => rotV (jE u)) (fun u => rotV (jH u)), fwdNA_rot] at hx
  rw [tileMatAY_rot, tileAWY_rot, tileCfgY_rot]
  simp only [tileY_rot]
  exact run_rot (fwdNA_rot ..) hx

theorem C09_aniso_tile_steps_z (hax : AxisOKz cf) (hp : PhaseOK m w cf.bz.pp cf.bz.pm P Q) (hm : 0 < m)
    (aw : Option (AW K)) (hW : WidthsTileOKz cf.nz aw) (mt : MatA K) (jE jH : Nat → V3 K) (t s : Nat) (E H : V3 K) :
    AgreeOn (fun _ _ k => k < m * cf.nz)
        (fwdNA (tileCfgZ m P Q cf) (aw.map (tileAWZ cf.nz)) (tileMatAZ cf.nz mt) (fun u => tileZ cf.nz w (jE u))
          (fun u => tileZ cf.nz w (jH u)) t s (tileZ cf.nz w E, tileZ cf.nz w H)).1
        (tileZ cf.nz w (fwdNA cf aw mt jE jH t s (E, H)).1)
    ∧ AgreeOn (fun _ _ k => k < m * cf.nz)
        (fwdNA (tileCfgZ m P Q cf) (aw.map (tileAWZ cf.nz)) (tileMatAZ cf.nz mt) (fun u => tileZ cf.nz w (jE u))
          (fun u => tileZ cf.nz w (jH u)) t s (tileZ cf.nz w E, tileZ cf.nz w H)).2
        (tileZ cf.nz w (fwdNA cf aw mt jE jH t s (E, H)).2) := by
  have hx := C09_aniso_tile_steps (rotC cf) m w P Q hax hp hm (aw.map rotAW) hW (rotMA mt) (fun u => rotV (jE u))
    (fun u => rotV (jH u)) t s (rotV E) (rotV H)
  rw [fwdNA_rot] at hx
  rw [tileMatAZ_rot, tileAWZ_rot, tileCfgZ_rot]
  simp only [tileZ_rot]
  exact run_rot (fwdNA_rot ..) (run_rot (fwdNA_rot ..) hx)

/-! ### compositions -/

/-- the seam condition of an axis is not affected by tiling the widths of another axis -/
theorem widthsTileOKy_tileX (n1 n : Nat) (aw : Option (AW K)) (h : WidthsTileOKy n aw) : WidthsTileOKy n (aw.map (tileAWX n1)) := by
  cases aw with
  | none => exact h
  | some w0 => exact fun _ e => by cases e; exact h (rotAW (rotAW w0)) rfl

theorem widthsTileOKz_tileX (n1 n : Nat) (aw : Option (AW K)) (h : WidthsTileOKz n aw) : WidthsTileOKz n (aw.map (tileAWX n1)) := by
  cases aw with
  | none => exact h
  | some w0 => exact fun _ e => by cases e; exact h (rotAW w0) rfl

theorem widthsTileOKz_tileY (n1 n : Nat) (aw : Option (AW K)) (h : WidthsTileOKz n aw) : WidthsTileOKz n (aw.map (tileAWY n1)) := by
  cases aw with
  | none => exact h
  | some w0 => exact fun _ e => by cases e; exact h (rotAW w0) rfl

variable (m1 m2 m3 : Nat) (w1 w2 w3 : Nat → K) (P1 Q1 P2 Q2 P3 Q3 : K)

/-- **C09_aniso_tile_steps_xy**: tiling along x and y (independent factors and per-copy phases) -/
theorem C09_aniso_tile_steps_xy (hx : AxisOK cf) (hy : AxisOKy cf) (hp1 : PhaseOK m1 w1 cf.bx.pp cf.bx.pm P1 Q1)
    (hp2 : PhaseOK m2 w2 cf.by_.pp cf.by_.pm P2 Q2) (hm1 : 0 < m1) (hm2 : 0 < m2)
    (aw : Option (AW K)) (hW1 : WidthsTileOK cf.nx aw) (hW2 : WidthsTileOKy cf.ny aw) (mt : MatA K)
    (jE jH : Nat → V3 K) (t s : Nat) (E H : V3 K) :
    let T : V3 K → V3 K := fun V => tileY cf.ny w2 (tileX cf.nx w1 V)
    let S := fwdNA (tileCfgY m2 P2 Q2 (tileCfgX m1 P1 Q1 cf)) ((aw.map (tileAWX cf.nx)).map (tileAWY cf.ny))
      (tileMatAY cf.ny (tileMatAX cf.nx mt)) (fun u => T (jE u)) (fun u => T (jH u)) t s (T E, T H)
    let B := fwdNA cf aw mt jE jH t s (E, H)
    AgreeOn (fun i j _ => i < m1 * cf.nx ∧ j < m2 * cf.ny) S.1 (T B.1)
    ∧ AgreeOn (fun i j _ => i < m1 * cf.nx ∧ j < m2 * cf.ny) S.2 (T B.2) := by
  intro T S B
  have h1 := C09_aniso_tile_steps cf m1 w1 P1 Q1 hx hp1 hm1 aw hW1 mt jE jH t s E H
  have h2 := C09_aniso_tile_steps_y (tileCfgX m1 P1 Q1 cf) m2 w2 P2 Q2 (axisOKy_tileX cf m1 P1 Q1 hy) hp2 hm2
    (aw.map (tileAWX cf.nx)) (widthsTileOKy_tileX cf.nx cf.ny aw hW2) (tileMatAX cf.nx mt)
    (fun u => tileX cf.nx w1 (jE u)) (fun u => tileX cf.nx w1 (jH u)) t s (tileX cf.nx w1 E) (tileX cf.nx w1 H)
  exact ⟨.comp (fun _ _ _ h => h) h2.1 (.tileY cf.ny w2 h1.1), .comp (fun _ _ _ h => h) h2.2 (.tileY cf.ny w2 h1.2)⟩

theorem C09_aniso_tile_steps_xz (hx : AxisOK cf) (hz : AxisOKz cf) (hp1 : PhaseOK m1 w1 cf.bx.pp cf.bx.pm P1 Q1)
    (hp3 : PhaseOK m3 w3 cf.bz.pp cf.bz.pm P3 Q3) (hm1 : 0 < m1) (hm3 : 0 < m3)
    (aw : Option (AW K)) (hW1 : WidthsTileOK cf.nx aw) (hW3 : WidthsTileOKz cf.nz aw) (mt : MatA K)
    (jE jH : Nat → V3 K) (t s : Nat) (E H : V3 K) :
    let T : V3 K → V3 K := fun V => tileZ cf.nz w3 (tileX cf.nx w1 V)
    let S := fwdNA (tileCfgZ m3 P3 Q3 (tileCfgX m1 P1 Q1 cf)) ((aw.map (tileAWX cf.nx)).map (tileAWZ cf.nz))
      (tileMatAZ cf.nz (tileMatAX cf.nx mt)) (fun u => T (jE u)) (fun u => T (jH u)) t s (T E, T H)
    let B := fwdNA cf aw mt jE jH t s (E, H)
    AgreeOn (fun i _ k => i < m1 * cf.nx ∧ k < m3 * cf.nz) S.1 (T B.1)
    ∧ AgreeOn (fun i _ k => i < m1 * cf.nx ∧ k < m3 * cf.nz) S.2 (T B.2) := by
  intro T S B
  have h1 := C09_aniso_tile_steps cf m1 w1 P1 Q1 hx hp1 hm1 aw hW1 mt jE jH t s E H
  have h2 := C09_aniso_tile_steps_z (tileCfgX m1 P1 Q1 cf) m3 w3 P3 Q3 (axisOKz_tileX cf m1 P1 Q1 hz) hp3 hm3
    (aw.map (tileAWX cf.nx)) (widthsTileOKz_tileX cf.nx cf.nz aw hW3) (tileMatAX cf.nx mt)
    (fun u => tileX cf.nx w1 (jE u)) (fun u => tileX cf.nx w1 (jH u)) t s (tileX cf.nx w1 E) (tileX cf.nx w1 H)
  exact ⟨.comp (fun _ _ _ h => h) h2.1 (.tileZ cf.nz w3 h1.1), .comp (fun _ _ _ h => h) h2.2 (.tileZ cf.nz w3 h1.2)⟩

theorem C09_aniso_tile_steps_yz (hy : AxisOKy cf) (hz : AxisOKz cf) (hp2 : PhaseOK m2 w2 cf.by_.pp cf.by_.pm P2 Q2)
    (hp3 : PhaseOK m3 w3 cf.bz.pp cf.bz.pm P3 Q3) (hm2 : 0 < m2) (hm3 : 0 < m3)
    (aw : Option (AW K)) (hW2 : WidthsTileOKy cf.ny aw) (hW3 : WidthsTileOKz cf.nz aw) (mt : MatA K)
    (jE jH : Nat → V3 K) (t s : Nat) (E H : V3 K) :
    let T : V3 K → V3 K := fun V => tileZ cf.nz w3 (tileY cf.ny w2 V)
    let S := fwdNA (tileCfgZ m3 P3 Q3 (tileCfgY m2 P2 Q2 cf)) ((aw.map (tileAWY cf.ny)).map (tileAWZ cf.nz))
      (tileMatAZ cf.nz (tileMatAY cf.ny mt)) (fun u => T (jE u)) (fun u => T (jH u)) t s (T E, T H)
    let B := fwdNA cf aw mt jE jH t s (E, H)
    AgreeOn (fun _ j k => j < m2 * cf.ny ∧ k < m3 * cf.nz) S.1 (T B.1)
    ∧ AgreeOn (fun _ j k => j < m2 * cf.ny ∧ k < m3 * cf.nz) S.2 (T B.2) := by
  intro T S B
  have h1 := C09_aniso_tile_steps_y cf m2 w2 P2 Q2 hy hp2 hm2 aw hW2 mt jE jH t s E H
  have h2 := C09_aniso_tile_steps_z (tileCfgY m2 P2 Q2 cf) m3 w3 P3 Q3 (axisOKz_tileY cf m2 P2 Q2 hz) hp3 hm3
    (aw.map (tileAWY cf.ny)) (widthsTileOKz_tileY cf.ny cf.nz aw hW3) (tileMatAY cf.ny mt)
    (fun u => tileY cf.ny w2 (jE u)) (fun u => tileY cf.ny w2 (jH u)) t s (tileY cf.ny w2 E) (tileY cf.ny w2 H)
  exact ⟨.comp (fun _ _ _ h => h) h2.1 (.tileZ cf.nz w3 h1.1), .comp (fun _ _ _ h => h) h2.2 (.tileZ cf.nz w3 h1.2)⟩

/-- **C09_aniso_tile_steps_xyz**: tiling along all three axes -/
theorem C09_aniso_tile_steps_xyz (hx : AxisOK cf) (hy : AxisOKy cf) (hz : AxisOKz cf)
    (hp1 : PhaseOK m1 w1 cf.bx.pp cf.bx.pm P1 Q1) (hp2 : PhaseOK m2 w2 cf.by_.pp cf.by_.pm P2 Q2)
    (hp3 : PhaseOK m3 w3 cf.bz.pp cf.bz.pm P3 Q3) (hm1 : 0 < m1) (hm2 : 0 < m2) (hm3 : 0 < m3)
    (aw : Option (AW K)) (hW1 : WidthsTileOK cf.nx aw) (hW2 : WidthsTileOKy cf.ny aw) (hW3 : WidthsTileOKz cf.nz aw)
    (mt : MatA K) (jE jH : Nat → V3 K) (t s : Nat) (E H : V3 K) :
    let T : V3 K → V3 K := fun V => tileZ cf.nz w3 (tileY cf.ny w2 (tileX cf.nx w1 V))
    let S := fwdNA (tileCfgZ m3 P3 Q3 (tileCfgY m2 P2 Q2 (tileCfgX m1 P1 Q1 cf)))
      (((aw.map (tileAWX cf.nx)).map (tileAWY cf.ny)).map (tileAWZ cf.nz))
      (tileMatAZ cf.nz (tileMatAY cf.ny (tileMatAX cf.nx mt))) (fun u => T (jE u)) (fun u => T (jH u)) t s (T E, T H)
    let B := fwdNA cf aw mt jE jH t s (E, H)
    AgreeOn (fun i j k => i < m1 * cf.nx ∧ j < m2 * cf.ny ∧ k < m3 * cf.nz) S.1 (T B.1)
    ∧ AgreeOn (fun i j k => i < m1 * cf.nx ∧ j < m2 * cf.ny ∧ k < m3 * cf.nz) S.2 (T B.2) := by
  intro T S B
  have h12 := C09_aniso_tile_steps_xy cf m1 m2 w1 w2 P1 Q1 P2 Q2 hx hy hp1 hp2 hm1 hm2 aw hW1 hW2 mt jE jH t s E H
  have h3 := C09_aniso_tile_steps_z (tileCfgY m2 P2 Q2 (tileCfgX m1 P1 Q1 cf)) m3 w3 P3 Q3
    (axisOKz_tileY _ m2 P2 Q2 (axisOKz_tileX cf m1 P1 Q1 hz)) hp3 hm3
    ((aw.map (tileAWX cf.nx)).map (tileAWY cf.ny))
    (widthsTileOKz_tileY cf.ny cf.nz _ (widthsTileOKz_tileX cf.nx cf.nz aw hW3))
    (tileMatAY cf.ny (tileMatAX cf.nx mt)) (fun u => tileY cf.ny w2 (tileX cf.nx w1 (jE u)))
    (fun u => tileY cf.ny w2 (tileX cf.nx w1 (jH u))) t s (tileY cf.ny w2 (tileX cf.nx w1 E)) (tileY cf.ny w2 (tileX cf.nx w1 H))
  exact ⟨.comp (fun _ _ _ h => ⟨⟨h.1, h.2.1⟩, h.2.2⟩) h3.1 (.tileZ cf.nz w3 h12.1),
    .comp (fun _ _ _ h => ⟨⟨h.1, h.2.1⟩, h.2.2⟩) h3.2 (.tileZ cf.nz w3 h12.2)⟩

end

/-! ### non-vacuity: the fully periodic scene `exPer` of C09Axes with a full non-symmetric tensor tiled along y and z, and
seam-symmetric y widths -/
def exMatAxes : MatA ℚ :=
  ⟨.full (fun i j k => ⟨2, 1 / 3, 0, 1 / 5, 3, (i + 2 * j + 3 * k : Nat), 0, 1 / 7, 1⟩), .scalar 1, none, none⟩

example : (tileMatAZ 2 (tileMatAY 3 exMatAxes)).fullE = true := by decide
example : ((tileMatAZ 2 (tileMatAY 3 exMatAxes)).invEps.expand 1 4 3).yz = (exMatAxes.invEps.expand 1 1 1).yz := by decide
example : WidthsTileOKy (K := ℚ) 3 (some ⟨fun _ => 1, fun j => if j = 1 then 2 else 1, fun _ => 1⟩) :=
  widthsTileOK_of_seam 3 (by decide) _ (by norm_num [Fdtdx.C08.rotAW])
example : WidthsTileOKz (K := ℚ) 2 none := widthsTileOK_none 2

end Fdtdx.C09
