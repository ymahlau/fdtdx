/-
C24 — Median filter and pillar discretization match their definitions.

Property theorems about `FdtdxModel/C24.lean` (all array shapes, kernel sizes, padding configs, material counts, column
heights — no bound). Median: round-half-even(s / K) = [2·s > K] for 0 ≤ s ≤ K (a tie 2·s = K goes to 0; none exists for
odd K); the three separable passes with materialisation in between equal one box sum, so every output voxel is the
majority of its kx×ky×kz box of the padded array (zero beyond it); with six edges the padded shape is shape + widths and
the shifted voxel lies inside. Pillars: `argmin` returns the FIRST index of a minimal distance (any linear order), so the
chosen column is allowed and no allowed column is closer; `itertools.product(vals, repeat=n)` = all lists of length n
over vals, and the enumerated columns are exactly a block of one fill index on top of non-fill materials (with
`single_polymer_columns`: of one material).
-/
import FdtdxLemmas.C24Basic
import FdtdxLemmas.FirstMin

namespace Fdtdx.C24

/-! ### rounding -/

theorem C24_round_is_threshold (s K : Nat) (hK : 0 < K) (hs : s ≤ K) :
    roundHE s K = if K < 2 * s then 1 else 0 := by
  unfold roundHE
  rcases Nat.lt_or_ge s K with h | h
  · simp only [Nat.div_eq_of_lt h, Nat.mod_eq_of_lt h]
    by_cases h1 : 2 * s < K
    · rw [if_pos h1, if_neg (Nat.lt_asymm h1)]
    · rw [if_neg h1]
      by_cases h2 : K < 2 * s
      · rw [if_pos h2, if_pos h2]
      · rw [if_neg h2, if_neg h2]; rfl
  · obtain rfl : s = K := Nat.le_antisymm hs h
    simp only [Nat.div_self hK, Nat.mod_self]
    rw [if_pos (by omega), if_pos (by omega)]

theorem C24_odd_no_tie (s K : Nat) (hodd : K % 2 = 1) : 2 * s ≠ K := by omega

/-! ### median filter = box majority -/

/-- 0/1 indicator of the padded array, zero outside it -/
def ind (pd : Dims) (p : Tab Bool) (x y z : Nat) : Nat := if inb pd x y z && look false p x y z then 1 else 0

/-- number of ones in the box of voxel (i,j,k) (coordinates of the padded array): the window along an axis with
kernel size k = 2h+1 is i-h … i+h; for even k = 2h it is i-h … i+h-1, as `convolve(mode="same")` does -/
def boxOnes (pd : Dims) (p : Tab Bool) (c : MedCfg) (i j k : Nat) : Nat := boxSum (ind pd p) c.kx c.ky c.kz i j k

theorem boxOnes_le (pd : Dims) (p : Tab Bool) (c : MedCfg) (i j k : Nat) : boxOnes pd p c i j k ≤ c.kx * c.ky * c.kz := by
  apply boxSum_le
  intro a b cc; unfold ind; split <;> simp

theorem ite_band (a b : Bool) (x y : Nat) :
    (if (a && b) = true then x else y) = if a = true then (if b = true then x else y) else y := by
  cases a <;> rfl

theorem look_boxCounts (pd : Dims) (p : Tab Bool) (c : MedCfg) (i j k : Nat) :
    look 0 (boxCounts pd p c) i j k = if inb pd i j k = true then boxOnes pd p c i j k else 0 := by
  unfold boxCounts
  split
  · next hin =>
    rw [look_passes pd c.kx c.ky c.kz _ i j k hin (fun ii jj kk h => look_oob 0 pd _ ii jj kk h)]
    refine congrArg (fun f => boxSum f c.kx c.ky c.kz i j k) (funext fun x => funext fun y => funext fun z => ?_)
    rw [look_tab, ind, ite_band]
  · next hin => exact look_oob 0 pd _ i j k (Eq.mp (Bool.not_eq_true _) hin)

/-- **binary_median_filter = box majority under the padding model**: with `(pd, p)` the padded array, every output
voxel is 1 exactly when more than half of the kx·ky·kz cells of its box hold a one (cells beyond the padded array
count as zero). -/
theorem C24_median_is_box_majority (d : Dims) (a : Tab Bool) (c : MedCfg) (hK : 0 < c.kx * c.ky * c.kz) (i j k : Nat) :
    look false (median d a c) i j k =
      (inb d i j k && (inb (padded d a c).1 (i + lowW c 0) (j + lowW c 1) (k + lowW c 2) &&
        decide (c.kx * c.ky * c.kz <
          2 * boxOnes (padded d a c).1 (padded d a c).2 c (i + lowW c 0) (j + lowW c 1) (k + lowW c 2)))) := by
  unfold median
  generalize padded d a c = pp
  obtain ⟨pd, p⟩ := pp
  simp only []
  rw [look_tab, look_boxCounts]
  cases inb d i j k
  · rfl
  · cases inb pd (i + lowW c 0) (j + lowW c 1) (k + lowW c 2)
    · simp [roundHE, Nat.zero_div, hK]
    · simp only [if_true, Bool.true_and]
      rw [C24_round_is_threshold _ _ hK (boxOnes_le pd p c _ _ _)]
      by_cases h : c.kx * c.ky * c.kz < 2 * boxOnes pd p c (i + lowW c 0) (j + lowW c 1) (k + lowW c 2) <;> simp [h]

/-- for an odd kernel volume "more than half" is "ones outnumber all other cells of the box" and its negation is
"the others outnumber the ones": a strict majority always exists -/
theorem C24_majority_odd (K n : Nat) (hodd : K % 2 = 1) (hn : n ≤ K) :
    (K < 2 * n ↔ K - n < n) ∧ (¬ K < 2 * n ↔ n < K - n) := by
  omega

/-! ### the padded array always contains the shifted voxel -/

theorem C24_padded_dims (d : Dims) (a : Tab Bool) (kx ky kz : Nat) (e0 e1 e2 e3 e4 e5 : Edge) :
    (padded d a ⟨kx, ky, kz, [e0, e1, e2, e3, e4, e5]⟩).1 =
      ⟨d.nx + e0.w + e1.w, d.ny + e2.w + e3.w, d.nz + e4.w + e5.w⟩ := by
  simp only [padded, padAll, List.zipIdx, List.foldl, padEdge]
  rfl

/-- with six edges every voxel of the original array lies inside the padded array at the shifted position, so the
in-bounds conjunct of `C24_median_is_box_majority` is always true -/
theorem C24_voxel_inside (d : Dims) (a : Tab Bool) (kx ky kz : Nat) (e0 e1 e2 e3 e4 e5 : Edge) (i j k : Nat)
    (h : inb d i j k = true) :
    let c : MedCfg := ⟨kx, ky, kz, [e0, e1, e2, e3, e4, e5]⟩
    inb (padded d a c).1 (i + lowW c 0) (j + lowW c 1) (k + lowW c 2) = true := by
  intro c
  obtain ⟨hi, hj, hk⟩ := inb_iff.mp h
  rw [C24_padded_dims]
  exact inb_iff.mpr ⟨show i + e0.w < d.nx + e0.w + e1.w by omega, show j + e2.w < d.ny + e2.w + e3.w by omega,
    show k + e4.w < d.nz + e4.w + e5.w by omega⟩

/-! ### argmin -/

/-- **argmin**: for a non-empty list the index returned holds a minimal entry, and every entry before it is
strictly larger (first minimum, the tie rule of `jnp.argmin`). -/
theorem C24_argmin_spec {α : Type} [LinearOrder α] (l : List α) (hl : l ≠ []) :
    ∃ b, l[argminFirst l]? = some b ∧ (∀ (j : Nat) (v : α), l[j]? = some v → b ≤ v) ∧
      (∀ (j : Nat) (v : α), j < argminFirst l → l[j]? = some v → b < v) := by
  obtain ⟨h, hmin, hfirst⟩ := FirstMinOn.exists_getElem (am := argminFirst)
    (go := fun ys i bi best => argminFirst.go best bi i ys) (g := id) ⟨fun _ _ => rfl, fun _ _ _ => rfl, fun _ _ _ _ _ => rfl⟩ l hl
  refine ⟨l[argminFirst l], List.getElem?_eq_getElem h, fun j v hj => ?_, fun j v hlt hj => ?_⟩
  · obtain ⟨hj', rfl⟩ := List.getElem?_eq_some_iff.mp hj
    exact hmin j hj'
  · obtain ⟨hj', rfl⟩ := List.getElem?_eq_some_iff.mp hj
    exact hfirst j hj' hlt

/-- **the chosen column is allowed and closest**: with `dist` any distance of an input column to an allowed column
(the Euclidean one or the permittivity-difference one), the column selected by `nearest_index` + the gather in
`PillarDiscretization.__call__` is a member of the allowed list and no allowed column is strictly closer. -/
theorem C24_nearest_minimises {α : Type} [LinearOrder α] (cols : List (List Nat)) (dist : List Nat → α)
    (hc : cols ≠ []) :
    ∃ col, cols[argminFirst (cols.map dist)]? = some col ∧ col ∈ cols ∧ ∀ c ∈ cols, dist col ≤ dist c := by
  obtain ⟨h, hmin, _⟩ := FirstMinOn.exists_getElem (am := fun l => argminFirst (l.map dist))
    (go := fun ys i bi best => argminFirst.go best bi i (ys.map dist)) (g := dist) ⟨fun _ _ => rfl, fun _ _ _ => rfl, fun _ _ _ _ _ => rfl⟩ cols hc
  refine ⟨_, List.getElem?_eq_getElem h, List.getElem_mem h, fun c hcmem => ?_⟩
  obtain ⟨j, hj, rfl⟩ := List.getElem_of_mem hcmem
  exact hmin j hj

/-! ### allowed columns -/

/-- `itertools.product(vals, repeat = n)` enumerates exactly the lists of length n over vals -/
theorem C24_product_spec (vals : List Nat) : ∀ (n : Nat) (l : List Nat),
    l ∈ product vals n ↔ l.length = n ∧ ∀ x ∈ l, x ∈ vals := by
  intro n
  induction n with
  | zero =>
    intro l
    simp only [product, List.mem_singleton]
    constructor
    · rintro rfl; simp
    · rintro ⟨h, _⟩; exact List.length_eq_zero_iff.mp h
  | succ n ih =>
    intro l
    simp only [product, List.mem_flatMap, List.mem_map]
    constructor
    · rintro ⟨v, hv, rest, hr, rfl⟩
      obtain ⟨h1, h2⟩ := (ih rest).mp hr
      exact ⟨congrArg (· + 1) h1, List.forall_mem_cons.mpr ⟨hv, h2⟩⟩
    · rintro ⟨hl, hm⟩
      cases l with
      | nil => exact absurd hl (Nat.succ_ne_zero n).symm
      | cons v rest =>
        obtain ⟨hv, hrest⟩ := List.forall_mem_cons.mp hm
        exact ⟨v, hv, rest, (ih rest).mpr ⟨Nat.succ.inj hl, hrest⟩, rfl⟩

/-- column predicate: a block of `i` copies of one fill (background) index at the top end (high index) of the
column, below it only materials that are not fill indices -/
def ColOK (L : Nat) (indices fills : List Nat) (col : List Nat) : Prop :=
  ∃ f ∈ fills, ∃ i, i ≤ L ∧ ∃ low : List Nat, low.length = L - i ∧ (∀ x ∈ low, x ∈ indices ∧ x ∉ fills) ∧
    col = low ++ List.replicate i f

/-- … and a single non-background material below the block -/
def ColOKSingle (L : Nat) (indices fills : List Nat) (col : List Nat) : Prop :=
  ∃ f ∈ fills, ∃ i, i ≤ L ∧ ∃ low : List Nat, low.length = L - i ∧ (∀ x ∈ low, x ∈ indices ∧ x ∉ fills) ∧
    (∀ x ∈ low, ∀ y ∈ low, x = y) ∧ col = low ++ List.replicate i f

theorem mem_valid (indices fills : List Nat) (x : Nat) :
    x ∈ indices.filter (fun x => !fills.contains x) ↔ x ∈ indices ∧ x ∉ fills := by
  simp

/-- **multi-material columns: sound and complete** (needs one non-fill material, as `itertools.product` over an
empty list yields nothing) -/
theorem C24_enumCols_sound_complete (L : Nat) (indices fills : List Nat) (hv : ∃ v ∈ indices, v ∉ fills)
    (col : List Nat) : col ∈ enumCols false L indices fills ↔ ColOK L indices fills col := by
  unfold enumCols ColOK
  simp only [Bool.false_and, Bool.false_eq_true, if_false, List.mem_flatMap, List.mem_filterMap, List.mem_range,
    Option.some.injEq]
  constructor
  · rintro ⟨perm, hp, f, hf, i, hi, rfl⟩
    obtain ⟨hl, hm⟩ := (C24_product_spec _ L perm).mp hp
    refine ⟨f, hf, i, by omega, perm.take (L - i), by simp [hl], ?_, rfl⟩
    intro x hx
    exact (mem_valid indices fills x).mp (hm x (List.mem_of_mem_take hx))
  · rintro ⟨f, hf, i, hi, low, hl, hm, rfl⟩
    obtain ⟨v, hv1, hv2⟩ := hv
    -- any product tuple that starts with `low` will do: fill it up with the non-fill material `v`
    refine ⟨low ++ List.replicate i v, (C24_product_spec _ L _).mpr ⟨by simp [hl]; omega, ?_⟩, f, hf, i, by omega, ?_⟩
    · exact List.forall_mem_append.mpr ⟨fun x hx => (mem_valid indices fills x).mpr (hm x hx), fun x hx =>
        List.eq_of_mem_replicate hx ▸ (mem_valid indices fills v).mpr ⟨hv1, hv2⟩⟩
    · rw [← hl, List.take_left']
      rfl

theorem eraseDups_eq_nil (l : List Nat) : l.eraseDups = [] ↔ l = [] := by
  cases l with
  | nil => simp
  | cons a t => simp [List.eraseDups_cons]

theorem distinct_le_one (l : List Nat) : distinctCount l ≤ 1 ↔ ∀ x ∈ l, ∀ y ∈ l, x = y := by
  cases l with
  | nil => simp [distinctCount]
  | cons a t =>
    -- one distinct entry: nothing different from the head survives in the tail
    have h1 : distinctCount (a :: t) ≤ 1 ↔ ∀ z ∈ t, z = a := by
      rw [distinctCount, List.eraseDups_cons, List.length_cons, Nat.succ_le_succ_iff, Nat.le_zero,
        List.length_eq_zero_iff, eraseDups_eq_nil, List.filter_eq_nil_iff]
      simp
    rw [h1]
    constructor
    · intro h x hx y hy
      rw [(List.mem_cons.mp hx).elim id (h x), (List.mem_cons.mp hy).elim id (h y)]
    · exact fun h z hz => h z (List.mem_cons_of_mem _ hz) a List.mem_cons_self

/-- with `single_polymer_columns` the loops build the same columns and keep those that pass the test -/
theorem mem_enumCols_true (L : Nat) (indices fills : List Nat) (hf : fills ≠ []) (col : List Nat) :
    col ∈ enumCols true L indices fills ↔ col ∈ enumCols false L indices fills ∧
      (distinctCount col = 1 || decide (distinctCount (col.filter fun x => !fills.contains x) ≤ 1)) = true := by
  have hemp : fills.isEmpty = false := by cases fills <;> simp at hf ⊢
  unfold enumCols
  simp only [Bool.true_and, Bool.false_and, hemp, Bool.false_eq_true, if_false, if_true, List.mem_flatMap,
    List.mem_filterMap, List.mem_range, Option.some.injEq]
  constructor
  · rintro ⟨perm, hp, f, hfm, i, hi, hcol⟩
    split at hcol
    · next hc => obtain rfl := Option.some.inj hcol; exact ⟨⟨perm, hp, f, hfm, i, hi, rfl⟩, hc⟩
    · exact absurd hcol (by simp)
  · rintro ⟨⟨perm, hp, f, hfm, i, hi, rfl⟩, hc⟩
    exact ⟨perm, hp, f, hfm, i, hi, by rw [if_pos hc]⟩

/-- the test, on a column of the enumerated form: the part below the fill block uses one material -/
theorem single_test_iff {indices fills low : List Nat} {i f : Nat} (hfm : f ∈ fills)
    (hlow : ∀ x ∈ low, x ∈ indices ∧ x ∉ fills) :
    (distinctCount (low ++ List.replicate i f) = 1 ||
      decide (distinctCount ((low ++ List.replicate i f).filter fun x => !fills.contains x) ≤ 1)) = true
      ↔ ∀ x ∈ low, ∀ y ∈ low, x = y := by
  have hfil : (low ++ List.replicate i f).filter (fun x => !fills.contains x) = low := by
    rw [List.filter_append, List.filter_eq_self.mpr fun x hx => by simpa using (hlow x hx).2,
      List.filter_eq_nil_iff.mpr fun x hx => by simp [(List.mem_replicate.mp hx).2, hfm], List.append_nil]
  simp only [hfil, Bool.or_eq_true, decide_eq_true_eq, distinct_le_one low]
  refine ⟨fun h => h.elim (fun h x hx y hy => ?_) id, .inr⟩
  exact (distinct_le_one _).mp (Nat.le_of_eq h) x (List.mem_append_left _ hx) y (List.mem_append_left _ hy)

/-- **single_polymer_columns: sound and complete** -/
theorem C24_enumCols_single_sound_complete (L : Nat) (indices fills : List Nat) (hv : ∃ v ∈ indices, v ∉ fills)
    (hf : fills ≠ []) (col : List Nat) :
    col ∈ enumCols true L indices fills ↔ ColOKSingle L indices fills col := by
  rw [mem_enumCols_true L indices fills hf, C24_enumCols_sound_complete L indices fills hv]
  constructor
  · rintro ⟨⟨f, hfm, i, hi, low, hl, hm, rfl⟩, hc⟩
    exact ⟨f, hfm, i, hi, low, hl, hm, (single_test_iff hfm hm).mp hc, rfl⟩
  · rintro ⟨f, hfm, i, hi, low, hl, hm, hsame, rfl⟩
    exact ⟨⟨f, hfm, i, hi, low, hl, hm, rfl⟩, (single_test_iff hfm hm).mpr hsame⟩

/-! ### non-vacuity -/

-- the hypotheses of the enumeration theorems hold for the way PillarDiscretization calls them (materials 0..n-1,
-- one background index), and the enumeration is what one expects on a small case
example : (∃ v ∈ [0, 1, 2], v ∉ [0]) ∧ ([0] : List Nat) ≠ [] := ⟨⟨1, by simp, by simp⟩, by simp⟩
example : enumCols false 2 [0, 1, 2] [0] = [[1, 1], [1, 0], [0, 0], [1, 2], [1, 0], [0, 0], [2, 1], [2, 0], [0, 0], [2, 2], [2, 0], [0, 0]] := by decide +kernel
example : (enumCols true 3 [0, 1, 2] [0]).eraseDups =
    [[1, 1, 1], [1, 1, 0], [1, 0, 0], [0, 0, 0], [2, 0, 0], [2, 2, 0], [2, 2, 2]] := by decide +kernel
example : ColOKSingle 3 [0, 1, 2] [0] [2, 2, 0] := ⟨0, by simp, 1, by omega, [2, 2], rfl, by simp, by simp, rfl⟩
-- rounding: a tie exists only for even volumes and goes to 0 (half-to-even)
example : roundHE 2 4 = 0 ∧ roundHE 3 4 = 1 ∧ roundHE 13 27 = 0 ∧ roundHE 14 27 = 1 := by decide +kernel
-- argmin picks the first of two equal minima
example : argminFirst [3, 1, 2, 1] = 1 := by decide
-- a 3×1×1 volume 1,0,1 with kernel 3 and constant-1 padding of width 1 (padded: 1,1,0,1,1): every window of three holds
-- two ones, so the output is all ones
example : toBits ⟨3, 1, 1⟩ (median ⟨3, 1, 1⟩ (ofBits ⟨3, 1, 1⟩ #[true, false, true])
    ⟨3, 1, 1, [⟨1, .constant true⟩, ⟨1, .constant true⟩, ⟨0, .edge⟩, ⟨0, .edge⟩, ⟨0, .edge⟩, ⟨0, .edge⟩]⟩) = "111" := by decide +kernel

end Fdtdx.C24
