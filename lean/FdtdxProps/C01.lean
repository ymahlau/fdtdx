/-
C01 — Discrete electromagnetic energy is conserved, and lossy media only dissipate.

About the shared Yee model (`FdtdxModel/Yee.lean`, energy `Q` in `FdtdxModel/C01.lean`), for every grid shape, every
mix of zero-halo / periodic / PEC / PMC faces, every metric (non-uniform widths), every diagonal (or isotropic) ε, μ
with ε·ε⁻¹ = μ·μ⁻¹ = 1 and every field state satisfying the walls, over any field `K`: the source-free lossless step
leaves `Q` unchanged (`C01_energy_conserved`, any number of steps `C01_energy_steps`); with electric conductivity `Q`
changes by exactly `−⟨a·ε·(E'+E), E'+E⟩`, `a = c·σ·η₀·ε⁻¹/2` (`C01_lossy_decrement`), which over an ordered field
with σ, c, η₀, widths ≥ 0 is a decrease (`C01_lossy_nonincreasing`).  `forward` keeps the wall conditions
(`C01_walls_preserved`), so the hypotheses hold again after a step.

The balance of one step is proved once, for the pairings `Σ vol·σ(A)·B` of any involutive ring homomorphism `σ`
that fixes the real data (`energy_balance_hom`, from the per-cell identities `magH_pt`, `elecE_pt` and the curl
adjointness); `energy_balance` is the case `σ = id`, the sign of the dissipation is `dissipation_nonneg`.

Bloch phases (complex fields, sesquilinear energy, `σ = star`): `FdtdxProps/C01Bloch.lean` (conservation, exact
lossy balance) and `FdtdxProps/C01BlochLossy.lean` (dissipation ≥ 0, non-increase over any number of steps).
-/
import FdtdxLemmas.CurlAdjoint
import Mathlib.Algebra.Order.Field.Basic
import Mathlib.Algebra.Order.BigOperators.Ring.Finset

open Finset
namespace Fdtdx.C01
open Fdtdx Fdtdx.Yee

section
variable {K : Type} [Field K]

/-- a state satisfies the walls: tangential E vanishes on PEC layers, tangential H on PMC layers -/
structure WallOK (cf : Cfg K) (E H : V3 K) : Prop where
  ex : ∀ i j k, pecMask cf 0 i j k = true → E.x i j k = 0
  ey : ∀ i j k, pecMask cf 1 i j k = true → E.y i j k = 0
  ez : ∀ i j k, pecMask cf 2 i j k = true → E.z i j k = 0
  hx : ∀ i j k, pmcMask cf 0 i j k = true → H.x i j k = 0
  hy : ∀ i j k, pmcMask cf 1 i j k = true → H.y i j k = 0
  hz : ∀ i j k, pmcMask cf 2 i j k = true → H.z i j k = 0

/-- ε, μ are the inverses of the stored inverse permittivity / permeability -/
structure MatOK (m : Mat K) (eps mu : V3 K) : Prop where
  ex : ∀ i j k, eps.x i j k * m.invEps.x i j k = 1
  ey : ∀ i j k, eps.y i j k * m.invEps.y i j k = 1
  ez : ∀ i j k, eps.z i j k * m.invEps.z i j k = 1
  mx : ∀ i j k, mu.x i j k * m.invMu.x i j k = 1
  my : ∀ i j k, mu.y i j k * m.invMu.y i j k = 1
  mz : ∀ i j k, mu.z i j k * m.invMu.z i j k = 1

def zeroV : V3 K := constV 0

/-- **C01_curl_adjoint** (re-exported): the two curls are mutual adjoints. -/
theorem C01_curl_adjoint (cf : Cfg K) (W : Widths K) (ref : K) (hm : MetricOK cf W ref) (hh : HalosReal cf)
    (H G : V3 K) : pairH cf W H (curlE cf G) = pairE cf W (curlH cf H) G :=
  curl_adjoint cf W ref hm hh H G

private theorem updE1_none (c eta0 e cu ie : K) : updE1 c eta0 e cu ie none = e + c * cu * ie := rfl
private theorem updH1_none (c eta0 h cu im : K) : updH1 c eta0 h cu im none = h - c * cu * im := rfl

/-- the source-free electric half step with loss factor `a` per component, `(1+a)·E' = (1−a)·E + c·curlH H·ε⁻¹`,
followed by the PEC walls (`a = 0`: no conductivity; `a = c·σ·η₀·ε⁻¹/2`: the semi-implicit conductivity update) -/
def semiE (cf : Cfg K) (m : Mat K) (aE E H : V3 K) : V3 K :=
  maskV (pecMask cf)
    { x := fun i j k =>
        ((1 - aE.x i j k) * E.x i j k + cf.c * (curlH cf H).x i j k * m.invEps.x i j k) / (1 + aE.x i j k)
      y := fun i j k =>
        ((1 - aE.y i j k) * E.y i j k + cf.c * (curlH cf H).y i j k * m.invEps.y i j k) / (1 + aE.y i j k)
      z := fun i j k =>
        ((1 - aE.z i j k) * E.z i j k + cf.c * (curlH cf H).z i j k * m.invEps.z i j k) / (1 + aE.z i j k) }

/-- the source-free magnetic half step without magnetic conductivity, followed by the PMC walls -/
def leapH (cf : Cfg K) (m : Mat K) (E H : V3 K) : V3 K :=
  maskV (pmcMask cf)
    { x := fun i j k => H.x i j k - cf.c * (curlE cf E).x i j k * m.invMu.x i j k
      y := fun i j k => H.y i j k - cf.c * (curlE cf E).y i j k * m.invMu.y i j k
      z := fun i j k => H.z i j k - cf.c * (curlE cf E).z i j k * m.invMu.z i j k }

theorem stepH_lossless (cf : Cfg K) (m : Mat K) (E H : V3 K) (hsH : m.sigH = none) :
    stepH cf m zeroV E H = leapH cf m E H := by
  simp only [stepH, leapH, projH, addV, zeroV, constV, hsH, Option.map_none, optAt, updH1_none, add_zero]

theorem stepE_lossless (cf : Cfg K) (m : Mat K) (E H : V3 K) (hsE : m.sigE = none) :
    stepE cf m zeroV E H = semiE cf m (constV 0) E H := by
  simp only [stepE, semiE, projE, addV, zeroV, constV, hsE, Option.map_none, optAt, updE1_none, add_zero,
    sub_zero, one_mul, div_one]

/-- loss factor of the semi-implicit conductivity update, `c·σ·η₀·ε⁻¹/2` per component -/
def lossFactor (cf : Cfg K) (m : Mat K) (sig : V3 K) : V3 K where
  x := fun i j k => cf.c * sig.x i j k * cf.eta0 * m.invEps.x i j k / 2
  y := fun i j k => cf.c * sig.y i j k * cf.eta0 * m.invEps.y i j k / 2
  z := fun i j k => cf.c * sig.z i j k * cf.eta0 * m.invEps.z i j k / 2

theorem lossFactor_fixed (σ : K →+* K) (cf : Cfg K) (m : Mat K) (sig : V3 K) (hc : σ cf.c = cf.c)
    (heta : σ cf.eta0 = cf.eta0) (hie : FixV σ m.invEps) (hsig : FixV σ sig) : FixV σ (lossFactor cf m sig) := by
  have h : ∀ s ie : K, σ s = s → σ ie = ie → σ (cf.c * s * cf.eta0 * ie / 2) = cf.c * s * cf.eta0 * ie / 2 :=
    fun s ie hs hi => by rw [map_div₀, map_mul, map_mul, map_mul, hc, hs, heta, hi, map_ofNat]
  exact ⟨fun i j k => h _ _ (hsig.x i j k) (hie.x i j k), fun i j k => h _ _ (hsig.y i j k) (hie.y i j k),
    fun i j k => h _ _ (hsig.z i j k) (hie.z i j k)⟩

theorem stepE_lossy (cf : Cfg K) (m : Mat K) (E H sig : V3 K) (hsE : m.sigE = some sig) :
    stepE cf m zeroV E H = semiE cf m (lossFactor cf m sig) E H := by
  simp only [stepE, semiE, projE, addV, zeroV, constV, hsE, Option.map_some, optAt, updE1, lossFactor, add_zero]

theorem forward_eq (cf : Cfg K) (m : Mat K) (aE E H : V3 K) (hsH : m.sigH = none)
    (hE : stepE cf m zeroV E H = semiE cf m aE E H) :
    forward cf m zeroV zeroV E H = (semiE cf m aE E H, leapH cf m (semiE cf m aE E H) H) := by
  rw [forward, hE, stepH_lossless cf m _ H hsH]

/-! ### the energy balance for a general conjugation `σ`

`σ` is an involutive ring homomorphism that fixes everything that is real in the code (`σ = id` for real fields,
`σ = star` for Bloch phases).  With the pairings `⟨A,B⟩ = Σ vol·σ(A)·B` the quantity
`Q = ⟨εE,E⟩ + ⟨μH,H⟩ + c⟨H,curlE E⟩` obeys `Q' = Q − ⟨a·ε·G,G⟩ + R`, `G = E'+E`, with a remainder `R` that
changes sign under `σ`: it vanishes for `σ = id` (symmetric pairings) and drops out of `(Q + σ Q)/2` for `σ = star`. -/

/-- `σ` is a conjugation that fixes the data that are real in the code: Courant number, cell volumes, materials -/
structure FixedData (σ : K →+* K) (cf : Cfg K) (W : Widths K) (m : Mat K) (eps mu : V3 K) : Prop where
  invol : ∀ x, σ (σ x) = x
  c : σ cf.c = cf.c
  volH : FixV σ (volH W)
  volE : FixV σ (volE W)
  eps : FixV σ eps
  invEps : FixV σ m.invEps
  mu : FixV σ mu
  invMu : FixV σ m.invMu

theorem FixedData.id (cf : Cfg K) (W : Widths K) (m : Mat K) (eps mu : V3 K) :
    FixedData (RingHom.id K) cf W m eps mu :=
  ⟨fun _ => rfl, rfl, FixV.id _, FixV.id _, FixV.id _, FixV.id _, FixV.id _, FixV.id _⟩

/-- `Q = ⟨εE,E⟩ + ⟨μH,H⟩ + c⟨H,curlE E⟩` for the pairings of `σ`; the model's `energy` is the case `σ = id` -/
def energyW (σ : K →+* K) (cf : Cfg K) (W : Widths K) (eps mu E H : V3 K) : K :=
  pairW σ cf (volE W) (mulV eps E) E + pairW σ cf (volH W) (mulV mu H) H
    + cf.c * pairW σ cf (volH W) H (curlE cf E)

theorem energy_eq (cf : Cfg K) (W : Widths K) (eps mu E H : V3 K) :
    energy cf W eps mu E H = energyW (RingHom.id K) cf W eps mu E H := by
  rw [energy, energyW, pairE_eq, pairH_eq, pairH_eq]

/-- the magnetic half step at one cell: `h' = h − c·x·ν` (0 on a PMC wall, where `h = 0` already), `μ·ν = 1` -/
theorem magH_pt (σ : K →+* K) {mu nu c h : K} (x h' : K) {msk : Bool} (hmn : mu * nu = 1) (hc : σ c = c)
    (hmu : σ mu = mu) (hnu : σ nu = nu) (hwall : msk = true → h = 0)
    (hv : h' = if msk then 0 else h - c * x * nu) :
    σ (mu * h') * h' + c * (σ h' * x) = σ (mu * h) * h - c * (σ x * h) := by
  cases msk with
  | true => simp only [hv, if_true, hwall rfl, map_zero, mul_zero, zero_mul, add_zero, sub_zero]
  | false =>
    simp only [hv, Bool.false_eq_true, if_false, map_sub, map_mul, hc, hmu, hnu]
    linear_combination (-c * (σ h * x) - c * (σ x * h) + c ^ 2 * σ x * x * nu) * hmn

/-- the electric half step at one cell: `(1+a)·e' = (1−a)·e + c·y·ν` (0 on a PEC wall), `ε·ν = 1` -/
theorem elecE_pt (σ : K →+* K) {eps nu a e : K} (c y e' : K) {msk : Bool} (hen : eps * nu = 1) (he : σ eps = eps)
    (ha : σ a = a) (hne : 1 + a ≠ 0) (hwall : msk = true → e = 0)
    (hv : e' = if msk then 0 else ((1 - a) * e + c * y * nu) / (1 + a)) :
    σ (eps * e') * e' - σ (eps * e) * e
      = c * (σ (e' + e) * y) - σ (a * eps * (e' + e)) * (e' + e) - (σ (eps * e) * e' - σ (eps * e') * e) := by
  cases msk with
  | true => simp only [hv, if_true, hwall rfl, map_zero, mul_zero, zero_mul, add_zero, sub_zero]
  | false =>
    have h1 : (1 + a) * e' = (1 - a) * e + c * y * nu := by
      rw [hv, if_neg Bool.false_ne_true, mul_div_cancel₀ _ hne]
    simp only [map_add, map_mul, he, ha]
    linear_combination (eps * (σ e' + σ e)) * h1 + (c * (σ e' + σ e) * y) * hen

theorem magH_comp (σ : K →+* K) (cf : Cfg K) (w : F3 K) {mu nu h : F3 K} (x h' : F3 K) {c : K}
    {msk : Nat → Nat → Nat → Bool} (hmn : ∀ i j k, mu i j k * nu i j k = 1) (hc : σ c = c)
    (hmu : ∀ i j k, σ (mu i j k) = mu i j k) (hnu : ∀ i j k, σ (nu i j k) = nu i j k)
    (hwall : ∀ i j k, msk i j k = true → h i j k = 0)
    (hv : ∀ i j k, h' i j k = if msk i j k then 0 else h i j k - c * x i j k * nu i j k) :
    pair1 σ cf w (fun i j k => mu i j k * h' i j k) h' + c * pair1 σ cf w h' x
      = pair1 σ cf w (fun i j k => mu i j k * h i j k) h - c * pair1 σ cf w x h := by
  rw [pair1, pair1, pair1, pair1, ← sum3_mul_left, ← sum3_mul_left, ← sum3_add, ← sum3_sub]
  refine sum3_congr _ _ _ _ _ fun i j k _ _ _ => ?_
  linear_combination w i j k *
    magH_pt σ (x i j k) (h' i j k) (hmn i j k) hc (hmu i j k) (hnu i j k) (hwall i j k) (hv i j k)

theorem elecE_comp (σ : K →+* K) (cf : Cfg K) (w : F3 K) {eps nu a e : F3 K} (c : K) (y e' : F3 K)
    {msk : Nat → Nat → Nat → Bool} (hen : ∀ i j k, eps i j k * nu i j k = 1)
    (he : ∀ i j k, σ (eps i j k) = eps i j k) (ha : ∀ i j k, σ (a i j k) = a i j k)
    (hne : ∀ i j k, 1 + a i j k ≠ 0) (hwall : ∀ i j k, msk i j k = true → e i j k = 0)
    (hv : ∀ i j k, e' i j k
      = if msk i j k then 0 else ((1 - a i j k) * e i j k + c * y i j k * nu i j k) / (1 + a i j k)) :
    pair1 σ cf w (fun i j k => eps i j k * e' i j k) e' - pair1 σ cf w (fun i j k => eps i j k * e i j k) e
      = c * pair1 σ cf w (fun i j k => e' i j k + e i j k) y
        - pair1 σ cf w (fun i j k => a i j k * eps i j k * (e' i j k + e i j k)) (fun i j k => e' i j k + e i j k)
        - (pair1 σ cf w (fun i j k => eps i j k * e i j k) e'
            - pair1 σ cf w (fun i j k => eps i j k * e' i j k) e) := by
  simp only [pair1]
  rw [← sum3_mul_left, ← sum3_sub, ← sum3_sub, ← sum3_sub, ← sum3_sub]
  refine sum3_congr _ _ _ _ _ fun i j k _ _ _ => ?_
  linear_combination w i j k *
    elecE_pt σ c (y i j k) (e' i j k) (hen i j k) (he i j k) (ha i j k) (hne i j k) (hwall i j k) (hv i j k)

/-- one source-free step `E' = semiE a E H`, `H' = leapH E' H` -/
theorem energy_balance_hom (σ : K →+* K) (cf : Cfg K) (W : Widths K) (m : Mat K) (eps mu E H : V3 K)
    (hadj : ∀ A B, pairW σ cf (volH W) A (curlE cf B) = pairW σ cf (volE W) (curlH cf A) B)
    (hf : FixedData σ cf W m eps mu) (hmat : MatOK m eps mu) (hw : WallOK cf E H)
    (aE : V3 K) (ha : FixV σ aE)
    (hne : ∀ i j k, 1 + aE.x i j k ≠ 0 ∧ 1 + aE.y i j k ≠ 0 ∧ 1 + aE.z i j k ≠ 0) :
    energyW σ cf W eps mu (semiE cf m aE E H) (leapH cf m (semiE cf m aE E H) H)
      = energyW σ cf W eps mu E H
        - pairW σ cf (volE W) (mulV (mulV aE eps) (addV (semiE cf m aE E H) E)) (addV (semiE cf m aE E H) E)
        + cf.c * (pairW σ cf (volH W) (curlE cf E) H - pairW σ cf (volH W) H (curlE cf E))
        - (pairW σ cf (volE W) (mulV eps E) (semiE cf m aE E H)
            - pairW σ cf (volE W) (mulV eps (semiE cf m aE E H)) E) := by
  set E' := semiE cf m aE E H
  -- the conjugate of the adjointness, for `E'` and for `E`
  have hadj' : ∀ B, pairW σ cf (volE W) B (curlH cf H) = pairW σ cf (volH W) (curlE cf B) H := fun B => by
    have h := congrArg σ (hadj H B)
    rwa [pairW_conj σ cf _ hf.invol hf.volH, pairW_conj σ cf _ hf.invol hf.volE, eq_comm] at h
  have stepD : pairW σ cf (volE W) (addV E' E) (curlH cf H)
      = pairW σ cf (volH W) (curlE cf E') H + pairW σ cf (volH W) (curlE cf E) H := by
    rw [pairW_add_left, hadj', hadj']
  -- the magnetic and the electric half step, component by component
  have mx := magH_comp σ cf (volH W).x (curlE cf E').x (leapH cf m E' H).x hmat.mx hf.c hf.mu.x hf.invMu.x hw.hx
    fun _ _ _ => rfl
  have my := magH_comp σ cf (volH W).y (curlE cf E').y (leapH cf m E' H).y hmat.my hf.c hf.mu.y hf.invMu.y hw.hy
    fun _ _ _ => rfl
  have mz := magH_comp σ cf (volH W).z (curlE cf E').z (leapH cf m E' H).z hmat.mz hf.c hf.mu.z hf.invMu.z hw.hz
    fun _ _ _ => rfl
  have ex := elecE_comp σ cf (volE W).x cf.c (curlH cf H).x E'.x hmat.ex hf.eps.x ha.x (fun i j k => (hne i j k).1)
    hw.ex fun _ _ _ => rfl
  have ey := elecE_comp σ cf (volE W).y cf.c (curlH cf H).y E'.y hmat.ey hf.eps.y ha.y (fun i j k => (hne i j k).2.1)
    hw.ey fun _ _ _ => rfl
  have ez := elecE_comp σ cf (volE W).z cf.c (curlH cf H).z E'.z hmat.ez hf.eps.z ha.z (fun i j k => (hne i j k).2.2)
    hw.ez fun _ _ _ => rfl
  simp only [energyW, pairW_eq_pair1, mulV, addV] at stepD ⊢
  linear_combination mx + my + mz + ex + ey + ez + cf.c * stepD

/-- exact energy balance of one source-free step whose electric half is the semi-implicit update with loss factor
`aE` per component (`c·σ·η₀·ε⁻¹/2` with conductivity, 0 without): `energy_balance_hom` at `σ = id`. -/
theorem energy_balance (cf : Cfg K) (W : Widths K) (ref : K) (m : Mat K) (eps mu : V3 K) (E H : V3 K)
    (hm : MetricOK cf W ref) (hh : HalosReal cf) (hmat : MatOK m eps mu) (hw : WallOK cf E H)
    (hsH : m.sigH = none) (aE : V3 K)
    (hne : ∀ i j k, 1 + aE.x i j k ≠ 0 ∧ 1 + aE.y i j k ≠ 0 ∧ 1 + aE.z i j k ≠ 0)
    (hE : stepE cf m zeroV E H = semiE cf m aE E H) :
    energy cf W eps mu (forward cf m zeroV zeroV E H).1 (forward cf m zeroV zeroV E H).2
      = energy cf W eps mu E H
        - pairE cf W (mulV (mulV aE eps) (addV (forward cf m zeroV zeroV E H).1 E))
            (addV (forward cf m zeroV zeroV E H).1 E) := by
  have h := energy_balance_hom (RingHom.id K) cf W m eps mu E H (curl_adjoint cf W ref hm hh)
    (FixedData.id cf W m eps mu) hmat hw aE (FixV.id aE) hne
  rw [forward_eq cf m aE E H hsH hE, energy_eq, energy_eq, pairE_eq]
  -- the remainder vanishes: the bilinear pairings are symmetric
  rwa [pairW_comm cf _ (curlE cf E) H, sub_self, mul_zero, add_zero, pairW_comm cf _ (mulV eps E),
    pairW_mulV_right _ cf _ eps (FixV.id eps), sub_self, sub_zero] at h

theorem wallOK_proj (cf : Cfg K) (A B : V3 K) : WallOK cf (projE cf A) (projH cf B) :=
  ⟨fun _ _ _ h => if_pos h, fun _ _ _ h => if_pos h, fun _ _ _ h => if_pos h, fun _ _ _ h => if_pos h,
    fun _ _ _ h => if_pos h, fun _ _ _ h => if_pos h⟩

/-- the step keeps the wall conditions, so every hypothesis of the balance holds again after a step -/
theorem C01_walls_preserved (cf : Cfg K) (m : Mat K) (jE jH : V3 K) (E H : V3 K) :
    WallOK cf (forward cf m jE jH E H).1 (forward cf m jE jH E H).2 :=
  wallOK_proj cf _ _

/-- **C01_energy_conserved**: in a closed (zero halo / periodic / PEC / PMC), source-free, lossless domain the
discrete energy after a step equals the energy before it — any shape, any metric, any diagonal ε, μ. -/
theorem C01_energy_conserved (cf : Cfg K) (W : Widths K) (ref : K) (m : Mat K) (eps mu : V3 K) (E H : V3 K)
    (hm : MetricOK cf W ref) (hh : HalosReal cf) (hmat : MatOK m eps mu) (hw : WallOK cf E H)
    (hsE : m.sigE = none) (hsH : m.sigH = none) :
    energy cf W eps mu (forward cf m zeroV zeroV E H).1 (forward cf m zeroV zeroV E H).2
      = energy cf W eps mu E H := by
  rw [energy_balance cf W ref m eps mu E H hm hh hmat hw hsH (constV 0)
    (fun _ _ _ => by simp only [constV, add_zero, ne_eq, one_ne_zero, not_false_eq_true, and_self])
    (stepE_lossless cf m E H hsE), pairE_eq, pairW_zero_mulV, sub_zero]

def run (cf : Cfg K) (m : Mat K) : Nat → V3 K × V3 K → V3 K × V3 K
  | 0, s => s
  | n + 1, s => let s' := run cf m n s; forward cf m zeroV zeroV s'.1 s'.2

/-- induction over `run`: a property of the state that every step from a wall-satisfying state keeps holds after any
number of steps, and the walls stay satisfied -/
theorem run_invariant (cf : Cfg K) (m : Mat K) (P : V3 K → V3 K → Prop)
    (hstep : ∀ E H, WallOK cf E H → P E H → P (forward cf m zeroV zeroV E H).1 (forward cf m zeroV zeroV E H).2)
    {E H : V3 K} (h0 : P E H) (hw : WallOK cf E H) (n : Nat) :
    P (run cf m n (E, H)).1 (run cf m n (E, H)).2 ∧ WallOK cf (run cf m n (E, H)).1 (run cf m n (E, H)).2 := by
  induction n with
  | zero => exact ⟨h0, hw⟩
  | succ n ih => exact ⟨hstep _ _ ih.2 ih.1, C01_walls_preserved cf m zeroV zeroV _ _⟩

/-- **C01_energy_steps**: the energy is the same after every number of steps. -/
theorem C01_energy_steps (cf : Cfg K) (W : Widths K) (ref : K) (m : Mat K) (eps mu : V3 K) (E H : V3 K)
    (hm : MetricOK cf W ref) (hh : HalosReal cf) (hmat : MatOK m eps mu) (hw : WallOK cf E H)
    (hsE : m.sigE = none) (hsH : m.sigH = none) (n : Nat) :
    energy cf W eps mu (run cf m n (E, H)).1 (run cf m n (E, H)).2 = energy cf W eps mu E H
      ∧ WallOK cf (run cf m n (E, H)).1 (run cf m n (E, H)).2 :=
  run_invariant cf m (fun E' H' => energy cf W eps mu E' H' = energy cf W eps mu E H)
    (fun E' H' hw' h => (C01_energy_conserved cf W ref m eps mu E' H' hm hh hmat hw' hsE hsH).trans h) rfl hw n

/-- **C01_lossy_decrement**: with electric conductivity σ the energy changes by exactly
`− ⟨a·ε·(E'+E), E'+E⟩`, `a = c·σ·η₀·ε⁻¹/2`, provided the update's divisor `1 + a` is non-zero. -/
theorem C01_lossy_decrement (cf : Cfg K) (W : Widths K) (ref : K) (m : Mat K) (eps mu : V3 K) (E H : V3 K)
    (sig : V3 K)
    (hm : MetricOK cf W ref) (hh : HalosReal cf) (hmat : MatOK m eps mu) (hw : WallOK cf E H)
    (hsE : m.sigE = some sig) (hsH : m.sigH = none)
    (hdiv : ∀ i j k, 1 + (lossFactor cf m sig).x i j k ≠ 0 ∧ 1 + (lossFactor cf m sig).y i j k ≠ 0
      ∧ 1 + (lossFactor cf m sig).z i j k ≠ 0) :
    energy cf W eps mu (forward cf m zeroV zeroV E H).1 (forward cf m zeroV zeroV E H).2
      = energy cf W eps mu E H
        - pairE cf W (mulV (mulV (lossFactor cf m sig) eps) (addV (forward cf m zeroV zeroV E H).1 E))
            (addV (forward cf m zeroV zeroV E H).1 E) :=
  energy_balance cf W ref m eps mu E H hm hh hmat hw hsH (lossFactor cf m sig) hdiv (stepE_lossy cf m E H sig hsE)

end

section ordered
variable {K : Type} [Field K] [PartialOrder K] [IsOrderedRing K]

theorem sum3_nonneg (nx ny nz : Nat) (f : F3 K) (h : ∀ i j k, 0 ≤ f i j k) : 0 ≤ sum3 nx ny nz f := by
  rw [sum3_eq]
  exact sum_nonneg fun i _ => sum_nonneg fun j _ => sum_nonneg fun k _ => h i j k

/-- the dissipation term `⟨a·ε·G, G⟩` is a sum of non-negative terms (`a·ε = c·σ·η₀/2 ≥ 0`, weights ≥ 0,
`σ g · g ≥ 0`), for every field `G`; `σ` fixes the non-negative elements. -/
theorem dissipation_nonneg (σ : K →+* K) (hpos : ∀ g, 0 ≤ σ g * g) (hfix : ∀ q, 0 ≤ q → σ q = q)
    (half : (0 : K) ≤ 2⁻¹) (cf : Cfg K) (ω : V3 K) (m : Mat K) (eps mu sig G : V3 K) (hmat : MatOK m eps mu)
    (hω : ∀ i j k, 0 ≤ ω.x i j k ∧ 0 ≤ ω.y i j k ∧ 0 ≤ ω.z i j k) (hc : 0 ≤ cf.c) (heta : 0 ≤ cf.eta0)
    (hsig : ∀ i j k, 0 ≤ sig.x i j k ∧ 0 ≤ sig.y i j k ∧ 0 ≤ sig.z i j k) :
    0 ≤ pairW σ cf ω (mulV (mulV (lossFactor cf m sig) eps) G) G := by
  have term : ∀ w s ie e g : K, 0 ≤ w → 0 ≤ s → e * ie = 1 →
      0 ≤ w * (σ (cf.c * s * cf.eta0 * ie / 2 * e * g) * g) := by
    intro w s ie e g hw hs he
    have hq : 0 ≤ cf.c * s * cf.eta0 * 2⁻¹ := mul_nonneg (mul_nonneg (mul_nonneg hc hs) heta) half
    have hae : cf.c * s * cf.eta0 * ie / 2 * e = cf.c * s * cf.eta0 * 2⁻¹ := by
      linear_combination (cf.c * s * cf.eta0 / 2) * he
    rw [hae, map_mul, hfix _ hq, mul_assoc]
    exact mul_nonneg hw (mul_nonneg hq (hpos g))
  refine sum3_nonneg _ _ _ _ fun i j k => add_nonneg (add_nonneg ?_ ?_) ?_
  · exact term _ _ _ _ _ (hω i j k).1 (hsig i j k).1 (hmat.ex i j k)
  · exact term _ _ _ _ _ (hω i j k).2.1 (hsig i j k).2.1 (hmat.ey i j k)
  · exact term _ _ _ _ _ (hω i j k).2.2 (hsig i j k).2.2 (hmat.ez i j k)

end ordered

section ordered
variable {K : Type} [Field K] [LinearOrder K] [IsStrictOrderedRing K]

structure WidthsNonneg (W : Widths K) : Prop where
  wx : ∀ i, 0 ≤ W.wx i
  wy : ∀ i, 0 ≤ W.wy i
  wz : ∀ i, 0 ≤ W.wz i
  dx : ∀ i, 0 ≤ W.dx i
  dy : ∀ i, 0 ≤ W.dy i
  dz : ∀ i, 0 ≤ W.dz i

/-- **C01_lossy_nonincreasing**: with non-negative electric conductivity (and c, η₀, widths ≥ 0, ε·ε⁻¹ = 1) the
energy never increases from one step to the next. -/
theorem C01_lossy_nonincreasing (cf : Cfg K) (W : Widths K) (ref : K) (m : Mat K) (eps mu : V3 K) (E H : V3 K)
    (sig : V3 K)
    (hm : MetricOK cf W ref) (hh : HalosReal cf) (hmat : MatOK m eps mu) (hw : WallOK cf E H)
    (hsE : m.sigE = some sig) (hsH : m.sigH = none)
    (hdiv : ∀ i j k, 1 + (lossFactor cf m sig).x i j k ≠ 0 ∧ 1 + (lossFactor cf m sig).y i j k ≠ 0
      ∧ 1 + (lossFactor cf m sig).z i j k ≠ 0)
    (hW : WidthsNonneg W) (hc : 0 ≤ cf.c) (heta : 0 ≤ cf.eta0)
    (hsig : ∀ i j k, 0 ≤ sig.x i j k ∧ 0 ≤ sig.y i j k ∧ 0 ≤ sig.z i j k) :
    energy cf W eps mu (forward cf m zeroV zeroV E H).1 (forward cf m zeroV zeroV E H).2
      ≤ energy cf W eps mu E H := by
  rw [C01_lossy_decrement cf W ref m eps mu E H sig hm hh hmat hw hsE hsH hdiv, pairE_eq]
  refine sub_le_self _ (dissipation_nonneg (RingHom.id K) mul_self_nonneg (fun _ _ => rfl)
    (inv_nonneg.2 zero_le_two) cf _ m eps mu sig _ hmat (fun i j k => ?_) hc heta hsig)
  exact ⟨mul_nonneg (mul_nonneg (hW.wx i) (hW.dy j)) (hW.dz k),
    mul_nonneg (mul_nonneg (hW.dx i) (hW.wy j)) (hW.dz k), mul_nonneg (mul_nonneg (hW.dx i) (hW.dy j)) (hW.wz k)⟩

end ordered

/-! ### non-vacuity: a concrete 2×3×2 domain (periodic in x, PEC in y, zero halo in z) over ℚ meets every hypothesis -/
section nonvacuous
def exBC (wrap pec : Bool) : AxisBC Rat := ⟨wrap, 1, 1, pec, pec, false, false⟩
def exCfg : Cfg Rat :=
  { nx := 2, ny := 3, nz := 2, bx := exBC true false, by_ := exBC false true, bz := exBC false false,
    sfx := fun _ => 1, sfy := fun _ => 1, sfz := fun _ => 1, sbx := fun _ => 1, sby := fun _ => 1, sbz := fun _ => 1,
    c := 1 / 2, eta0 := 1 }
def exW : Widths Rat := ⟨fun _ => 1, fun _ => 1, fun _ => 1, fun _ => 1, fun _ => 1, fun _ => 1⟩
def exMat : Mat Rat := ⟨constV 2, constV 1, none, none⟩
def exE : V3 Rat := projE exCfg ⟨fun i j k => i + 2 * j + 3 * k + 1, fun i j k => i * j + k + 2, fun _ _ _ => 5⟩
def exH : V3 Rat := ⟨fun i j _ => i - j, fun _ _ k => k + 1, fun i _ _ => 3 - i⟩

example : MetricOK exCfg exW 1 := by constructor <;> intro i <;> simp [exCfg, exW]
example : HalosReal exCfg := by constructor <;> intro _ <;> simp [exCfg, exBC]
example : MatOK exMat (constV (1 / 2)) (constV 1) := by constructor <;> intro i j k <;> norm_num [exMat, constV]
/-- `exE` is a wall projection; `exCfg` has no PMC face, so its PMC masks evaluate to `false` -/
theorem ex_wallOK : WallOK exCfg exE exH :=
  ⟨fun _ _ _ h => if_pos h, fun _ _ _ h => if_pos h, fun _ _ _ h => if_pos h,
    fun _ _ _ h => (Bool.false_ne_true h).elim, fun _ _ _ h => (Bool.false_ne_true h).elim,
    fun _ _ _ h => (Bool.false_ne_true h).elim⟩
example : WallOK exCfg exE exH := ex_wallOK
example : exE.x 1 1 1 = 7 ∧ exE.x 1 0 1 = 0 ∧ exE.y 0 0 1 = 3 := by
  simp [exE, projE, maskV, pecMask, exCfg, exBC, onWall]; norm_num
end nonvacuous

end Fdtdx.C01
