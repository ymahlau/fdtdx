/-
C05 — Forward results do not depend on the gradient strategy; the reversible slice boundaries partition the run.

Theorems about `FdtdxModel/C05.lean`, for every total step count T, every slice count k, every step function `body`
and every container.  Every loop of the model is `forward` iterated: `segmented_forward` (every k ≥ 1, with its
checkpoints after exactly s_1, …, s_{k-1} steps) and the TimeStepCondition while loop both run steps 0, …, T-1 once
each, so `run_fdtd` returns the same (T, arrays) under None / checkpointed(n) / reversible(c) with c = 0 or c + 1 ≤ T;
the other reversible(c) are the error branch.  The boundaries s_i = round(i·T/k) start at 0, end at T, increase weakly
for every k ≥ 1 and strictly for k ≤ T.  Step functions that differ only in state the fields / detectors never read
(boundary recording, `record_boundaries = invertible_optimization`) give the same observable result.

Hypothesis of the model (not of the theorems): Python's binary64 `i*T/k` followed by `round` equals
half-to-even rounding of the exact rational; K checks this exhaustively for T ≤ 40 (thorough 200), all k.
-/
import FdtdxLemmas.C05

namespace Fdtdx.C05

/-! ### the slice boundaries -/

theorem sliceBoundaries_length (T k : Nat) : (sliceBoundaries T k).length = k + 1 := by
  simp [sliceBoundaries]

theorem sliceBoundaries_get (T k i : Nat) (hi : i < (sliceBoundaries T k).length) :
    (sliceBoundaries T k)[i] = boundary T k i := by
  simp [sliceBoundaries]

/-- **C05 (partition)**: for `1 ≤ k ≤ T` the list returned by `_reversible_slice_boundaries(T, k)` has `k+1`
entries, starts at 0, ends at T and is strictly increasing — the k slices are non-empty and tile `[0, T]`. -/
theorem C05_partition (T k : Nat) (hk : 1 ≤ k) (hkT : k ≤ T) :
    (sliceBoundaries T k).length = k + 1
    ∧ (sliceBoundaries T k).head? = some 0
    ∧ (sliceBoundaries T k).getLast? = some T
    ∧ List.Pairwise (· < ·) (sliceBoundaries T k)
    ∧ (∀ i, i < k → boundary T k i < boundary T k (i + 1)) := by
  refine ⟨sliceBoundaries_length T k, ?_, ?_, ?_, fun i _ => boundary_strict_step T k hk hkT i⟩
  · simp [sliceBoundaries, List.range_succ_eq_map, boundary_zero T k hk]
  · simp [sliceBoundaries, List.range_succ, boundary_last T k hk]
  · unfold sliceBoundaries
    rw [List.pairwise_map]
    exact List.pairwise_lt_range.imp (fun hab => strictMono_nat_of_lt_succ (boundary_strict_step T k hk hkT) hab)

/-- the only other input `reversible_fdtd` accepts: no interior checkpoint and an empty run -/
theorem C05_partition_zero : sliceBoundaries 0 1 = [0, 0] := by decide

/-- for every slice count (also the rejected `k > T`): first 0, last T, weakly increasing -/
theorem C05_boundaries_weak (T k : Nat) (hk : 1 ≤ k) :
    boundary T k 0 = 0 ∧ boundary T k k = T ∧ ∀ i j, i ≤ j → boundary T k i ≤ boundary T k j :=
  ⟨boundary_zero T k hk, boundary_last T k hk, boundary_mono T k hk⟩

/-! ### the segmented loop -/

section loops
variable {σ : Type}

theorem segState_eq (b : Nat → Nat) (hb0 : b 0 = 0) (hmono : ∀ i, b i ≤ b (i + 1))
    (body : Nat → σ → σ) (a : σ) (seg : Nat) :
    segState b body (0, a) seg = (step body)^[b seg] (0, a) := by
  induction seg with
  | zero => rw [hb0]; rfl
  | succ seg ih =>
    unfold segState
    rw [ih]
    have hfst : ((step body)^[b seg] (0, a)).1 = b seg := (step_iterate_fst body _ _).trans (Nat.zero_add _)
    rw [whileLoop_until body (b (seg + 1)) _ _ (by rw [hfst]), hfst, ← Function.iterate_add_apply]
    congr 1
    have := hmono seg; omega

/-- **C05 (segmented forward)**: for every T and every slice count k ≥ 1, `segmented_forward` returns exactly
`forward` iterated T times from (0, arrays). -/
theorem C05_segmented_eq_iterate (T k : Nat) (hk : 1 ≤ k) (body : Nat → σ → σ) (a : σ) :
    (segmentedForward T k body a).1 = (step body)^[T] (0, a) := by
  unfold segmentedForward
  simp only
  rw [segState_eq (boundary T k) (boundary_zero T k hk) (fun i => boundary_mono T k hk i _ (Nat.le_succ i)), boundary_last T k hk]

/-- the checkpoints are the arrays after exactly `s_1, …, s_{k-1}` steps -/
theorem C05_checkpoints (T k : Nat) (hk : 1 ≤ k) (body : Nat → σ → σ) (a : σ) :
    (segmentedForward T k body a).2
      = (List.range (k - 1)).map (fun i => ((step body)^[boundary T k (i + 1)] (0, a)).2) := by
  unfold segmentedForward checkpointsOf
  simp only
  apply List.map_congr_left
  intro i _
  rw [segState_eq (boundary T k) (boundary_zero T k hk) (fun i => boundary_mono T k hk i _ (Nat.le_succ i))]

/-- **C05 (checkpointed / no gradient)**: the while loop with TimeStepCondition and `max_steps = T` is
`forward` iterated T times. -/
theorem C05_checkpointed_eq_iterate (T : Nat) (reset : σ → σ) (body : Nat → σ → σ) (a : σ) :
    checkpointedRun T (timeStepCond T) reset body a = (step body)^[T] (0, reset a) :=
  whileLoop_until body T T (0, reset a) (Nat.le_refl T)

/-- "iterated T times from step 0" means: steps 0, 1, …, T-1, once each, in this order; the counter ends at T -/
theorem C05_iterate_eq_foldl (body : Nat → σ → σ) (a : σ) (T : Nat) :
    (step body)^[T] (0, a) = (T, (List.range T).foldl (fun acc t => body t acc) a) := by
  induction T with
  | zero => rfl
  | succ T ih =>
    rw [Function.iterate_succ_apply', ih, List.range_succ, List.foldl_append]
    rfl

/-- inputs that `run_fdtd` accepts without a custom stopping condition -/
def validGrad (T : Nat) : Grad → Prop
  | .none => True
  | .checkpointed _ => True
  | .reversible c => c = 0 ∨ c + 1 ≤ T

/-- **C05 (strategy independence)**: for every gradient configuration that `run_fdtd` accepts (any number of
checkpoints; any number c of reversible checkpoints with c = 0 or c + 1 ≤ T) the returned step count is T and
the returned arrays are the reset container advanced by steps 0 … T-1 — the same value for all of them. -/
theorem C05_strategy_independent (T : Nat) (g : Grad) (hg : validGrad T g)
    (reset : σ → σ) (body : Nat → σ → σ) (a : σ) :
    runFdtd T g none false reset body a
      = .ok (T, (List.range T).foldl (fun acc t => body t acc) (reset a)) := by
  rw [← C05_iterate_eq_foldl]
  cases g with
  | none => exact congrArg Except.ok (C05_checkpointed_eq_iterate T reset body a)
  | checkpointed n => exact congrArg Except.ok (C05_checkpointed_eq_iterate T reset body a)
  | reversible c =>
    have hv : ¬ (c > 0 ∧ c + 1 > T) := by
      unfold validGrad at hg; omega
    simp only [runFdtd, reversibleRun, Bool.false_eq_true, if_false, if_neg hv]
    rw [C05_segmented_eq_iterate T (c + 1) (by omega)]

/-- two accepted configurations give equal results (the property as stated: pairwise equality) -/
theorem C05_strategy_pairwise (T : Nat) (g g' : Grad) (hg : validGrad T g) (hg' : validGrad T g')
    (reset : σ → σ) (body : Nat → σ → σ) (a : σ) :
    runFdtd T g none false reset body a = runFdtd T g' none false reset body a := by
  rw [C05_strategy_independent T g hg, C05_strategy_independent T g' hg']

/-- the rejected reversible configurations are exactly `c > 0 ∧ c + 1 > T` -/
theorem C05_reversible_rejects (T c : Nat) (reset : σ → σ) (body : Nat → σ → σ) (a : σ) :
    (∃ e, runFdtd T (.reversible c) none false reset body a = .error e) ↔ (c > 0 ∧ c + 1 > T) := by
  constructor
  · rintro ⟨e, he⟩
    by_contra hv
    have hg : validGrad T (.reversible c) := by unfold validGrad; omega
    rw [C05_strategy_independent T _ hg] at he
    cases he
  · intro hv
    exact ⟨"num_checkpoints_reversible", by simp [runFdtd, reversibleRun, hv]⟩

/-- a custom stopping condition together with a gradient configuration is rejected -/
theorem C05_stopping_with_gradient_rejected (T n : Nat) (c : Nat × σ → Bool)
    (reset : σ → σ) (body : Nat → σ → σ) (a : σ) :
    runFdtd T (.checkpointed n) (some c) false reset body a = .error "NotImplementedError"
    ∧ runFdtd T (.reversible n) (some c) false reset body a = .error "NotImplementedError" := by
  constructor <;> rfl

/-- **C05 (write-only state)**: the step functions of two strategies may differ in state that is never read
back (`record_boundaries = config.invertible_optimization` writes the recording buffers).  If `obs` (fields,
detector states) of the next state depends only on `obs` of the current one, the observable results agree after
any number of steps. -/
theorem C05_recording_invisible {O : Type} (obs : σ → O) (body body' : Nat → σ → σ)
    (h : ∀ t a a', obs a = obs a' → obs (body t a) = obs (body' t a')) (a a' : σ) (ha : obs a = obs a') (T : Nat) :
    ((step body)^[T] (0, a)).1 = ((step body')^[T] (0, a')).1
    ∧ obs ((step body)^[T] (0, a)).2 = obs ((step body')^[T] (0, a')).2 := by
  rw [C05_iterate_eq_foldl, C05_iterate_eq_foldl]
  refine ⟨rfl, ?_⟩
  simp only
  induction T with
  | zero => exact ha
  | succ T ih =>
    rw [List.range_succ, List.foldl_append, List.foldl_append]
    exact h _ _ _ ih

end loops

/-! ### non-vacuity and samples -/

example : 1 ≤ 4 ∧ 4 ≤ 10 ∧ sliceBoundaries 10 4 = [0, 2, 5, 8, 10] := by decide   -- 2.5 → 2, 7.5 → 8
example : sliceBoundaries 7 7 = [0, 1, 2, 3, 4, 5, 6, 7] := rfl
example : validGrad 10 (.reversible 9) ∧ validGrad 0 (.reversible 0) ∧ ¬ validGrad 3 (.reversible 3) := by
  unfold validGrad; omega
-- the loop really runs: a logging body sees 0..4 under every strategy
example : runFdtd 5 (.reversible 2) none false (fun _ => []) logBody [9] = .ok (5, [0, 1, 2, 3, 4]) := rfl
example : runFdtd 5 (.checkpointed 3) none false (fun _ => []) logBody [9] = .ok (5, [0, 1, 2, 3, 4]) := rfl
-- k > T would give empty slices (and is rejected): the strictness hypothesis k ≤ T is needed
example : sliceBoundaries 2 3 = [0, 1, 1, 2] := rfl

end Fdtdx.C05
