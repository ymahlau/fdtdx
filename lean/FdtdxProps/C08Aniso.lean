/-
C08 — equivariance under cyclic permutation of the axes, any-tier step (`FdtdxModel/YeeAniso.lean`).

`rotM3 / rotT / rotTens / rotMA / rotAW` (`FdtdxModel/C08Aniso.lean`): a 3×3 tensor is relabelled as R·T·Rᵀ, i.e. the nine
components are permuted.  Halo access and the neighbour averages commute with the relabelling by the shape of the
formulas alone (`C08_aniso_avg_equivariant`).  The rest asks three things of the scalars, kept as hypotheses: a sum of three terms may be started one
term later (`h3`: the three terms of a row are summed in a different order in the relabelled scene, so on binary64 the
statement holds up to rounding only), products commute (`hm`), the determinant is invariant under the relabelling
(`hdet`).  `forwardA_rot`, `backwardA_rot` are the step theorems in that form, for every material tier (scalar / 1 / 3 /
9 components, lossy or not); the last section puts a field in (`C08_aniso_step_equivariant` …).
-/
import FdtdxModel.C08Aniso
import FdtdxProps.C08
import Mathlib.Tactic.Ring

namespace Fdtdx.C08
open Fdtdx Fdtdx.Yee Fdtdx.YeeAniso
set_option linter.unusedSectionVars false

/-! ### index bookkeeping and material tiers: no operation of the scalars is involved -/

section
variable {α : Type}

theorem awAx_rot (w : AW α) (ax : Nat) : (rotAW w).ax (rotAx ax) = w.ax ax := by
  match ax with
  | 0 => rfl
  | 1 => rfl
  | n + 2 => rfl

theorem idxAx_rot (ax i j k : Nat) : idxAx (rotAx ax) i j k = idxAx ax j k i := by
  match ax with
  | 0 => rfl
  | 1 => rfl
  | n + 2 => rfl

theorem sigAt_rot (sig : Option (F3 (M3 α))) (i j k : Nat) :
    sigAt (sig.map rotT) i j k = (sigAt sig j k i).map rotM3 := by
  cases sig <;> rfl

/-- the two fields of matrices computed cell by cell from the relabelled tensors, for `f` one of `updMats c η`,
`updMatsRev c η` -/
theorem matsField_rot {f : M3 α → Option (M3 α) → M3 α × M3 α}
    (hf : ∀ m s, f (rotM3 m) (s.map rotM3) = (rotM3 (f m s).1, rotM3 (f m s).2)) (inv : F3 (M3 α))
    (sig : Option (F3 (M3 α))) :
    (fun i j k => (f (rotT inv i j k) (sigAt (sig.map rotT) i j k)).1) = rotT (fun i j k => (f (inv i j k) (sigAt sig i j k)).1)
    ∧ (fun i j k => (f (rotT inv i j k) (sigAt (sig.map rotT) i j k)).2)
        = rotT (fun i j k => (f (inv i j k) (sigAt sig i j k)).2) := by
  constructor <;> funext i j k <;> simp only [rotT, sigAt_rot, hf]

theorem M3ext {a b : M3 α} (h1 : a.xx = b.xx) (h2 : a.xy = b.xy) (h3 : a.xz = b.xz) (h4 : a.yx = b.yx)
    (h5 : a.yy = b.yy) (h6 : a.yz = b.yz) (h7 : a.zx = b.zx) (h8 : a.zy = b.zy) (h9 : a.zz = b.zz) : a = b := by
  cases a; cases b; simp only [M3.mk.injEq]; exact ⟨h1, h2, h3, h4, h5, h6, h7, h8, h9⟩

theorem rotTens_isFull (t : Tens α) : (rotTens t).isFull = t.isFull := by cases t <;> rfl

theorem rotTens_toV3 (t : Tens α) : (rotTens t).toV3 = rotV t.toV3 := by cases t <;> rfl

theorem map_rotTens {β : Type} {f : Tens α → β} {g : β → β} (h : ∀ t, f (rotTens t) = g (f t)) (s : Option (Tens α)) :
    (s.map rotTens).map f = (s.map f).map g := by
  cases s with
  | none => rfl
  | some t => exact congrArg some (h t)

theorem optFull_rotTens (s : Option (Tens α)) : optFull (s.map rotTens) = optFull s := by
  cases s with
  | none => rfl
  | some t => exact rotTens_isFull t

theorem rotMA_fullE (m : MatA α) : (rotMA m).fullE = m.fullE :=
  congrArg₂ (· || ·) (rotTens_isFull m.invEps) (optFull_rotTens m.sigE)

theorem rotMA_fullH (m : MatA α) : (rotMA m).fullH = m.fullH :=
  congrArg₂ (· || ·) (rotTens_isFull m.invMu) (optFull_rotTens m.sigH)

theorem rotMA_diagMat (m : MatA α) : (rotMA m).diagMat = rotM m.diagMat := by
  simp only [MatA.diagMat, rotMA, rotM, rotTens_toV3, map_rotTens (α := α) rotTens_toV3]

variable [OfNat α 0]

theorem rotTens_expand (t : Tens α) : (rotTens t).expand = rotT t.expand := by cases t <;> rfl

end

/-! ### halo access and neighbour averages: no law of the scalars is used -/

section
variable {α : Type} [Add α] [Sub α] [Mul α] [Div α] [OfNat α 0] [OfNat α 1] [OfNat α 2] [OfNat α 4]

/-- Stated for an arbitrary array `g` (`rotF (rotF g)` is `g` relabelled back), so that it rewrites under the binders
of the averages. -/
theorem nextAx_rot (cf : Cfg α) (ax : Nat) (g : F3 α) :
    nextAx (rotC cf) (rotAx ax) g = rotF (nextAx cf ax (rotF (rotF g))) := by
  match ax with
  | 0 => rfl
  | 1 => rfl
  | n + 2 => rfl

theorem prevAx_rot (cf : Cfg α) (ax : Nat) (g : F3 α) :
    prevAx (rotC cf) (rotAx ax) g = rotF (prevAx cf ax (rotF (rotF g))) := by
  match ax with
  | 0 => rfl
  | 1 => rfl
  | n + 2 => rfl

/-- `avg_anisotropic_E_component` / `avg_anisotropic_H_component`, uniform and spacing-weighted: the component and
location indices move on by one -/
theorem C08_aniso_avg_equivariant (cf : Cfg α) (aw : Option (AW α)) (comp loc : Nat) (S : F3 α) :
    avgE (rotC cf) (aw.map rotAW) (rotAx comp) (rotAx loc) (rotF S) = rotF (avgE cf aw comp loc S)
    ∧ avgH (rotC cf) (aw.map rotAW) (rotAx comp) (rotAx loc) (rotF S) = rotF (avgH cf aw comp loc S) := by
  cases aw <;> constructor <;>
    simp only [avgE, avgH, Option.map, nextAx_rot, prevAx_rot, awAx_rot, idxAx_rot] <;> rfl

end

/-! ### sums over the three indices

A row–column product of relabelled matrices, and a row of a relabelled tensor applied to a relabelled field, is the
original sum of three terms taken from the next index on.  That a sum of three may be so rotated (`h3`) is all that is
asked of the scalars here; the cofactors need a commutative product (`hm`). -/

theorem rotM3_mul {α : Type} [Add α] [Mul α] (h3 : ∀ x y z : α, x + y + z = y + z + x) (a b : M3 α) :
    M3.mul (rotM3 a) (rotM3 b) = rotM3 (M3.mul a b) := by
  apply M3ext <;> exact h3 ..

theorem rowsApply_rot {α : Type} [Add α] [Mul α] (h3 : ∀ x y z : α, x + y + z = y + z + x) (avg avg' : Nat → Nat → F3 α → F3 α)
    (havg : ∀ c l S, avg' (rotAx c) (rotAx l) (rotF S) = rotF (avg c l S)) (T : F3 (M3 α)) (V : V3 α) :
    rowsApply avg' (rotT T) (rotV V) = rotV (rowsApply avg T V) := by
  simp only [rowsApply, rotV]
  -- `rotAx c` is a numeral only after unfolding
  erw [havg 0 2, havg 1 2, havg 1 0, havg 2 0, havg 0 1, havg 2 1]
  congr 1 <;> funext i j k <;> exact h3 ..

/-- the cofactors of the relabelled matrix are those of the matrix, with both products commuted -/
theorem rotM3_adj {α : Type} [Sub α] [Mul α] (hm : ∀ x y : α, x * y = y * x) (a : M3 α) : M3.adj (rotM3 a) = rotM3 (M3.adj a) := by
  have h (x y z w : α) : x * y - z * w = y * x - w * z := by rw [hm x, hm z]
  exact M3ext rfl (h ..) (h ..) rfl (h ..) (h ..) rfl (h ..) (h ..)

theorem rotM3_lossMats {α : Type} [Add α] [Sub α] [Mul α] [Div α] [OfNat α 0] [OfNat α 1] [OfNat α 2]
    (h3 : ∀ x y z : α, x + y + z = y + z + x) (c etaF : α) (inv : M3 α) (sig : Option (M3 α)) :
    lossMats c etaF (rotM3 inv) (sig.map rotM3) = (rotM3 (lossMats c etaF inv sig).1, rotM3 (lossMats c etaF inv sig).2) := by
  cases sig with
  | none => rfl
  | some s => simp only [lossMats, Option.map_some, rotM3_mul h3]; rfl

/-! ### update matrices and half steps, given the three laws

`h3`, `hm` and invariance of the determinant under the relabelling (`hdet`) are all the step asks of the scalars. -/

section
variable {α : Type} [Add α] [Sub α] [Mul α] [Div α] [OfNat α 0] [OfNat α 1] [OfNat α 2] [OfNat α 4]
  (h3 : ∀ x y z : α, x + y + z = y + z + x) (hm : ∀ x y : α, x * y = y * x)
  (hdet : ∀ a : M3 α, M3.det (rotM3 a) = M3.det a)
include h3 hm hdet

theorem rotM3_solve (m x : M3 α) : M3.solve (rotM3 m) (rotM3 x) = rotM3 (M3.solve m x) := by
  simp only [M3.solve, rotM3_adj hm, rotM3_mul h3, hdet]; rfl

theorem updMats_rot (c etaF : α) (inv : M3 α) (sig : Option (M3 α)) :
    updMats c etaF (rotM3 inv) (sig.map rotM3)
      = (rotM3 (updMats c etaF inv sig).1, rotM3 (updMats c etaF inv sig).2) := by
  simp only [updMats, rotM3_lossMats h3, rotM3_solve h3 hm hdet]; rfl

theorem updMatsRev_rot (c etaF : α) (inv : M3 α) (sig : Option (M3 α)) :
    updMatsRev c etaF (rotM3 inv) (sig.map rotM3)
      = (rotM3 (updMatsRev c etaF inv sig).1, rotM3 (updMatsRev c etaF inv sig).2) := by
  simp only [updMatsRev, rotM3_lossMats h3, rotM3_solve h3 hm hdet]; rfl

/-! ### the four full-tensor half steps -/

theorem stepEFull_rot (cf : Cfg α) (aw : Option (AW α)) (inv : F3 (M3 α)) (sig : Option (F3 (M3 α))) (jE E H : V3 α) :
    stepEFull (rotC cf) (aw.map rotAW) (rotT inv) (sig.map rotT) (rotV jE) (rotV E) (rotV H)
      = rotV (stepEFull cf aw inv sig jE E H) := by
  obtain ⟨hA, hB⟩ := matsField_rot (updMats_rot h3 hm hdet cf.c cf.eta0) inv sig
  have havg c l S := (C08_aniso_avg_equivariant cf aw c l S).1
  simp only [stepEFull, rotC_c, rotC_eta0]
  rw [C08_curlH_equivariant, hA, hB, rowsApply_rot h3 _ _ havg, rowsApply_rot h3 _ _ havg, addV_rot,
    addV_rot, (C08_walls_equivariant cf _).1]

theorem stepHFull_rot (cf : Cfg α) (aw : Option (AW α)) (inv : F3 (M3 α)) (sig : Option (F3 (M3 α))) (jH E H : V3 α) :
    stepHFull (rotC cf) (aw.map rotAW) (rotT inv) (sig.map rotT) (rotV jH) (rotV E) (rotV H)
      = rotV (stepHFull cf aw inv sig jH E H) := by
  obtain ⟨hA, hB⟩ := matsField_rot (updMats_rot h3 hm hdet cf.c (1 / cf.eta0)) inv sig
  have havg c l S := (C08_aniso_avg_equivariant cf aw c l S).2
  simp only [stepHFull, rotC_c, rotC_eta0]
  rw [C08_curlE_equivariant, hA, hB, rowsApply_rot h3 _ _ havg, rowsApply_rot h3 _ _ havg, subV_rot,
    addV_rot, (C08_walls_equivariant cf _).2]

theorem revStepEFull_rot (cf : Cfg α) (aw : Option (AW α)) (inv : F3 (M3 α)) (sig : Option (F3 (M3 α))) (jE E H : V3 α) :
    revStepEFull (rotC cf) (aw.map rotAW) (rotT inv) (sig.map rotT) (rotV jE) (rotV E) (rotV H)
      = rotV (revStepEFull cf aw inv sig jE E H) := by
  obtain ⟨hA, hB⟩ := matsField_rot (updMatsRev_rot h3 hm hdet cf.c cf.eta0) inv sig
  have havg c l S := (C08_aniso_avg_equivariant cf aw c l S).1
  simp only [revStepEFull, rotC_c, rotC_eta0]
  rw [C08_curlH_equivariant, subV_rot, hA, hB, rowsApply_rot h3 _ _ havg, rowsApply_rot h3 _ _ havg,
    subV_rot, (C08_walls_equivariant cf _).1]

theorem revStepHFull_rot (cf : Cfg α) (aw : Option (AW α)) (inv : F3 (M3 α)) (sig : Option (F3 (M3 α))) (jH E H : V3 α) :
    revStepHFull (rotC cf) (aw.map rotAW) (rotT inv) (sig.map rotT) (rotV jH) (rotV E) (rotV H)
      = rotV (revStepHFull cf aw inv sig jH E H) := by
  obtain ⟨hA, hB⟩ := matsField_rot (updMatsRev_rot h3 hm hdet cf.c (1 / cf.eta0)) inv sig
  have havg c l S := (C08_aniso_avg_equivariant cf aw c l S).2
  simp only [revStepHFull, rotC_c, rotC_eta0]
  rw [C08_curlE_equivariant, subV_rot, hA, hB, rowsApply_rot h3 _ _ havg, rowsApply_rot h3 _ _ havg,
    addV_rot, (C08_walls_equivariant cf _).2]

/-! ### tier dispatch and the step -/

theorem forwardA_rot (cf : Cfg α) (aw : Option (AW α)) (m : MatA α) (jE jH E H : V3 α) :
    forwardA (rotC cf) (aw.map rotAW) (rotMA m) (rotV jE) (rotV jH) (rotV E) (rotV H)
      = (rotV (forwardA cf aw m jE jH E H).1, rotV (forwardA cf aw m jE jH E H).2) := by
  simp only [forwardA, stepEA, stepHA, rotMA_fullE, rotMA_fullH, rotMA_diagMat]
  simp only [rotMA, rotTens_expand, map_rotTens (α := α) rotTens_expand, stepEFull_rot h3 hm hdet,
    stepHFull_rot h3 hm hdet, stepE_rot, stepH_rot, ← apply_ite rotV]

theorem backwardA_rot (cf : Cfg α) (aw : Option (AW α)) (m : MatA α) (jE jH E H : V3 α) :
    backwardA (rotC cf) (aw.map rotAW) (rotMA m) (rotV jE) (rotV jH) (rotV E) (rotV H)
      = (rotV (backwardA cf aw m jE jH E H).1, rotV (backwardA cf aw m jE jH E H).2) := by
  simp only [backwardA, revStepEA, revStepHA, rotMA_fullE, rotMA_fullH, rotMA_diagMat]
  simp only [rotMA, rotTens_expand, map_rotTens (α := α) rotTens_expand, revStepEFull_rot h3 hm hdet,
    revStepHFull_rot h3 hm hdet, revStepE_rot, revStepH_rot, ← apply_ite rotV]

end

/-! ### over a field -/

section
variable {K : Type} [Field K]

/-! `h3` and `hm` at a field, stated once: unifying `add_rotate` / `mul_comm` with them at every use is slow. -/

theorem sum3_rot (x y z : K) : x + y + z = y + z + x := add_rotate x y z

theorem prod_comm (x y : K) : x * y = y * x := mul_comm x y

theorem rotM3_det (a : M3 K) : M3.det (rotM3 a) = M3.det a := by
  simp only [M3.det, rotM3]; ring

theorem C08_aniso_mats_equivariant (c etaF : K) (inv : M3 K) (sig : Option (M3 K)) :
    updMats c etaF (rotM3 inv) (sig.map rotM3) = (rotM3 (updMats c etaF inv sig).1, rotM3 (updMats c etaF inv sig).2)
    ∧ updMatsRev c etaF (rotM3 inv) (sig.map rotM3)
        = (rotM3 (updMatsRev c etaF inv sig).1, rotM3 (updMatsRev c etaF inv sig).2) :=
  ⟨updMats_rot sum3_rot prod_comm rotM3_det c etaF inv sig, updMatsRev_rot sum3_rot prod_comm rotM3_det c etaF inv sig⟩

/-- **C08_aniso_step_equivariant**: one forward step of the relabelled scene — any material tier, in particular full 3×3
tensors relabelled as R·T·Rᵀ, lossy or lossless, uniform or spacing-weighted averaging — is the relabelled forward step. -/
theorem C08_aniso_step_equivariant (cf : Cfg K) (aw : Option (AW K)) (m : MatA K) (jE jH E H : V3 K) :
    forwardA (rotC cf) (aw.map rotAW) (rotMA m) (rotV jE) (rotV jH) (rotV E) (rotV H)
      = (rotV (forwardA cf aw m jE jH E H).1, rotV (forwardA cf aw m jE jH E H).2) :=
  forwardA_rot sum3_rot prod_comm rotM3_det cf aw m jE jH E H

theorem C08_aniso_backward_equivariant (cf : Cfg K) (aw : Option (AW K)) (m : MatA K) (jE jH E H : V3 K) :
    backwardA (rotC cf) (aw.map rotAW) (rotMA m) (rotV jE) (rotV jH) (rotV E) (rotV H)
      = (rotV (backwardA cf aw m jE jH E H).1, rotV (backwardA cf aw m jE jH E H).2) :=
  backwardA_rot sum3_rot prod_comm rotM3_det cf aw m jE jH E H

/-- n forward steps of the any-tier step with step-indexed source terms -/
def fwdNA (cf : Cfg K) (aw : Option (AW K)) (m : MatA K) (jE jH : Nat → V3 K) (t : Nat) : Nat → V3 K × V3 K → V3 K × V3 K
  | 0, s => s
  | n + 1, s => let s' := fwdNA cf aw m jE jH t n s; forwardA cf aw m (jE (t + n)) (jH (t + n)) s'.1 s'.2

/-- **C08_aniso_steps_equivariant**: a run of any length -/
theorem C08_aniso_steps_equivariant (cf : Cfg K) (aw : Option (AW K)) (m : MatA K) (jE jH : Nat → V3 K) (t n : Nat)
    (s : V3 K × V3 K) :
    fwdNA (rotC cf) (aw.map rotAW) (rotMA m) (fun u => rotV (jE u)) (fun u => rotV (jH u)) t n (rotS s)
      = rotS (fwdNA cf aw m jE jH t n s) := by
  induction n with
  | zero => rfl
  | succ n ih =>
    simp only [fwdNA, ih]
    exact C08_aniso_step_equivariant cf aw m _ _ _ _

/-- three relabellings are the identity on tensors as well -/
theorem C08_aniso_rot_cube (m : M3 K) (t : F3 (M3 K)) : rotM3 (rotM3 (rotM3 m)) = m ∧ rotT (rotT (rotT t)) = t :=
  ⟨rfl, rfl⟩

end

/-! ### non-vacuity: the relabelling really permutes the nine components -/
example : rotM3 (⟨1, 2, 3, 4, 5, 6, 7, 8, 9⟩ : M3 Int) = ⟨9, 7, 8, 3, 1, 2, 6, 4, 5⟩ := rfl
example : rotAx 0 = 1 ∧ rotAx 1 = 2 ∧ rotAx 2 = 0 := by decide

end Fdtdx.C08
