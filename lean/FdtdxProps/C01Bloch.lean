/-
C01 (Bloch faces) — energy conservation with Bloch-periodic boundaries (complex fields).

Over a field with a star operation (ℂ), ghost multipliers with `star pm = pp` (the code sets pp = exp(i k L),
pm = conj pp), real widths / metric scales / materials / Courant number, the sesquilinear energy

  Q(E,H) = Σ wE ε star(E)·E + Σ wH μ star(H)·H + (c/2)·(⟨H, curlE E⟩ + star ⟨H, curlE E⟩),  ⟨A,B⟩ = Σ wH star(A)·B

is unchanged by the lossless source-free step (`C01_bloch_energy_conserved`) and by any number of steps
(`C01_bloch_energy_steps`), for every shape, every mix of zero / periodic / Bloch halos and PEC/PMC walls, every
metric and diagonal ε, μ.  For real fields and pp = pm = 1 this is the statement of `C01_energy_conserved`.

With a real per-component loss factor `a` (the semi-implicit electric-conductivity update, `1 + a ≠ 0`) the exact
balance is  Q(E',H') = Q(E,H) − ⟨a·ε·(E'+E), E'+E⟩  (`bloch_energy_balance`, `C01_bloch_lossy_decrement`); the sign
of the dissipation term and the many-step statement are in `FdtdxProps/C01BlochLossy.lean`.

Q is the `star`-symmetric part `(Q₀ + star Q₀)/2` of `Q₀ = energyW star` (`energyC_eq`), and the balance is that of
`energy_balance_hom` (`FdtdxProps/C01.lean`) at `σ = star`, whose remainder is `star`-antisymmetric.
-/
import FdtdxProps.C01
import FdtdxLemmas.CurlAdjointStar
import Mathlib.Data.Complex.Basic

open Finset
namespace Fdtdx.C01
open Fdtdx Fdtdx.Yee

section
variable {K : Type} [Field K] [StarRing K] [CharZero K]

/-- everything that is real in the code is fixed by `star` -/
structure RealData (cf : Cfg K) (W : Widths K) (m : Mat K) (eps mu : V3 K) : Prop where
  c : star cf.c = cf.c
  wx : ∀ i, star (W.wx i) = W.wx i
  wy : ∀ i, star (W.wy i) = W.wy i
  wz : ∀ i, star (W.wz i) = W.wz i
  dx : ∀ i, star (W.dx i) = W.dx i
  dy : ∀ i, star (W.dy i) = W.dy i
  dz : ∀ i, star (W.dz i) = W.dz i
  ex : ∀ i j k, star (eps.x i j k) = eps.x i j k ∧ star (m.invEps.x i j k) = m.invEps.x i j k
  ey : ∀ i j k, star (eps.y i j k) = eps.y i j k ∧ star (m.invEps.y i j k) = m.invEps.y i j k
  ez : ∀ i j k, star (eps.z i j k) = eps.z i j k ∧ star (m.invEps.z i j k) = m.invEps.z i j k
  mx : ∀ i j k, star (mu.x i j k) = mu.x i j k ∧ star (m.invMu.x i j k) = m.invMu.x i j k
  my : ∀ i j k, star (mu.y i j k) = mu.y i j k ∧ star (m.invMu.y i j k) = m.invMu.y i j k
  mz : ∀ i j k, star (mu.z i j k) = mu.z i j k ∧ star (m.invMu.z i j k) = m.invMu.z i j k

def energyC (cf : Cfg K) (W : Widths K) (eps mu : V3 K) (E H : V3 K) : K :=
  pairEs cf W (mulV eps E) E + pairHs cf W (mulV mu H) H
    + cf.c / 2 * (pairHs cf W H (curlE cf E) + star (pairHs cf W H (curlE cf E)))

omit [CharZero K] in
theorem RealData.fixed {cf : Cfg K} {W : Widths K} {m : Mat K} {eps mu : V3 K} (hr : RealData cf W m eps mu) :
    FixedData (starRingEnd K) cf W m eps mu where
  invol := star_star
  c := hr.c
  volH := by
    constructor <;> intro i j k <;>
      simp only [volH, map_mul, starRingEnd_apply, hr.wx, hr.wy, hr.wz, hr.dx, hr.dy, hr.dz]
  volE := by
    constructor <;> intro i j k <;>
      simp only [volE, map_mul, starRingEnd_apply, hr.wx, hr.wy, hr.wz, hr.dx, hr.dy, hr.dz]
  eps := ⟨fun i j k => (hr.ex i j k).1, fun i j k => (hr.ey i j k).1, fun i j k => (hr.ez i j k).1⟩
  invEps := ⟨fun i j k => (hr.ex i j k).2, fun i j k => (hr.ey i j k).2, fun i j k => (hr.ez i j k).2⟩
  mu := ⟨fun i j k => (hr.mx i j k).1, fun i j k => (hr.my i j k).1, fun i j k => (hr.mz i j k).1⟩
  invMu := ⟨fun i j k => (hr.mx i j k).2, fun i j k => (hr.my i j k).2, fun i j k => (hr.mz i j k).2⟩

/-- the sesquilinear energy is the `star`-symmetric part of `energyW star` -/
theorem energyC_eq (cf : Cfg K) (W : Widths K) (m : Mat K) (eps mu E H : V3 K)
    (hf : FixedData (starRingEnd K) cf W m eps mu) :
    energyC cf W eps mu E H
      = (energyW (starRingEnd K) cf W eps mu E H + starRingEnd K (energyW (starRingEnd K) cf W eps mu E H)) / 2 := by
  -- under `star` the squared terms of `energyW` are fixed and the cross term is transposed
  rw [energyC, pairEs_eq, pairHs_eq, pairHs_eq, ← starRingEnd_apply, energyW, map_add, map_add, map_mul, hf.c,
    pairW_conj _ cf _ hf.invol hf.volE, pairW_conj _ cf _ hf.invol hf.volH, pairW_conj _ cf _ hf.invol hf.volH,
    pairW_mulV_right _ cf _ eps hf.eps, pairW_mulV_right _ cf _ mu hf.mu]
  ring

/-- **bloch_energy_balance** (covers the lossless case with `a = 0`): exact sesquilinear energy balance of one
source-free step.  `aE` is the real loss factor `c·σ·η₀·ε⁻¹/2` per component (0 where there is no conductivity).
It is the `star`-symmetric part of `energy_balance_hom`, whose remainder changes sign under `star`. -/
theorem bloch_energy_balance (cf : Cfg K) (W : Widths K) (ref : K) (m : Mat K) (eps mu : V3 K) (E H : V3 K)
    (hm : MetricOK cf W ref) (hh : HalosBloch cf) (hs : ScalesReal cf) (hr : RealData cf W m eps mu)
    (hmat : MatOK m eps mu) (hw : WallOK cf E H) (hsH : m.sigH = none)
    (aE : V3 K) (haR : FixV (starRingEnd K) aE)
    (hne : ∀ i j k, 1 + aE.x i j k ≠ 0 ∧ 1 + aE.y i j k ≠ 0 ∧ 1 + aE.z i j k ≠ 0)
    (hE : stepE cf m zeroV E H = semiE cf m aE E H) :
    energyC cf W eps mu (forward cf m zeroV zeroV E H).1 (forward cf m zeroV zeroV E H).2
      = energyC cf W eps mu E H
        - pairEs cf W (mulV (mulV aE eps) (addV (forward cf m zeroV zeroV E H).1 E))
            (addV (forward cf m zeroV zeroV E H).1 E) := by
  have hf := hr.fixed
  have h := energy_balance_hom (starRingEnd K) cf W m eps mu E H (curl_adjoint_star cf W ref hm hh hs) hf hmat hw
    aE haR hne
  have h' := congrArg (starRingEnd K) h
  simp only [map_add, map_sub, map_mul, hf.c, pairW_conj _ cf _ hf.invol hf.volH,
    pairW_conj _ cf _ hf.invol hf.volE, pairW_mulV_right _ cf _ _ hf.eps,
    pairW_mulV_right _ cf _ _ (haR.mulV hf.eps)] at h'
  rw [forward_eq cf m aE E H hsH hE, energyC_eq cf W m eps mu _ _ hf, energyC_eq cf W m eps mu _ _ hf, pairEs_eq]
  linear_combination (1 / 2) * h + (1 / 2) * h'

/-- **C01_bloch_energy_conserved**: lossless, source-free step (the balance with `a = 0`). -/
theorem C01_bloch_energy_conserved (cf : Cfg K) (W : Widths K) (ref : K) (m : Mat K) (eps mu : V3 K) (E H : V3 K)
    (hm : MetricOK cf W ref) (hh : HalosBloch cf) (hs : ScalesReal cf) (hr : RealData cf W m eps mu)
    (hmat : MatOK m eps mu) (hw : WallOK cf E H) (hsE : m.sigE = none) (hsH : m.sigH = none) :
    energyC cf W eps mu (forward cf m zeroV zeroV E H).1 (forward cf m zeroV zeroV E H).2
      = energyC cf W eps mu E H := by
  rw [bloch_energy_balance cf W ref m eps mu E H hm hh hs hr hmat hw hsH (constV 0)
    ⟨fun _ _ _ => map_zero _, fun _ _ _ => map_zero _, fun _ _ _ => map_zero _⟩
    (fun _ _ _ => by simp only [constV, add_zero, ne_eq, one_ne_zero, not_false_eq_true, and_self])
    (stepE_lossless cf m E H hsE), pairEs_eq, pairW_zero_mulV, sub_zero]

/-- **C01_bloch_lossy_decrement**: with a real electric conductivity σ (and real η₀) the sesquilinear energy changes
by exactly `− ⟨a·ε·(E'+E), E'+E⟩`, `a = c·σ·η₀·ε⁻¹/2`, provided the update's divisor `1 + a` is non-zero —
Bloch / periodic / zero halos, PEC / PMC walls, complex fields. -/
theorem C01_bloch_lossy_decrement (cf : Cfg K) (W : Widths K) (ref : K) (m : Mat K) (eps mu : V3 K) (E H : V3 K)
    (sig : V3 K)
    (hm : MetricOK cf W ref) (hh : HalosBloch cf) (hs : ScalesReal cf) (hr : RealData cf W m eps mu)
    (hmat : MatOK m eps mu) (hw : WallOK cf E H)
    (hsE : m.sigE = some sig) (hsH : m.sigH = none)
    (heta : star cf.eta0 = cf.eta0) (hsig : FixV (starRingEnd K) sig)
    (hdiv : ∀ i j k, 1 + (lossFactor cf m sig).x i j k ≠ 0 ∧ 1 + (lossFactor cf m sig).y i j k ≠ 0
      ∧ 1 + (lossFactor cf m sig).z i j k ≠ 0) :
    energyC cf W eps mu (forward cf m zeroV zeroV E H).1 (forward cf m zeroV zeroV E H).2
      = energyC cf W eps mu E H
        - pairEs cf W (mulV (mulV (lossFactor cf m sig) eps) (addV (forward cf m zeroV zeroV E H).1 E))
            (addV (forward cf m zeroV zeroV E H).1 E) :=
  bloch_energy_balance cf W ref m eps mu E H hm hh hs hr hmat hw hsH (lossFactor cf m sig)
    (lossFactor_fixed _ cf m sig hr.c heta hr.fixed.invEps hsig) hdiv (stepE_lossy cf m E H sig hsE)

/-- **C01_bloch_energy_steps**: any number of steps. -/
theorem C01_bloch_energy_steps (cf : Cfg K) (W : Widths K) (ref : K) (m : Mat K) (eps mu : V3 K) (E H : V3 K)
    (hm : MetricOK cf W ref) (hh : HalosBloch cf) (hs : ScalesReal cf) (hr : RealData cf W m eps mu)
    (hmat : MatOK m eps mu) (hw : WallOK cf E H) (hsE : m.sigE = none) (hsH : m.sigH = none) (n : Nat) :
    energyC cf W eps mu (run cf m n (E, H)).1 (run cf m n (E, H)).2 = energyC cf W eps mu E H
      ∧ WallOK cf (run cf m n (E, H)).1 (run cf m n (E, H)).2 :=
  run_invariant cf m (fun E' H' => energyC cf W eps mu E' H' = energyC cf W eps mu E H)
    (fun E' H' hw' h => (C01_bloch_energy_conserved cf W ref m eps mu E' H' hm hh hs hr hmat hw' hsE hsH).trans h)
    rfl hw n

end

/-! ### non-vacuity over ℂ: Bloch phase i on the x axis -/
section nonvacuous
open Complex
noncomputable def bxBC : AxisBC ℂ := ⟨true, I, -I, false, false, false, false⟩
noncomputable def bzero : AxisBC ℂ := ⟨false, 1, 1, true, false, false, false⟩
noncomputable def bCfg : Cfg ℂ :=
  { nx := 2, ny := 3, nz := 2, bx := bxBC, by_ := bzero, bz := bzero,
    sfx := fun _ => 1, sfy := fun _ => 1, sfz := fun _ => 1, sbx := fun _ => 1, sby := fun _ => 1, sbz := fun _ => 1,
    c := 1 / 2, eta0 := 1 }
example : HalosBloch bCfg := by
  constructor <;> intro _ <;> simp [bCfg, bxBC, bzero]
example : ScalesReal bCfg := by constructor <;> intro _ <;> simp [bCfg]
example : bxBC.pp ≠ 1 := by
  simp only [bxBC]; intro h; have := congrArg Complex.im h; simp at this
end nonvacuous

end Fdtdx.C01
