/-
C11 — CPML auxiliary fields under complex storage.

`Cpml.forwardP` (time step with PerfectlyMatchedLayer objects: fields and the psi arrays of every layer) commutes with
every ring homomorphism φ between scalar fields, for every list of layers (any axes, boxes, coefficient arrays, both
`simulate_boundaries` branches, both kappa branches), shape, halo rule, walls, metric, diagonal materials:

  C11_cpml_natural          forwardP on the φ-image of (config, materials, layers, sources, E, H, psi) = φ-image of forwardP
  C11_cpml_natural_steps    … after n steps with step-indexed sources
  C11_cpml_complex_run      φ = (ℝ → ℂ): a complex-storage run with PML started from real data has Re = the real run and
                            Im = 0 for E, H — and
  C11_cpml_psi_real        : every psi array stays the embedded real psi array.
-/
import FdtdxProps.C11
import FdtdxProps.C10Pml
import Mathlib.Tactic.NormNum

namespace Fdtdx.C11
open Fdtdx Fdtdx.Yee Fdtdx.C02 Fdtdx.Cpml

section
variable {R K : Type} [Field R] [Field K] (φ : R →+* K)

theorem cpmlStep_map (a b ik psi d : R) (sim kappaOne : Bool) :
    C10.cpmlStep (φ a) (φ b) (φ ik) (φ psi) (φ d) sim kappaOne
      = (φ (C10.cpmlStep a b ik psi d sim kappaOne).1, φ (C10.cpmlStep a b ik psi d sim kappaOne).2) :=
  have hN : (C10.cpmlStep (φ a) (φ b) (φ ik) (φ psi) (φ d) sim kappaOne).2 = φ (C10.cpmlStep a b ik psi d sim kappaOne).2 :=
    hom_ite _ (hom_add (hom_mul rfl rfl) (hom_mul rfl rfl)) rfl
  Prod.ext (hom_ite _ hN (hom_add (hom_mul (hom_sub rfl (map_one φ).symm) rfl) hN)) hN

/-- `stepCpml1` is `cpmlStep` with the coefficients of the cell -/
theorem stepCpml1_map (p : Pml R) (isE sim : Bool) (o : Nat) (d q : R) :
    stepCpml1 (mapPml φ p) isE sim o (φ d) (φ q) = (φ (stepCpml1 p isE sim o d q).1, φ (stepCpml1 p isE sim o d q).2) := by
  cases isE <;> exact cpmlStep_map φ ..

theorem get_map (V : V3 R) (c : Nat) : V3.get (mapV φ V) c = mapF φ (V3.get V c) := by
  rcases c with _ | _ | c <;> rfl

theorem mapPml_axis (p : Pml R) : (mapPml φ p).axis = p.axis := rfl
theorem mapPml_box (p : Pml R) : (mapPml φ p).box = p.box := rfl
theorem mapPml_off (p : Pml R) (i j k : Nat) : (mapPml φ p).off i j k = p.off i j k := rfl

/-- one `step_cpml` call of the PML loops: `D`, `D'` are the directional difference (`dFwd` in `curl_E`, `dBwd` in
`curl_H`) over the two scalar types, `c` the component of the field, `q` the auxiliary array -/
theorem cpmlCell_map {D : Cfg R → Nat → F3 R → F3 R} {D' : Cfg K → Nat → F3 K → F3 K}
    (hD : ∀ cf ax f i j k, D' (mapCfg φ cf) ax (mapF φ f) i j k = φ (D cf ax f i j k))
    {p : Pml R} {isE sim : Bool} {o : Nat} {cf : Cfg R} {ax c : Nat} {V : V3 R} {q : F3 R} {i j k : Nat} :
    stepCpml1 (mapPml φ p) isE sim o (D' (mapCfg φ cf) ax (V3.get (mapV φ V) c) i j k) (mapF φ q i j k)
      = (φ (stepCpml1 p isE sim o (D cf ax (V3.get V c) i j k) (q i j k)).1,
         φ (stepCpml1 p isE sim o (D cf ax (V3.get V c) i j k) (q i j k)).2) := by
  rw [get_map, hD]
  exact stepCpml1_map φ ..

theorem applyE_map (cf : Cfg R) (sim : Bool) (E : V3 R) (comp i j k : Nat) (x : R) (s : PmlSt R) :
    applyE (mapCfg φ cf) sim (mapV φ E) comp i j k (φ x) (mapSt φ s) = φ (applyE cf sim E comp i j k x s) := by
  unfold applyE
  exact hom_ite _ (hom_ite _ (hom_sub rfl (congrArg Prod.fst (cpmlCell_map φ (dFwd_map φ))))
    (hom_ite _ (hom_add rfl (congrArg Prod.fst (cpmlCell_map φ (dFwd_map φ)))) rfl)) rfl

theorem applyH_map (cf : Cfg R) (sim : Bool) (H : V3 R) (comp i j k : Nat) (x : R) (s : PmlSt R) :
    applyH (mapCfg φ cf) sim (mapV φ H) comp i j k (φ x) (mapSt φ s) = φ (applyH cf sim H comp i j k x s) := by
  unfold applyH
  exact hom_ite _ (hom_ite _ (hom_sub rfl (congrArg Prod.fst (cpmlCell_map φ (dBwd_map φ))))
    (hom_ite _ (hom_add rfl (congrArg Prod.fst (cpmlCell_map φ (dBwd_map φ)))) rfl)) rfl

/-- the PML loop of a curl component is a left fold over the layers -/
theorem fold_map (ap : R → PmlSt R → R) (ap' : K → PmlSt K → K) (h : ∀ x s, ap' (φ x) (mapSt φ s) = φ (ap x s))
    (l : List (PmlSt R)) : ∀ x : R, (l.map (mapSt φ)).foldl ap' (φ x) = φ (l.foldl ap x) := by
  induction l with
  | nil => intro x; rfl
  | cons s l ih =>
    intro x
    simp only [List.map_cons, List.foldl_cons]
    rw [h]
    exact ih _

theorem curlEp_map (cf : Cfg R) (sim : Bool) (l : List (PmlSt R)) (E : V3 R) :
    curlEp (mapCfg φ cf) sim (l.map (mapSt φ)) (mapV φ E) = mapV φ (curlEp cf sim l E) := by
  apply V3.ext' <;> intro i j k <;> simp only [curlEp, curlE_map] <;>
    exact fold_map φ _ _ (applyE_map φ cf sim E _ i j k) l _

theorem curlHp_map (cf : Cfg R) (sim : Bool) (l : List (PmlSt R)) (H : V3 R) :
    curlHp (mapCfg φ cf) sim (l.map (mapSt φ)) (mapV φ H) = mapV φ (curlHp cf sim l H) := by
  apply V3.ext' <;> intro i j k <;> simp only [curlHp, curlH_map] <;>
    exact fold_map φ _ _ (applyH_map φ cf sim H _ i j k) l _

theorem updPsiH_map (cf : Cfg R) (sim : Bool) (E : V3 R) (s : PmlSt R) :
    updPsiH (mapCfg φ cf) sim (mapV φ E) (mapSt φ s) = mapSt φ (updPsiH cf sim E s) := by
  apply C10.PmlSt.ext'
  · rfl
  · exact fun _ _ _ => rfl
  · exact fun _ _ _ => rfl
  · exact fun _ _ _ => hom_ite _ (congrArg Prod.snd (cpmlCell_map φ (dFwd_map φ))) rfl
  · exact fun _ _ _ => hom_ite _ (congrArg Prod.snd (cpmlCell_map φ (dFwd_map φ))) rfl

theorem updPsiE_map (cf : Cfg R) (sim : Bool) (H : V3 R) (s : PmlSt R) :
    updPsiE (mapCfg φ cf) sim (mapV φ H) (mapSt φ s) = mapSt φ (updPsiE cf sim H s) := by
  apply C10.PmlSt.ext'
  · rfl
  · exact fun _ _ _ => hom_ite _ (congrArg Prod.snd (cpmlCell_map φ (dBwd_map φ))) rfl
  · exact fun _ _ _ => hom_ite _ (congrArg Prod.snd (cpmlCell_map φ (dBwd_map φ))) rfl
  · exact fun _ _ _ => rfl
  · exact fun _ _ _ => rfl

theorem map_map_comm (u : PmlSt R → PmlSt R) (u' : PmlSt K → PmlSt K) (h : ∀ s, u' (mapSt φ s) = mapSt φ (u s))
    (l : List (PmlSt R)) : (l.map (mapSt φ)).map u' = (l.map u).map (mapSt φ) := by
  simp only [List.map_map]
  exact List.map_congr_left fun s _ => h s

/-- **C11_cpml_natural**: the time step with CPML layers (fields and all psi arrays) commutes with every ring
homomorphism between scalar fields. -/
theorem C11_cpml_natural (cf : Cfg R) (m : Mat R) (jE jH : V3 R) (sim : Bool) (l : List (PmlSt R)) (E H : V3 R) :
    forwardP (mapCfg φ cf) (mapMat φ m) (mapV φ jE) (mapV φ jH) sim (l.map (mapSt φ)) (mapV φ E) (mapV φ H)
      = (mapV φ (forwardP cf m jE jH sim l E H).1, mapV φ (forwardP cf m jE jH sim l E H).2.1,
         (forwardP cf m jE jH sim l E H).2.2.map (mapSt φ)) := by
  simp only [forwardP]
  rw [curlHp_map, updEwith_map, map_map_comm φ _ _ (updPsiE_map φ cf sim H), curlEp_map, updHwith_map,
    map_map_comm φ _ _ (updPsiH_map φ cf sim _)]

theorem C11_cpml_natural_steps (cf : Cfg R) (m : Mat R) (jE jH : Nat → V3 R) (sim : Bool) (t n : Nat)
    (l : List (PmlSt R)) (E H : V3 R) :
    C10.fwdPN (mapCfg φ cf) (mapMat φ m) (fun s => mapV φ (jE s)) (fun s => mapV φ (jH s)) sim t n
        (mapV φ E, mapV φ H, l.map (mapSt φ))
      = (mapV φ (C10.fwdPN cf m jE jH sim t n (E, H, l)).1, mapV φ (C10.fwdPN cf m jE jH sim t n (E, H, l)).2.1,
         (C10.fwdPN cf m jE jH sim t n (E, H, l)).2.2.map (mapSt φ)) := by
  induction n with
  | zero => rfl
  | succ n ih =>
    simp only [C10.fwdPN]
    rw [ih]
    exact C11_cpml_natural φ cf m _ _ sim _ _ _

end

section complex

/-- **C11_cpml_complex_run**: complex storage of a run with CPML layers started from real data: real part of every
field component = the real-storage run, imaginary part = 0, at every step and cell. -/
theorem C11_cpml_complex_run (cf : Cfg ℝ) (m : Mat ℝ) (jE jH : Nat → V3 ℝ) (sim : Bool) (t n : Nat) (l : List (PmlSt ℝ))
    (E H : V3 ℝ) (i j k : Nat) :
    let SC := C10.fwdPN (mapCfg emb cf) (mapMat emb m) (fun s => mapV emb (jE s)) (fun s => mapV emb (jH s)) sim t n
        (mapV emb E, mapV emb H, l.map (mapSt emb))
    let SR := C10.fwdPN cf m jE jH sim t n (E, H, l)
    ((SC.1.x i j k).re = SR.1.x i j k ∧ (SC.1.x i j k).im = 0)
    ∧ ((SC.1.y i j k).re = SR.1.y i j k ∧ (SC.1.y i j k).im = 0)
    ∧ ((SC.1.z i j k).re = SR.1.z i j k ∧ (SC.1.z i j k).im = 0)
    ∧ ((SC.2.1.x i j k).re = SR.2.1.x i j k ∧ (SC.2.1.x i j k).im = 0)
    ∧ ((SC.2.1.y i j k).re = SR.2.1.y i j k ∧ (SC.2.1.y i j k).im = 0)
    ∧ ((SC.2.1.z i j k).re = SR.2.1.z i j k ∧ (SC.2.1.z i j k).im = 0) := by
  intro SC SR
  have h : SC = _ := C11_cpml_natural_steps emb cf m jE jH sim t n l E H
  rw [h]
  exact ⟨⟨rfl, rfl⟩, ⟨rfl, rfl⟩, ⟨rfl, rfl⟩, ⟨rfl, rfl⟩, ⟨rfl, rfl⟩, ⟨rfl, rfl⟩⟩

/-- **C11_cpml_psi_real**: the auxiliary arrays of the complex-storage run are exactly the embedded auxiliary arrays of
the real-storage run (psi stays real), layer by layer. -/
theorem C11_cpml_psi_real (cf : Cfg ℝ) (m : Mat ℝ) (jE jH : Nat → V3 ℝ) (sim : Bool) (t n : Nat) (l : List (PmlSt ℝ))
    (E H : V3 ℝ) :
    (C10.fwdPN (mapCfg emb cf) (mapMat emb m) (fun s => mapV emb (jE s)) (fun s => mapV emb (jH s)) sim t n
        (mapV emb E, mapV emb H, l.map (mapSt emb))).2.2
      = (C10.fwdPN cf m jE jH sim t n (E, H, l)).2.2.map (mapSt emb) := by
  rw [C11_cpml_natural_steps emb cf m jE jH sim t n l E H]

end complex

/-! ### non-vacuity: the embedded layer of C10's example keeps its static data and has the embedded psi values -/
example : (mapSt (fun q : ℚ => (q : ℝ)) (C10.exSt 2)).p.axis = 0 ∧ (mapSt (fun q : ℚ => (q : ℝ)) (C10.exSt 2)).h1 0 0 0 = 6 := by
  refine ⟨rfl, ?_⟩
  show ((3 * 2 : ℚ) : ℝ) = 6
  norm_num

end Fdtdx.C11
