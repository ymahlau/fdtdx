/-
C08 — cyclic-relabelling equivariance of the CPML time step (`FdtdxModel/Cpml.lean`: curl_E / curl_H with the PML loop,
psi recursion, `forwardP`, `backwardP`), over ANY scalar type (only the shape of the formulas is used).

A PML along axis `a` reads two derivative arrays (of components a+2 and a+1, along `a`), evaluates `step_cpml` on them at
the offset of the cell along `a`, corrects curl components a+1 and a+2 and stores the new psi.  The loop bodies of
curl_E and curl_H (`applyD`) and the two psi updates (`psiD`) are stated once for arbitrary derivative arrays; the
relabelled PML does at (i,j,k), for component c+1, what the PML does at (j,k,i) for component c.
-/
import FdtdxProps.C08

namespace Fdtdx.C08
open Fdtdx Fdtdx.Yee Fdtdx.Cpml
set_option linter.unusedSectionVars false

theorem mem_rot (b : Box) (i j k : Nat) : (rotBox b).mem i j k ↔ b.mem j k i :=
  ⟨fun ⟨h1, h2, h3⟩ => ⟨h2, h3, h1⟩, fun ⟨h1, h2, h3⟩ => ⟨h3, h1, h2⟩⟩

theorem ite_mem_rot {β : Type} (b : Box) (i j k : Nat) (x y : β) :
    (if (rotBox b).mem i j k then x else y) = if b.mem j k i then x else y :=
  ite_congr (propext (mem_rot b i j k)) (fun _ => rfl) (fun _ => rfl)

theorem succ_mod_inj : ∀ c < 3, ∀ d < 3, ((c + 1) % 3 = (d + 1) % 3 ↔ c = d) := by decide

section
variable {α : Type} [Add α] [Sub α] [Mul α] [Div α] [OfNat α 0] [OfNat α 1] [OfNat α 2]

theorem off_rot (p : Pml α) (ha : p.axis < 3) (i j k : Nat) : (rotP p).off i j k = p.off j k i :=
  have h : ∀ a < 3, axIdx ((a + 1) % 3) i j k - (rotBox p.box).lo ((a + 1) % 3) = axIdx a j k i - p.box.lo a
    | 0, _ => rfl
    | 1, _ => rfl
    | 2, _ => rfl
  h _ ha

/-- `step_cpml` of the relabelled PML at (i,j,k) is that of the PML at (j,k,i): the coefficient arrays are indexed by
the offset along the PML's own axis -/
theorem stepCpml1_rot (p : Pml α) (ha : p.axis < 3) (isE sim : Bool) (d psi : F3 α) (i j k : Nat) :
    stepCpml1 (rotP p) isE sim ((rotP p).off i j k) (rotF d i j k) (rotF psi i j k)
      = stepCpml1 p isE sim (p.off j k i) (d j k i) (psi j k i) := by
  rw [off_rot p ha]; rfl

/-- the two derivative arrays a PML along axis `a` reads in `curl_E` -/
theorem dFwd_get_rot (cf : Cfg α) (E : V3 α) : ∀ a < 3,
    dFwd (rotC cf) ((a + 1) % 3) (V3.get (rotV E) (((a + 1) % 3 + 2) % 3)) = rotF (dFwd cf a (V3.get E ((a + 2) % 3)))
    ∧ dFwd (rotC cf) ((a + 1) % 3) (V3.get (rotV E) (((a + 1) % 3 + 1) % 3)) = rotF (dFwd cf a (V3.get E ((a + 1) % 3)))
  | 0, _ => ⟨rfl, rfl⟩
  | 1, _ => ⟨rfl, rfl⟩
  | 2, _ => ⟨rfl, rfl⟩

/-- the two derivative arrays a PML along axis `a` reads in `curl_H` -/
theorem dBwd_get_rot (cf : Cfg α) (H : V3 α) : ∀ a < 3,
    dBwd (rotC cf) ((a + 1) % 3) (V3.get (rotV H) (((a + 1) % 3 + 2) % 3)) = rotF (dBwd cf a (V3.get H ((a + 2) % 3)))
    ∧ dBwd (rotC cf) ((a + 1) % 3) (V3.get (rotV H) (((a + 1) % 3 + 1) % 3)) = rotF (dBwd cf a (V3.get H ((a + 1) % 3)))
  | 0, _ => ⟨rfl, rfl⟩
  | 1, _ => ⟨rfl, rfl⟩
  | 2, _ => ⟨rfl, rfl⟩

/-- One iteration of a PML loop at component `comp` of cell (i,j,k), for either curl: `d1`, `d2` are the derivative
arrays of components a+2 and a+1 along the PML axis `a`, `psi1`, `psi2` the auxiliary arrays.  `applyE` is the instance
`isE = true`, `dFwd`, `h1`, `h2`; `applyH` is `isE = false`, `dBwd`, `e1`, `e2`. -/
def applyD (p : Pml α) (isE sim : Bool) (d1 d2 psi1 psi2 : F3 α) (comp i j k : Nat) (acc : α) : α :=
  if p.box.mem i j k then
    if comp = (p.axis + 1) % 3 then acc - (stepCpml1 p isE sim (p.off i j k) (d1 i j k) (psi1 i j k)).1
    else if comp = (p.axis + 2) % 3 then acc + (stepCpml1 p isE sim (p.off i j k) (d2 i j k) (psi2 i j k)).1
    else acc
  else acc

theorem applyD_rot (p : Pml α) (ha : p.axis < 3) (isE sim : Bool) {d1 d2 d1' d2' : F3 α} (h1 : d1' = rotF d1)
    (h2 : d2' = rotF d2) (psi1 psi2 : F3 α) (comp : Nat) (hc : comp < 3) (i j k : Nat) (acc : α) :
    applyD (rotP p) isE sim d1' d2' (rotF psi1) (rotF psi2) ((comp + 1) % 3) i j k acc
      = applyD p isE sim d1 d2 psi1 psi2 comp j k i acc := by
  have c1 : (comp + 1) % 3 = ((p.axis + 1) % 3 + 1) % 3 ↔ comp = (p.axis + 1) % 3 :=
    succ_mod_inj _ hc _ (Nat.mod_lt _ (by decide))
  have c2 : (comp + 1) % 3 = ((p.axis + 1) % 3 + 2) % 3 ↔ comp = (p.axis + 2) % 3 := by
    rw [succ_add_two_mod]; exact succ_mod_inj _ hc _ (Nat.mod_lt _ (by decide))
  subst h1 h2
  -- the relabelled PML has box `rotBox p.box` and axis `(p.axis + 1) % 3`
  show (if (rotBox p.box).mem i j k then
      if (comp + 1) % 3 = ((p.axis + 1) % 3 + 1) % 3 then _ else if (comp + 1) % 3 = ((p.axis + 1) % 3 + 2) % 3 then _ else _
    else _) = _
  simp only [c1, c2, ite_mem_rot, stepCpml1_rot p ha]
  rfl

/-- the psi array after `step_cpml` on the derivative array `d`: updated inside the box of `p` -/
def psiD (p : Pml α) (isE sim : Bool) (d psi : F3 α) : F3 α := fun i j k =>
  if p.box.mem i j k then (stepCpml1 p isE sim (p.off i j k) (d i j k) (psi i j k)).2 else psi i j k

theorem psiD_rot (p : Pml α) (ha : p.axis < 3) (isE sim : Bool) {d d' : F3 α} (h : d' = rotF d) (psi : F3 α) :
    psiD (rotP p) isE sim d' (rotF psi) = rotF (psiD p isE sim d psi) := by
  subst h
  funext i j k
  unfold psiD
  rw [stepCpml1_rot p ha]
  exact ite_mem_rot ..

/-- every PML of the list has a valid axis (0, 1, 2) — what `PerfectlyMatchedLayer.axis` is validated to be -/
def AxesOK (pmls : List (PmlSt α)) : Prop := ∀ st ∈ pmls, st.p.axis < 3

theorem foldl_map_rotSt (f' f : α → PmlSt α → α) (pmls : List (PmlSt α))
    (h : ∀ st ∈ pmls, ∀ acc, f' acc (rotSt st) = f acc st) (acc : α) :
    (pmls.map rotSt).foldl f' acc = pmls.foldl f acc := by
  induction pmls generalizing acc with
  | nil => rfl
  | cons st rest ih =>
    rw [List.map_cons, List.foldl_cons, List.foldl_cons, h st (.head _)]
    exact ih (fun s hs => h s (.tail _ hs)) _

/-- A curl with its PML loop: component by component, the loop `ap comp i j k` over the PMLs, started from the plain
curl `base`.  It commutes with the relabelling when the loop body does. -/
theorem curlLoop_rot (ap ap' : Nat → Nat → Nat → Nat → α → PmlSt α → α) (pmls : List (PmlSt α))
    (h : ∀ st ∈ pmls, ∀ comp < 3, ∀ i j k acc, ap' ((comp + 1) % 3) i j k acc (rotSt st) = ap comp j k i acc st)
    {base base' : V3 α} (hb : base' = rotV base) :
    (⟨fun i j k => (pmls.map rotSt).foldl (ap' 0 i j k) (base'.x i j k),
      fun i j k => (pmls.map rotSt).foldl (ap' 1 i j k) (base'.y i j k),
      fun i j k => (pmls.map rotSt).foldl (ap' 2 i j k) (base'.z i j k)⟩ : V3 α)
      = rotV ⟨fun i j k => pmls.foldl (ap 0 i j k) (base.x i j k), fun i j k => pmls.foldl (ap 1 i j k) (base.y i j k),
          fun i j k => pmls.foldl (ap 2 i j k) (base.z i j k)⟩ := by
  have hf (comp : Nat) (hc : comp < 3) (i j k : Nat) (acc : α) :=
    foldl_map_rotSt (ap' ((comp + 1) % 3) i j k) (ap comp j k i) pmls (fun st hst acc => h st hst comp hc i j k acc) acc
  subst hb
  show V3.mk _ _ _ = V3.mk _ _ _
  congr 1 <;> funext i j k
  · exact hf 2 (by decide) ..
  · exact hf 0 (by decide) ..
  · exact hf 1 (by decide) ..

/-- **C08_curlEp_equivariant**: `curl_E` with its CPML loop (per-axis derivative mapping, signs, psi) commutes with the
relabelling -/
theorem C08_curlEp_equivariant (cf : Cfg α) (sim : Bool) (pmls : List (PmlSt α)) (hok : AxesOK pmls) (E : V3 α) :
    curlEp (rotC cf) sim (pmls.map rotSt) (rotV E) = rotV (curlEp cf sim pmls E) :=
  curlLoop_rot (applyE cf sim E) (applyE (rotC cf) sim (rotV E)) pmls (fun st hst comp hc i j k acc =>
    have hd := dFwd_get_rot cf E _ (hok st hst)
    applyD_rot st.p (hok st hst) true sim hd.1 hd.2 st.h1 st.h2 comp hc i j k acc) (C08_curlE_equivariant cf E)

theorem C08_curlHp_equivariant (cf : Cfg α) (sim : Bool) (pmls : List (PmlSt α)) (hok : AxesOK pmls) (H : V3 α) :
    curlHp (rotC cf) sim (pmls.map rotSt) (rotV H) = rotV (curlHp cf sim pmls H) :=
  curlLoop_rot (applyH cf sim H) (applyH (rotC cf) sim (rotV H)) pmls (fun st hst comp hc i j k acc =>
    have hd := dBwd_get_rot cf H _ (hok st hst)
    applyD_rot st.p (hok st hst) false sim hd.1 hd.2 st.e1 st.e2 comp hc i j k acc) (C08_curlH_equivariant cf H)

theorem updPsiH_rot (cf : Cfg α) (sim : Bool) (E : V3 α) (st : PmlSt α) (ha : st.p.axis < 3) :
    updPsiH (rotC cf) sim (rotV E) (rotSt st) = rotSt (updPsiH cf sim E st) := by
  have hd := dFwd_get_rot cf E _ ha
  show PmlSt.mk _ _ _ _ _ = PmlSt.mk _ _ _ _ _
  congr 1
  · exact psiD_rot st.p ha true sim hd.1 st.h1
  · exact psiD_rot st.p ha true sim hd.2 st.h2

theorem updPsiE_rot (cf : Cfg α) (sim : Bool) (H : V3 α) (st : PmlSt α) (ha : st.p.axis < 3) :
    updPsiE (rotC cf) sim (rotV H) (rotSt st) = rotSt (updPsiE cf sim H st) := by
  have hd := dBwd_get_rot cf H _ ha
  show PmlSt.mk _ _ _ _ _ = PmlSt.mk _ _ _ _ _
  congr 1
  · exact psiD_rot st.p ha false sim hd.1 st.e1
  · exact psiD_rot st.p ha false sim hd.2 st.e2

theorem map_map_rotSt (g' g : PmlSt α → PmlSt α) (pmls : List (PmlSt α))
    (h : ∀ st ∈ pmls, g' (rotSt st) = rotSt (g st)) : (pmls.map rotSt).map g' = (pmls.map g).map rotSt := by
  rw [List.map_map, List.map_map]
  exact List.map_congr_left h

/-- a map that leaves the static PML data alone keeps the axes valid (the psi updates are such maps) -/
theorem AxesOK.map {pmls : List (PmlSt α)} (hok : AxesOK pmls) (g : PmlSt α → PmlSt α) (hg : ∀ st, (g st).p = st.p) :
    AxesOK (pmls.map g) := by
  intro st hst
  obtain ⟨s0, hs0, rfl⟩ := List.mem_map.1 hst
  rw [hg]
  exact hok s0 hs0

/-- relabelling of a full CPML state (E, H, PML list with psi arrays) -/
def rotPS (s : V3 α × V3 α × List (PmlSt α)) : V3 α × V3 α × List (PmlSt α) :=
  (rotV s.1, rotV s.2.1, s.2.2.map rotSt)

/-- **C08_cpml_step_equivariant**: one forward step WITH CPML layers (curl_H with psi_E, material update, curl_E of the new
E with psi_H, psi recursions of every PML) of the relabelled scene — shape, halos, walls, metric, materials, sources,
fields, and every PML's axis, box, coefficient profiles and psi arrays relabelled — is the relabelled step. -/
theorem C08_cpml_step_equivariant (cf : Cfg α) (m : Mat α) (jE jH : V3 α) (sim : Bool) (pmls : List (PmlSt α))
    (hok : AxesOK pmls) (E H : V3 α) :
    forwardP (rotC cf) (rotM m) (rotV jE) (rotV jH) sim (pmls.map rotSt) (rotV E) (rotV H)
      = rotPS (forwardP cf m jE jH sim pmls E H) := by
  have hok1 := hok.map (updPsiE cf sim H) fun _ => rfl
  unfold forwardP rotPS
  simp only []
  rw [C08_curlHp_equivariant cf sim pmls hok, updEwith_rot,
    map_map_rotSt _ _ pmls fun st hst => updPsiE_rot cf sim H st (hok st hst),
    C08_curlEp_equivariant cf sim _ hok1, updHwith_rot,
    map_map_rotSt _ _ _ fun st hst => updPsiH_rot cf sim _ st (hok1 st hst)]

/-- n forward steps with CPML, step-indexed source terms -/
def fwdPN (cf : Cfg α) (m : Mat α) (jE jH : Nat → V3 α) (sim : Bool) (t : Nat) :
    Nat → V3 α × V3 α × List (PmlSt α) → V3 α × V3 α × List (PmlSt α)
  | 0, s => s
  | n + 1, s =>
    let s' := fwdPN cf m jE jH sim t n s
    forwardP cf m (jE (t + n)) (jH (t + n)) sim s'.2.2 s'.1 s'.2.1

theorem AxesOK_fwdPN (cf : Cfg α) (m : Mat α) (jE jH : Nat → V3 α) (sim : Bool) (t n : Nat)
    (s : V3 α × V3 α × List (PmlSt α)) (hok : AxesOK s.2.2) : AxesOK (fwdPN cf m jE jH sim t n s).2.2 := by
  induction n with
  | zero => exact hok
  | succ n ih => exact (ih.map (updPsiE cf sim _) fun _ => rfl).map (updPsiH cf sim _) fun _ => rfl

/-- **C08_cpml_steps_equivariant**: runs of any length with CPML layers commute with the relabelling. -/
theorem C08_cpml_steps_equivariant (cf : Cfg α) (m : Mat α) (jE jH : Nat → V3 α) (sim : Bool) (t n : Nat)
    (s : V3 α × V3 α × List (PmlSt α)) (hok : AxesOK s.2.2) :
    fwdPN (rotC cf) (rotM m) (fun u => rotV (jE u)) (fun u => rotV (jH u)) sim t n (rotPS s)
      = rotPS (fwdPN cf m jE jH sim t n s) := by
  induction n with
  | zero => rfl
  | succ n ih =>
    simp only [fwdPN, ih]
    exact C08_cpml_step_equivariant cf m _ _ sim _ (AxesOK_fwdPN cf m jE jH sim t n s hok) _ _

/-! ### backward step with CPML: interface restore, frozen psi, field reset -/

theorem ifaceBox_rot (b : Box) (plus : Bool) : ∀ a < 3, ifaceBox (rotBox b) ((a + 1) % 3) plus = rotBox (ifaceBox b a plus)
  | 0, _ => by cases plus <;> rfl
  | 1, _ => by cases plus <;> rfl
  | 2, _ => by cases plus <;> rfl

/-- "the cell lies in the box `B q` of some PML `q`", for a choice of box that moves with the relabelling
(`onIface`: the interface slice, `inPml`: the grid slice) -/
theorem any_mem_rot (B : Pml α → Box) (ps : List (Pml α)) (hB : ∀ q ∈ ps, B (rotP q) = rotBox (B q)) (i j k : Nat) :
    (ps.map rotP).any (fun q => decide ((B q).mem i j k)) = ps.any (fun q => decide ((B q).mem j k i)) := by
  induction ps with
  | nil => rfl
  | cons q rest ih =>
    rw [List.map_cons, List.any_cons, List.any_cons, ih fun s hs => hB s (.tail _ hs), hB q (.head _),
      decide_eq_decide.2 (mem_rot ..)]

theorem selV_rot (c c' : Nat → Nat → Nat → Bool) (hc : ∀ i j k, c' i j k = c j k i) (A B : V3 α) :
    selV c' (rotV A) (rotV B) = rotV (selV c A B) := by
  simp only [selV, rotV, rotF, hc]
  rfl

theorem restore_rot (pmls : List (PmlSt α)) (hok : AxesOK pmls) (R F : V3 α) :
    restore ((pmls.map (·.p)).map rotP) (rotV R) (rotV F) = rotV (restore (pmls.map (·.p)) R F) := by
  refine selV_rot _ _ (any_mem_rot (fun q => ifaceBox q.box q.axis q.plus) _ (fun q hq => ?_)) R F
  obtain ⟨st, hst, rfl⟩ := List.mem_map.1 hq
  exact ifaceBox_rot _ _ _ (hok st hst)

theorem resetP_rot (ps : List (Pml α)) (F : V3 α) : resetP (ps.map rotP) (rotV F) = rotV (resetP ps F) :=
  selV_rot _ _ (any_mem_rot (·.box) ps fun _ _ => rfl) (constV 0) F

/-- **C08_cpml_backward_equivariant**: the time-reversed step with CPML layers (recorded interface values restored on
every PML's interface slice, reverse H and reverse E with frozen psi, optional zeroing of the PML regions) commutes
with the relabelling. -/
theorem C08_cpml_backward_equivariant (cf : Cfg α) (m : Mat α) (jE jH : V3 α) (pmls : List (PmlSt α))
    (hok : AxesOK pmls) (RE RH : V3 α) (reset : Bool) (E H : V3 α) :
    backwardP (rotC cf) (rotM m) (rotV jE) (rotV jH) (pmls.map rotSt) (rotV RE) (rotV RH) reset (rotV E) (rotV H)
      = (rotV (backwardP cf m jE jH pmls RE RH reset E H).1, rotV (backwardP cf m jE jH pmls RE RH reset E H).2) := by
  have hp : (pmls.map rotSt).map (·.p) = (pmls.map (·.p)).map rotP := by rw [List.map_map, List.map_map]; rfl
  unfold backwardP
  simp only [hp, restore_rot _ hok, C08_curlEp_equivariant cf false pmls hok, revHwith_rot,
    C08_curlHp_equivariant cf false pmls hok, revEwith_rot, resetP_rot]
  cases reset <;> rfl

/-- three relabellings are the identity on PML data with a valid axis -/
theorem C08_cpml_rot_cube (st : PmlSt α) (ha : st.p.axis < 3) : rotSt (rotSt (rotSt st)) = st := by
  have h : ∀ a < 3, (((a + 1) % 3 + 1) % 3 + 1) % 3 = a := by decide
  cases st with | mk p e1 e2 h1 h2 => cases p with | mk ax pl bx kd aE bE ikE aH bH ikH =>
  exact congrArg (fun a => PmlSt.mk (Pml.mk a pl bx kd aE bE ikE aH bH ikH) e1 e2 h1 h2) (h ax ha)

end

/-! ### non-vacuity: a 5×4×6 box with a 2-cell PML at the low x face and a 3-cell PML at the high z face -/

def exPmls : List (PmlSt Int) :=
  [ ⟨⟨0, false, faceBox 5 4 6 0 false 2, true, fun _ => 1, fun _ => 2, fun _ => 1, fun _ => 1, fun _ => 2, fun _ => 1⟩,
      fun i _ _ => i, fun _ j _ => j, fun _ _ k => k, fun _ _ _ => 7⟩,
    ⟨⟨2, true, faceBox 5 4 6 2 true 3, false, fun o => o, fun _ => 2, fun _ => 3, fun o => o, fun _ => 2, fun _ => 3⟩,
      fun _ _ _ => 1, fun _ _ _ => 2, fun _ _ _ => 3, fun _ _ _ => 4⟩ ]

example : AxesOK exPmls := by
  intro st hst
  simp only [exPmls, List.mem_cons, List.mem_nil_iff, or_false] at hst
  rcases hst with h | h <;> subst h <;> decide

/-- the low-x layer becomes a low-y layer of the relabelled 6×5×4 box, the high-z layer a high-x layer; the psi array that
grew along x now grows along y -/
example : ((exPmls.map rotSt).map (fun s => (s.p.axis, s.p.plus, s.p.box)))
    = [(1, false, faceBox 6 5 4 1 false 2), (0, true, faceBox 6 5 4 0 true 3)]
    ∧ ((exPmls.map rotSt).map (fun s => s.e1 3 1 2) = [1, 1]) ∧ (exPmls.map (fun s => s.e1 1 2 3) = [1, 1]) := by decide

end Fdtdx.C08
