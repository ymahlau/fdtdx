/-
C23 — Fabrication clean-up keeps exactly the connected material.

Property theorems about `FdtdxModel/C23.lean` (every shape, every design, every seed; no size bound). Vocabulary
(`FdtdxLemmas/C23Spec.lean`): `Adj` = two cells share a face, `Reach s m seed` = cells of the mask `m` reachable from a
seed cell in the mask through face-adjacent mask cells, `Conn` = `Reach` from the bottom layer z = 0, `OpenAir` =
background `Reach` from the top and the four sides.

The fixpoint loop never exhausts the model's fuel `cells + 2` (so the unbounded `while_loop` of the code and the fuelled
loop of the model agree) and returns the least fixpoint of the dilation round, which is the reachable set. Hence
compute_polymer_connection = `Conn` in both branches, compute_air_connection = `OpenAir`, remove_floating_polymer keeps a
cell iff it is `Conn`, and its result — so that of connect_holes_and_structures — has no floating material (connectivity
taken inside the RESULT). connect_holes_and_structures leaves no enclosed background: loop invariant of the second (air)
loop — "all background in layers ≥ ii is open" — carried from the top layer down (`airStep_inv`, using what
`connect_slice` guarantees about its bounded in-slice floods, FdtdxLemmas/C23Slice.lean); the final clean-up only opens
more. The `max(shape)`-round flood of the tree as found only ever returned connected cells (it lost cells, never kept
floating ones); with the refutation witnesses at the end this pins down what the defect was.
-/
import FdtdxLemmas.C23Slice

namespace Fdtdx.C23

/-! ### the loop reaches a fixpoint -/

/-- `iterate_until_unchanged` started from any array lying in the index box: after one round the iterates
grow inside the mask, so at most `cells s` further rounds change anything; the model's fuel is not exhausted
and the value returned is a fixpoint of the dilation round, lies in the mask, and contains the first iterate. -/
theorem C23_fixFrom_terminates (s : Shape) (m seed : Tab)
    (hb : ∀ i j k, look seed i j k = true → inb s i j k = true) :
    FixSpec s (look m) (stepI s (look m) (look seed)) (look (floodFix s m seed)) :=
  fixFrom_spec s m (cells s + 2) seed hb (.inl (Nat.lt_succ_self _))

/-! ### flood fill = reachability -/

/-- common core: the seed may stick out of the mask as long as its first masked xy-dilation only produces
reachable cells (true for seeds inside the mask and for whole layers) -/
theorem floodFix_eq_reach_of (s : Shape) (m seed : Tab) (sd : Img)
    (hb : ∀ i j k, look seed i j k = true → inb s i j k = true)
    (h1 : ∀ i j k, sub1 s (look m) (look seed) i j k = true → Reach s (look m) sd i j k)
    (h2 : ∀ i j k, inb s i j k = true → look m i j k = true → sd i j k = true → look seed i j k = true)
    (i j k : Nat) : look (floodFix s m seed) i j k = true ↔ Reach s (look m) sd i j k := by
  have sp := C23_fixFrom_terminates s m seed hb
  refine ⟨sp.sound sd (sub3_sound (sub2_sound h1)) i j k, ?_⟩
  refine reach_le_fix sp.inside (by rw [sp.fix]; exact fun _ _ _ h => h) (fun i j k hin hm hs => ?_) i j k
  exact sp.ge _ _ _ (sub1_le_stepI _ _ _
    (masked_iff.mpr ⟨hin, hm, (dilXY_iff _ i j k).mpr (.inl (h2 i j k hin hm hs))⟩))

/-- **flood fill = reachable set**, any shape, any mask, any seed inside the mask. -/
theorem C23_floodFix_eq_reachable (s : Shape) (m seed : Tab)
    (hseed : ∀ i j k, look seed i j k = true → inb s i j k = true ∧ look m i j k = true) (i j k : Nat) :
    look (floodFix s m seed) i j k = true ↔ Reach s (look m) (look seed) i j k := by
  apply floodFix_eq_reach_of s m seed (look seed) (fun i j k h => (hseed i j k h).1)
  · exact sub1_sound (fun i j k h => .base (hseed i j k h).1 (hseed i j k h).2 h)
  · exact fun _ _ _ _ _ h => h

/-- it is the LEAST set containing the seed that a dilation round does not enlarge -/
theorem C23_floodFix_least (s : Shape) (m seed : Tab)
    (hseed : ∀ i j k, look seed i j k = true → inb s i j k = true ∧ look m i j k = true)
    (r : Img) (hin : Inside s (look m) r) (hfix : Sub (stepI s (look m) r) r) (hsr : Sub (look seed) r) :
    Sub (look (floodFix s m seed)) r := by
  intro i j k h
  rw [C23_floodFix_eq_reachable s m seed hseed] at h
  exact reach_le_fix hin hfix (fun i j k _ _ hs => hsr i j k hs) i j k h

theorem look_layer {s : Shape} {kk i j k : Nat} :
    look (layer s kk) i j k = true ↔ inb s i j k = true ∧ decide (k = kk) = true :=
  look_tab_true

theorem look_bottom {s : Shape} {i j k : Nat} :
    look (bottom s) i j k = true ↔ inb s i j k = true ∧ decide (k = 0) = true :=
  look_layer

/-- a whole layer as seed: it sticks out of the mask, and the first masked xy-dilation, which stays in the layer,
cuts it down -/
theorem floodFix_layer (s : Shape) (m : Tab) (kk i j k : Nat) :
    look (floodFix s m (layer s kk)) i j k = true ↔ Reach s (look m) (fun _ _ k => decide (k = kk)) i j k := by
  apply floodFix_eq_reach_of s m (layer s kk)
  · exact fun i j k h => (look_layer.mp h).1
  · intro i j k h
    obtain ⟨hin, hm, hd⟩ := masked_iff.mp h
    refine .base hin hm ?_
    rcases (dilXY_iff _ i j k).mp hd with h0 | ⟨_, _, _, h0⟩
    · exact (look_layer.mp h0).2
    · exact (look_layer.mp h0).2
  · exact fun i j k hin _ hs => look_layer.mpr ⟨hin, hs⟩

/-- **compute_polymer_connection = material connected to the bottom layer** (the code seeds the whole layer
z = 0, also outside the material; the first masked dilation cuts it down). -/
theorem C23_polymerConnection_eq_reachable (s : Shape) (m : Tab) (i j k : Nat) :
    look (polymerConnection s m) i j k = true ↔ Conn s (look m) i j k :=
  floodFix_layer s m 0 i j k

/-- `compute_air_connection` = background reachable from the top face or one of the four side faces -/
theorem C23_airConnection_eq_reachable (s : Shape) (m : Tab) (i j k : Nat) :
    look (airConnection s m) i j k = true ↔ inb s i j k = true ∧ OpenAir s (look m) i j k := by
  unfold airConnection
  simp only []
  rw [C23_floodFix_eq_reachable]
  · unfold OpenAir
    constructor
    · intro h
      refine ⟨h.inb, h.transfer (fun _ _ _ h => (look_tab_true.mp h.mask).2) fun _ _ _ _ hs => ?_⟩
      exact ((Bool.and_eq_true _ _).mp (look_tab_true.mp hs).2).1
    · rintro ⟨-, h⟩
      refine h.transfer (fun _ _ _ h => look_tab_true.mpr ⟨h.inb, h.mask⟩) fun _ _ _ h hs => ?_
      exact look_tab_true.mpr ⟨h.inb, (Bool.and_eq_true _ _).mpr ⟨hs, look_tab_true.mpr ⟨h.inb, h.mask⟩⟩⟩
  · intro i j k h
    obtain ⟨hin, h⟩ := look_tab_true.mp h
    exact ⟨hin, ((Bool.and_eq_true _ _).mp h).2⟩

/-- the z = 1 branch (matrix padded to three layers, seed in the middle layer): every material cell is in the
bottom layer, and the function returns exactly the material. -/
theorem C23_polymerConnection_padded (s : Shape) (m : Tab) (i j k : Nat) :
    look (polymerConnectionPadded s m) i j k = (inb s i j k && (decide (i < s.nx) && decide (j < s.ny) && look m i j 0)) := by
  unfold polymerConnectionPadded
  simp only []
  rw [look_tab]
  refine congrArg _ ?_
  rw [Bool.eq_iff_iff, floodFix_layer, Bool.and_eq_true, Bool.and_eq_true, decide_eq_true_eq, decide_eq_true_eq]
  constructor
  · intro h
    obtain ⟨hin, hm⟩ := look_tab_true.mp h.mask
    exact ⟨⟨(inb_iff.mp hin).1, (inb_iff.mp hin).2.1⟩, ((Bool.and_eq_true _ _).mp hm).2⟩
  · intro h
    have hin : inb ⟨s.nx, s.ny, 3⟩ i j 1 = true := inb_iff.mpr ⟨h.1.1, h.1.2, (by decide : 1 < 3)⟩
    exact .base hin (look_tab_true.mpr ⟨hin, (Bool.and_eq_true _ _).mpr ⟨rfl, h.2⟩⟩) rfl

/-- **compute_polymer_connection, both branches = material connected to the bottom layer** -/
theorem C23_conn_eq_reachable (s : Shape) (m : Tab) (i j k : Nat) :
    look (conn s m) i j k = true ↔ Conn s (look m) i j k := by
  unfold conn
  by_cases hz : s.nz = 1
  · rw [if_pos hz, C23_polymerConnection_padded]
    have hk : inb s i j k = true → k = 0 := fun h => by have := (inb_iff.mp h).2.2; omega
    constructor
    · intro h
      obtain ⟨hin, hm⟩ := (Bool.and_eq_true _ _).mp h
      obtain rfl := hk hin
      exact .base hin ((Bool.and_eq_true _ _).mp hm).2 rfl
    · intro h
      obtain rfl := hk h.inb
      obtain ⟨hi, hj, _⟩ := inb_iff.mp h.inb
      rw [h.inb, h.mask, decide_eq_true hi, decide_eq_true hj]
      rfl
  · rw [if_neg hz]; exact C23_polymerConnection_eq_reachable s m i j k

/-! ### remove_floating_polymer -/

/-- **removing floating material keeps precisely the material cells connected (through face-adjacent material)
to the bottom layer** — any shape, any design. (`Conn` implies "is material".) -/
theorem C23_removeFloating_spec (s : Shape) (m : Tab) (i j k : Nat) :
    look (removeFloating s m) i j k = true ↔ Conn s (look m) i j k := by
  -- `matrix & ~(~connected & matrix)` is `matrix & connected`
  have keep : ∀ b c : Bool, (b && !(!c && b)) = (b && c) := by decide
  unfold removeFloating removeFloatingWith
  rw [look_tab_true, keep, Bool.and_eq_true, C23_conn_eq_reachable]
  exact ⟨fun h => h.2.2, fun h => ⟨h.inb, h.mask, h⟩⟩

theorem C23_removeFloating_removes (s : Shape) (m : Tab) (i j k : Nat)
    (_hm : look m i j k = true) (hn : ¬ Conn s (look m) i j k) : look (removeFloating s m) i j k = false :=
  Bool.eq_false_iff.mpr fun h => hn ((C23_removeFloating_spec s m i j k).mp h)

/-- the result has no floating material: every kept cell is connected to the bottom layer INSIDE THE RESULT -/
theorem C23_removeFloating_no_floating (s : Shape) (m : Tab) (i j k : Nat)
    (h : look (removeFloating s m) i j k = true) : Conn s (look (removeFloating s m)) i j k :=
  ((C23_removeFloating_spec s m i j k).mp h).transfer (fun i j k h => (C23_removeFloating_spec s m i j k).mpr h)
    fun _ _ _ _ hs => hs

theorem C23_removeFloating_idem (s : Shape) (m : Tab) (i j k : Nat) :
    look (removeFloating s (removeFloating s m)) i j k = look (removeFloating s m) i j k := by
  rw [Bool.eq_iff_iff, C23_removeFloating_spec]
  constructor
  · intro h; exact h.mask
  · exact C23_removeFloating_no_floating s m i j k

/-! ### connect_holes_and_structures -/

/-- **the design returned by connect_holes_and_structures has no floating material** (its last step is the
flood-fill clean-up, whatever the slice heuristics did before). -/
theorem C23_connectHoles_no_floating (s : Shape) (m : Tab) (i j k : Nat)
    (h : look (connectHoles s m) i j k = true) : Conn s (look (connectHoles s m)) i j k :=
  C23_removeFloating_no_floating s (connectPre s m) i j k h

/-! ### connect_holes_and_structures leaves no enclosed background -/

/-- every background cell of `m` in a layer `≥ lo` is connected through background to the top or to a side -/
def InvAir (s : Shape) (lo : Nat) (m : Tab) : Prop :=
  ∀ i j k, inb s i j k = true → lo ≤ k → look m i j k = false → OpenAir s (look m) i j k

/-- one iteration of the second loop of `connect_holes_and_structures` (index `ii` counts down from nz to 1) -/
def airStep (s : Shape) (ii : Nat) (m : Tab) : Tab :=
  let s2 : Shape := ⟨s.nx, s.ny, 1⟩
  let cl := fun (k : Nat) => min k (s.nz - 1)
  let lower := if ii = s.nz then onesT s2 else notT s2 (sliceZ s2 m (cl (ii + 1)))
  let r := connectSlice s2 lower (notT s2 (sliceZ s2 m (cl ii))) (notT s2 (sliceZ s2 m (ii - 1)))
    (sliceZ s2 (airConnection s m) (ii - 1))
  setZ s (setZ s m ii (notT s2 r.1)) (ii - 1) (notT s2 r.2)

theorem pass2_succ (s : Shape) (i : Nat) (m : Tab) : pass2 s (i + 1) m = pass2 s i (airStep s (i + 1) m) := rfl

theorem openAir_air {s : Shape} {M : Img} {i j k : Nat} (h : OpenAir s M i j k) : M i j k = false :=
  Eq.mp (Bool.not_eq_true' _) h.mask

theorem air_mask {b : Bool} (h : b = false) : (!b) = true :=
  Eq.mpr (Bool.not_eq_true' _) h

section step

/-- the slices of one iteration with `1 ≤ ii ≤ nz - 1`: shape, the three background slices and the open cells handed to
`connect_slice`, and the two slices it returns -/
abbrev S2 (s : Shape) : Shape := ⟨s.nx, s.ny, 1⟩
abbrev sLw (s : Shape) (ii : Nat) (m : Tab) : Tab :=
  if ii = s.nz then onesT (S2 s) else notT (S2 s) (sliceZ (S2 s) m (min (ii + 1) (s.nz - 1)))
abbrev sMd (s : Shape) (ii : Nat) (m : Tab) : Tab := notT (S2 s) (sliceZ (S2 s) m ii)
abbrev sUp (s : Shape) (ii : Nat) (m : Tab) : Tab := notT (S2 s) (sliceZ (S2 s) m (ii - 1))
abbrev sSv (s : Shape) (ii : Nat) (m : Tab) : Tab := sliceZ (S2 s) (airConnection s m) (ii - 1)
abbrev newMd (s : Shape) (ii : Nat) (m : Tab) : Tab :=
  csMiddle' (S2 s) (sLw s ii m) (sMd s ii m) (sUp s ii m) (sSv s ii m)
abbrev newUp (s : Shape) (ii : Nat) (m : Tab) : Tab :=
  csUpper'' (S2 s) (sLw s ii m) (sMd s ii m) (sUp s ii m) (sSv s ii m)

variable {s : Shape} {ii : Nat} {m : Tab}

theorem inb2 {x y : Nat} : inb (S2 s) x y 0 = true ↔ x < s.nx ∧ y < s.ny :=
  inb_iff.trans ⟨fun h => ⟨h.1, h.2.1⟩, fun h => ⟨h.1, h.2, Nat.one_pos⟩⟩

theorem V_slice {t : Tab} {kk x y : Nat} :
    V (sliceZ (S2 s) t kk) x y = true ↔ x < s.nx ∧ y < s.ny ∧ look t x y kk = true := by
  rw [sliceZ, V_tab, Bool.and_eq_true, inb2, and_assoc]

theorem V_airslice {kk x y : Nat} :
    V (notT (S2 s) (sliceZ (S2 s) m kk)) x y = true ↔ x < s.nx ∧ y < s.ny ∧ look m x y kk = false := by
  rw [notT, V_tab, Bool.and_eq_true, inb2, Bool.not_eq_true', and_assoc, ← Bool.not_eq_true, ← Bool.not_eq_true]
  exact ⟨fun ⟨hx, hy, hn⟩ => ⟨hx, hy, fun hl => hn (V_slice.mpr ⟨hx, hy, hl⟩)⟩,
    fun ⟨hx, hy, hn⟩ => ⟨hx, hy, fun hl => hn (V_slice.mp hl).2.2⟩⟩

theorem look_not2 (t : Tab) {x y : Nat} (hx : x < s.nx) (hy : y < s.ny) :
    look (notT (S2 s) t) x y 0 = !look t x y 0 := by
  rw [notT, look_tab, inb2.mpr ⟨hx, hy⟩, Bool.true_and]

/-- how the matrix changes: layer ii-1 := ¬ upper'', layer ii := ¬ middle', everything else untouched -/
theorem look_airStep (h2 : ii + 1 ≤ s.nz) {i j k : Nat} (hin : inb s i j k = true) :
    look (airStep s ii m) i j k =
      if k = ii - 1 then !V (newUp s ii m) i j else if k = ii then !V (newMd s ii m) i j else look m i j k := by
  obtain ⟨hi, hj, _⟩ := inb_iff.mp hin
  have hmin : min ii (s.nz - 1) = ii := by omega
  unfold airStep
  simp only [hmin, connectSlice_eq]
  rw [setZ, look_tab, hin, Bool.true_and]
  split
  · exact look_not2 _ hi hj
  · rw [setZ, look_tab, hin, Bool.true_and]
    split
    · exact look_not2 _ hi hj
    · rfl

theorem hS_step (x y : Nat) (h : V (sSv s ii m) x y = true) : V (sUp s ii m) x y = true := by
  obtain ⟨hx, hy, h⟩ := V_slice.mp h
  exact V_airslice.mpr ⟨hx, hy, openAir_air ((C23_airConnection_eq_reachable s m x y (ii - 1)).mp h).2⟩

theorem hU_step (x y : Nat) (h : V (sUp s ii m) x y = true) : inb (S2 s) x y 0 = true :=
  inb2.mpr ⟨(V_airslice.mp h).1, (V_airslice.mp h).2.1⟩

theorem open_stays_air (h2 : ii + 1 ≤ s.nz) {x y k : Nat} (hin : inb s x y k = true)
    (hop : OpenAir s (look m) x y k) : look (airStep s ii m) x y k = false := by
  obtain ⟨hx, hy, _⟩ := inb_iff.mp hin
  rw [look_airStep h2 hin]
  split
  · next hk =>
    subst hk
    have hsv : V (sSv s ii m) x y = true :=
      V_slice.mpr ⟨hx, hy, (C23_airConnection_eq_reachable s m x y (ii - 1)).mpr ⟨hin, hop⟩⟩
    rw [save_sub_upper'' hS_step hU_step hsv]; rfl
  · split
    · next hk =>
      subst hk
      rw [V_csMiddle'.mpr ⟨inb2.mpr ⟨hx, hy⟩, .inl (V_airslice.mpr ⟨hx, hy, openAir_air hop⟩)⟩]; rfl
    · exact openAir_air hop

theorem open_preserved (h2 : ii + 1 ≤ s.nz) {x y k : Nat} (hop : OpenAir s (look m) x y k) :
    OpenAir s (look (airStep s ii m)) x y k :=
  hop.transfer (fun _ _ _ h => air_mask (open_stays_air h2 h.inb h)) fun _ _ _ _ hs => hs

/-- the background of layer `ii` after the iteration is open: it was background (open by the invariant), or lies beside
or below such a cell -/
theorem layer_ii_open (h1 : 1 ≤ ii) (h2 : ii + 1 ≤ s.nz) (hinv : InvAir s ii m) {x y : Nat}
    (hin : inb s x y ii = true) (hair : look (airStep s ii m) x y ii = false) :
    OpenAir s (look (airStep s ii m)) x y ii := by
  obtain ⟨hx, hy, hk⟩ := inb_iff.mp hin
  have hmask := air_mask hair
  -- background of the old layer `ii` (or above) stays open
  have hold : ∀ {x y k}, x < s.nx → y < s.ny → k < s.nz → ii ≤ k → look m x y k = false →
      OpenAir s (look (airStep s ii m)) x y k := fun hx hy hk hle h =>
    open_preserved h2 (hinv _ _ _ (inb_iff.mpr ⟨hx, hy, hk⟩) hle h)
  rw [look_airStep h2 hin, if_neg (by omega), if_pos rfl, Bool.not_eq_false'] at hair
  rcases (V_csMiddle'.mp hair).2 with hM | hbl
  · exact hold hx hy hk (Nat.le_refl _) (V_airslice.mp hM).2.2
  · rcases (V_csByLower.mp hbl).2.2 with hdil | hlow
    · rcases (dilXY_iff _ x y 0).mp hdil with hM | ⟨x', y', hadj, hM⟩
      · exact hold hx hy hk (Nat.le_refl _) (V_airslice.mp hM).2.2
      · obtain ⟨hx', hy', hM⟩ := V_airslice.mp hM
        exact .step (hold hx' hy' hk (Nat.le_refl _) hM) (hadj.adj_xy ii) hin hmask
    · rw [sLw, if_neg (by omega)] at hlow
      obtain ⟨_, _, hlow⟩ := V_airslice.mp hlow
      by_cases hlast : ii + 1 ≤ s.nz - 1
      · rw [Nat.min_eq_left hlast] at hlow
        exact .step (hold hx hy (by omega) (by omega) hlow) (.inr (.inr ⟨rfl, rfl, .inl rfl⟩)) hin hmask
      · rw [Nat.min_eq_right (by omega), (by omega : s.nz - 1 = ii)] at hlow
        exact hold hx hy hk (Nat.le_refl _) hlow

/-- **one iteration of the air loop establishes the next layer**: if all background in layers ≥ ii is open before, all
background in layers ≥ ii-1 is open after. -/
theorem airStep_inv (h1 : 1 ≤ ii) (h2 : ii + 1 ≤ s.nz) (hinv : InvAir s ii m) : InvAir s (ii - 1) (airStep s ii m) := by
  -- the background of the new layer ii-1 is the upper slice that `connect_slice` returns
  have hup : ∀ {x y}, x < s.nx → y < s.ny →
      (look (airStep s ii m) x y (ii - 1) = false ↔ V (newUp s ii m) x y = true) := fun hx hy => by
    rw [look_airStep h2 (inb_iff.mpr ⟨hx, hy, by omega⟩), if_pos rfl, Bool.not_eq_false']
  have hnew : ∀ {x y}, V (newUp s ii m) x y = true → (x < s.nx ∧ y < s.ny) ∧
      inb s x y (ii - 1) = true ∧ (!look (airStep s ii m) x y (ii - 1)) = true := fun hu =>
    have hxy := inb2.mp (V_csUpper''.mp hu).1
    ⟨hxy, inb_iff.mpr ⟨hxy.1, hxy.2, by omega⟩, air_mask ((hup hxy.1 hxy.2).mpr hu)⟩
  have hopen : ∀ x y, V (newUp s ii m) x y = true → OpenAir s (look (airStep s ii m)) x y (ii - 1) := by
    refine upper''_grounded hS_step hU_step (fun x y => OpenAir s (look (airStep s ii m)) x y (ii - 1))
      (fun x y hsrc hu => ?_) fun x' y' x y hg hadj hu => .step hg (hadj.adj_xy (ii - 1)) (hnew hu).2.1 (hnew hu).2.2
    -- a source is a saved, already open cell, or lies below an open cell of layer ii
    obtain ⟨hxy, hin, hmask⟩ := hnew hu
    have hin' : inb s x y ii = true := inb_iff.mpr ⟨hxy.1, hxy.2, by omega⟩
    have hdown : OpenAir s (look (airStep s ii m)) x y ii → OpenAir s (look (airStep s ii m)) x y (ii - 1) :=
      fun hab => .step hab (.inr (.inr ⟨rfl, rfl, .inl (by omega)⟩)) hin hmask
    rcases hsrc with h | h
    · rcases (V_csCp0.mp h).2 with ⟨_, hM⟩ | hsv
      · exact hdown (open_preserved h2 (hinv x y ii hin' (Nat.le_refl _) (V_airslice.mp hM).2.2))
      · exact open_preserved h2 ((C23_airConnection_eq_reachable s m x y (ii - 1)).mp (V_slice.mp hsv).2.2).2
    · refine hdown (layer_ii_open h1 h2 hinv hin' ?_)
      rw [look_airStep h2 hin', if_neg (by omega), if_pos rfl, V_csMiddle'.mpr ⟨inb2.mpr hxy, .inr h⟩]; rfl
  intro x y k hin hk hair
  obtain ⟨hx, hy, _⟩ := inb_iff.mp hin
  by_cases hk1 : k = ii - 1
  · subst hk1; exact hopen x y ((hup hx hy).mp hair)
  · by_cases hk2 : k = ii
    · subst hk2; exact layer_ii_open h1 h2 hinv hin hair
    · rw [look_airStep h2 hin, if_neg hk1, if_neg hk2] at hair
      exact open_preserved h2 (hinv x y k hin (by omega) hair)

end step

/-- background in the top layer is open by definition -/
theorem top_layer_inv (s : Shape) (m : Tab) : InvAir s (s.nz - 1) m := by
  intro i j k hin hk hair
  have := (inb_iff.mp hin).2.2
  refine .base hin (air_mask hair) ?_
  simp [faces, (by omega : k + 1 = s.nz)]

theorem pass2_inv (s : Shape) : ∀ (ii : Nat) (m : Tab), ii + 1 ≤ s.nz → InvAir s ii m → InvAir s 0 (pass2 s ii m)
  | 0, _, _, h => h
  | ii + 1, m, h2, hinv => by
    rw [pass2_succ]
    exact pass2_inv s ii _ (by omega) (airStep_inv (by omega) h2 hinv)

/-- after the second loop of `connect_holes_and_structures` every background cell is connected through background to the
top or to a side — whatever the first loop produced -/
theorem connectPre_open (s : Shape) (m : Tab) : InvAir s 0 (connectPre s m) := by
  unfold connectPre
  generalize pass1 s (s.nz - 1) 0 m = x0
  cases hnz : s.nz with
  | zero => exact fun i j k hin => absurd (inb_iff.mp hin).2.2 (by omega)
  | succ n =>
    rw [pass2_succ]
    have htop := top_layer_inv s (airStep s (n + 1) x0)
    rw [hnz] at htop
    exact pass2_inv s n _ (by omega) htop

theorem removeFloating_air {s : Shape} {x : Tab} {i j k : Nat} (h : look x i j k = false) :
    look (removeFloating s x) i j k = false :=
  Bool.eq_false_iff.mpr fun h1 => Bool.false_ne_true (h.symm.trans ((C23_removeFloating_spec s x i j k).mp h1).mask)

/-- removing floating material only turns material into background, so open background stays open … -/
theorem removeFloating_open_mono (s : Shape) (x : Tab) {i j k : Nat} (h : OpenAir s (look x) i j k) :
    OpenAir s (look (removeFloating s x)) i j k :=
  h.transfer (fun _ _ _ h => air_mask (removeFloating_air (openAir_air h))) fun _ _ _ _ hs => hs

/-- … and the removed material itself becomes open background: walking straight up from a removed cell one stays inside
removed material until the top face or open background is met -/
theorem removeFloating_inv (s : Shape) (x : Tab) (hx : InvAir s 0 x) : InvAir s 0 (removeFloating s x) := by
  have key : ∀ (d k : Nat), s.nz - k = d → ∀ i j, inb s i j k = true → look (removeFloating s x) i j k = false →
      OpenAir s (look (removeFloating s x)) i j k := by
    intro d
    induction d with
    | zero => exact fun k hd i j hin _ => absurd (inb_iff.mp hin).2.2 (by omega)
    | succ d ih =>
      intro k hd i j hin hair
      obtain ⟨hi, hj, hk⟩ := inb_iff.mp hin
      have up : Adj i j (k + 1) i j k := .inr (.inr ⟨rfl, rfl, .inl rfl⟩)
      cases hxm : look x i j k
      · exact removeFloating_open_mono s x (hx i j k hin (Nat.zero_le _) hxm)
      · by_cases htop : k + 1 = s.nz
        · exact .base hin (air_mask hair) (by simp [faces, htop])
        · have hin' : inb s i j (k + 1) = true := inb_iff.mpr ⟨hi, hj, by omega⟩
          cases hup : look (removeFloating s x) i j (k + 1)
          · exact .step (ih (k + 1) (by omega) i j hin' hup) up hin (air_mask hair)
          · have : Conn s (look x) i j k := .step ((C23_removeFloating_spec s x i j (k + 1)).mp hup) up hin hxm
            rw [(C23_removeFloating_spec s x i j k).mpr this] at hair
            exact Bool.noConfusion hair
  intro i j k hin _ hair
  exact key (s.nz - k) k rfl i j hin hair

/-- **connect_holes_and_structures leaves no background region enclosed away from the sides and the top**: every
background cell of the result is connected, through face-adjacent background cells of the result, to the top layer or to
one of the four side faces — any shape, any input design. -/
theorem C23_connectHoles_no_enclosed (s : Shape) (m : Tab) (i j k : Nat) (hin : inb s i j k = true)
    (h : look (connectHoles s m) i j k = false) : OpenAir s (look (connectHoles s m)) i j k :=
  removeFloating_inv s (connectPre s m) (connectPre_open s m) i j k hin (Nat.zero_le _) h

/-- **second clause of the property, complete**: the result has no floating material and no enclosed background -/
theorem C23_connectHoles_spec (s : Shape) (m : Tab) (i j k : Nat) (hin : inb s i j k = true) :
    (look (connectHoles s m) i j k = true → Conn s (look (connectHoles s m)) i j k) ∧
    (look (connectHoles s m) i j k = false → OpenAir s (look (connectHoles s m)) i j k) :=
  ⟨C23_connectHoles_no_floating s m i j k, C23_connectHoles_no_enclosed s m i j k hin⟩

/-! ### the tree as found: `max(shape)` rounds -/

/-- any number of plain rounds from the bottom layer, at least one, marks connected cells only: after the first round
everything lies in the fixpoint, which is `Conn`, and further rounds only add connected cells -/
theorem floodN_sound (s : Shape) (m : Tab) (n i j k : Nat)
    (h : look (AsFound.floodN s m (bottom s) (n + 1)) i j k = true) : Conn s (look m) i j k := by
  rw [AsFound.floodN, iterN_succ] at h
  refine iterN_induction (P := fun a => ∀ i j k, look a i j k = true → Conn s (look m) i j k)
    (fun a h i j k => by rw [look_step]; exact stepI_sound h i j k) n _ (fun i j k h => ?_) i j k h
  rw [look_step] at h
  exact (C23_polymerConnection_eq_reachable s m i j k).mp
    ((C23_fixFrom_terminates s m (bottom s) fun i j k h => (look_bottom.mp h).1).ge i j k h)

/-- as found, the flood never marked a cell that is not connected (it only stopped too early) -/
theorem C23_asFound_sound (s : Shape) (m : Tab) (i j k : Nat)
    (h : look (AsFound.polymerConnection s m) i j k = true) : Conn s (look m) i j k := by
  -- the cell lies in the grid, so `max(shape)` is at least one round
  have hin := iterN_induction (P := fun a => ∀ i j k, look a i j k = true → inb s i j k = true)
    (fun a _ i j k h => (stepI_inside i j k (look_step s m a ▸ h)).1) _ _
    (fun i j k h => (look_bottom.mp h).1) i j k h
  obtain ⟨n, hn⟩ := Nat.exists_eq_succ_of_ne_zero (Nat.ne_of_gt
    (Nat.lt_of_lt_of_le (Nat.zero_lt_of_lt (inb_iff.mp hin).1) (Nat.le_max_left s.nx (max s.ny s.nz))))
  rw [AsFound.polymerConnection, hn] at h
  exact floodN_sound s m n i j k h

/-! ### non-vacuity and refutation witnesses -/

/-- serpentine in the xz-plane of a 5×3×5 grid: rows z = 0, 2, 4 joined at alternating ends (17 cells, all
connected to the bottom row) -/
def serp55 : Tab := tab ⟨5, 3, 5⟩ fun i j k =>
  decide (j = 0) && (decide (k % 2 = 0) || (decide (k = 1) && decide (i = 4)) || (decide (k = 3) && decide (i = 0)))

/-- up the right end, back along row z = 2, up the left end, along row z = 4 -/
theorem serp55_conn : Conn ⟨5, 3, 5⟩ (look serp55) 4 0 4 := by
  have h : Conn ⟨5, 3, 5⟩ (look serp55) 4 0 2 := reach_run (fun _ => 4) (fun _ => 0) (fun t => t) 2 (.base rfl rfl rfl)
    (fun t _ => .inr (.inr ⟨rfl, rfl, .inr rfl⟩)) (by decide +kernel)
  have h : Conn ⟨5, 3, 5⟩ (look serp55) 0 0 2 := reach_run (fun t => 4 - t) (fun _ => 0) (fun _ => 2) 4 h
    (fun t _ => .inl ⟨rfl, rfl, .inl (by omega)⟩) (by decide +kernel)
  have h : Conn ⟨5, 3, 5⟩ (look serp55) 0 0 4 := reach_run (fun _ => 0) (fun _ => 0) (fun t => 2 + t) 2 h
    (fun t _ => .inr (.inr ⟨rfl, rfl, .inr rfl⟩)) (by decide +kernel)
  exact reach_run (fun t => t) (fun _ => 0) (fun _ => 4) 4 h (fun t _ => .inl ⟨rfl, rfl, .inr rfl⟩) (by decide +kernel)

/-- the full statement FAILS for the tree as found: the far end of the serpentine is material, is connected to
the bottom layer (hence kept by the fixed function, `C23_removeFloating_spec`), and was removed. -/
example : look serp55 4 0 4 = true ∧ look (removeFloating ⟨5, 3, 5⟩ serp55) 4 0 4 = true
    ∧ look (AsFound.removeFloating ⟨5, 3, 5⟩ serp55) 4 0 4 = false :=
  ⟨by decide +kernel, (C23_removeFloating_spec _ _ _ _ _).mpr serp55_conn, by decide +kernel⟩

example : Conn ⟨5, 3, 5⟩ (look serp55) 4 0 4 :=
  serp55_conn

/-- as found, z = 1: the seed sat in the padding layer, nothing was connected, everything was removed -/
example : look (AsFound.polymerConnectionPadded ⟨3, 3, 1⟩ (tab ⟨3, 3, 1⟩ fun _ _ _ => true)) 1 1 0 = false
    ∧ look (conn ⟨3, 3, 1⟩ (tab ⟨3, 3, 1⟩ fun _ _ _ => true)) 1 1 0 = true :=
  ⟨by decide +kernel, (C23_conn_eq_reachable _ _ _ _ _).mpr (.base (by decide) (by decide +kernel) rfl)⟩

/-- a floating cell is not `Conn` (the specification is not trivially true) … -/
example : ¬ Conn ⟨3, 3, 3⟩ (look (tab ⟨3, 3, 3⟩ fun i j k => decide (k = 0) || (decide (i = 1) && decide (j = 1) && decide (k = 2)))) 1 1 2 := by
  rw [← C23_removeFloating_spec]; decide +kernel
/-- … and a path of two steps is -/
example : Conn ⟨3, 3, 3⟩ (fun _ _ _ => true) 1 0 1 :=
  .step (.step (.base (i := 0) (j := 0) (k := 0) (by decide) rfl (by decide))
    (Or.inl ⟨rfl, rfl, Or.inr rfl⟩) (by decide) rfl) (Or.inr (Or.inr ⟨rfl, rfl, Or.inr rfl⟩)) (by decide) rfl

/-! the hypotheses / conclusions of `C23_connectHoles_no_enclosed` on concrete designs: the two slice loops are
evaluated, the final clean-up keeps what stands on the bottom layer -/

theorem conn_column {s : Shape} {m : Img} {i j : Nat} (k : Nat)
    (h : ∀ k' ≤ k, inb s i j k' = true ∧ m i j k' = true) : Conn s m i j k :=
  reach_run (fun _ => i) (fun _ => j) (fun t => t) k (.base (h 0 (Nat.zero_le k)).1 (h 0 (Nat.zero_le k)).2 rfl)
    (fun _ _ => .inr (.inr ⟨rfl, rfl, .inr rfl⟩)) fun t ht => h (t + 1) ht

/-- solid 3×3×3 block with one enclosed background cell in the centre: the cavity is not open before and is filled
afterwards -/
def cavity3 : Tab := tab ⟨3, 3, 3⟩ fun i j k => !(decide (i = 1) && decide (j = 1) && decide (k = 1))
example : look cavity3 1 1 1 = false ∧ look (airConnection ⟨3, 3, 3⟩ cavity3) 1 1 1 = false
    ∧ look (connectHoles ⟨3, 3, 3⟩ cavity3) 1 1 1 = true :=
  ⟨by decide +kernel, by decide +kernel, (C23_removeFloating_spec _ _ _ _ _).mpr (conn_column 1 (by decide +kernel))⟩
/-- a slab with a pillar: background remains and (by the theorem) is open -/
def pillar3 : Tab := tab ⟨3, 3, 3⟩ fun i j k => decide (k = 0) || (decide (i = 1) && decide (j = 1))

theorem pillar3_pre : look (connectPre ⟨3, 3, 3⟩ pillar3) 0 0 1 = false ∧
    ∀ k ≤ 2, inb ⟨3, 3, 3⟩ 1 1 k = true ∧ look (connectPre ⟨3, 3, 3⟩ pillar3) 1 1 k = true := by decide +kernel

theorem pillar3_air : look (connectHoles ⟨3, 3, 3⟩ pillar3) 0 0 1 = false :=
  removeFloating_air pillar3_pre.1

example : look (connectHoles ⟨3, 3, 3⟩ pillar3) 0 0 1 = false ∧ look (connectHoles ⟨3, 3, 3⟩ pillar3) 1 1 2 = true :=
  ⟨pillar3_air, (C23_removeFloating_spec _ _ _ _ _).mpr (conn_column 2 pillar3_pre.2)⟩
example : OpenAir ⟨3, 3, 3⟩ (look (connectHoles ⟨3, 3, 3⟩ pillar3)) 0 0 1 :=
  C23_connectHoles_no_enclosed _ _ 0 0 1 (by decide) pillar3_air

end Fdtdx.C23
