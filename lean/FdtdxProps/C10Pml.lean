/-
C10 — linearity of the WHOLE CPML field loop and of the full-tensor (3×3) anisotropic step.

State of a run with `PerfectlyMatchedLayer` objects = (E, H, auxiliary psi arrays of every layer); the step is
`Cpml.forwardP` (update_E with curl_H + psi_E corrections, update_H with curl_E of the new E + psi_H corrections, both
`simulate_boundaries` branches, both kappa branches, any list of layers on any axes / boxes / coefficient arrays).
Over any field, for every shape, halo rule, walls, metric, diagonal materials with or without conductivities:

  C10_cpml_affine          forwardP (a•(j,s,psi)₁ + b•(j,s,psi)₂) = a•forwardP (…)₁ + b•forwardP (…)₂     (fields AND psi)
  C10_cpml_affine_steps    … after n steps with step-indexed sources (induction; the layers' static data is invariant)
  C10_aniso_affine         the any-tier step `YeeAniso.forwardA` (full 3×3 ε⁻¹, μ⁻¹, σ tensors, uniform or
                           spacing-weighted neighbour averages, tier dispatch) is linear in (sources, E, H)
  C10_aniso_affine_steps   … after n steps
-/
import FdtdxProps.C10
import FdtdxModel.C10Ext
import FdtdxModel.YeeAniso

namespace Fdtdx.C10
open Fdtdx Fdtdx.Yee Fdtdx.C02 Fdtdx.Cpml Fdtdx.YeeAniso

section
variable {K : Type}

/-- the layers of two runs have the same static data -/
def SameP (l1 l2 : List (PmlSt K)) : Prop := List.Forall₂ (fun s t => t.p = s.p) l1 l2

theorem PmlSt.ext' (s t : PmlSt K) (hp : s.p = t.p) (h1 : ∀ i j k, s.e1 i j k = t.e1 i j k)
    (h2 : ∀ i j k, s.e2 i j k = t.e2 i j k) (h3 : ∀ i j k, s.h1 i j k = t.h1 i j k) (h4 : ∀ i j k, s.h2 i j k = t.h2 i j k) :
    s = t := by
  cases s; cases t
  simp only [PmlSt.mk.injEq]
  exact ⟨hp, funext₃ h1, funext₃ h2, funext₃ h3, funext₃ h4⟩

theorem sameP_map (f g : PmlSt K → PmlSt K) (hf : ∀ s, (f s).p = s.p) (hg : ∀ s, (g s).p = s.p) (l1 l2 : List (PmlSt K))
    (h : SameP l1 l2) : SameP (l1.map f) (l2.map g) := by
  induction h with
  | nil => exact List.Forall₂.nil
  | cons hp _ ih => exact List.Forall₂.cons (by rw [hf, hg]; exact hp) ih

variable [Field K]

/-! ### CPML -/
section
variable {a b : K}

theorem get_lin (A B : V3 K) (c : Nat) : V3.get (linV a b A B) c = linF a b (V3.get A c) (V3.get B c) := by
  rcases c with _ | _ | c <;> rfl

/-- one `step_cpml` call of the PML loops: `D` is the directional difference (`dFwd` in `curl_E`, `dBwd` in `curl_H`)
of component `c` of the field, `q` the auxiliary array; `stepCpml1` is `cpmlStep` with the coefficients of the cell -/
theorem cpmlCell_lin {D : Cfg K → Nat → F3 K → F3 K}
    (hD : ∀ cf ax f g i j k, D cf ax (linF a b f g) i j k = a * D cf ax f i j k + b * D cf ax g i j k)
    {p : Pml K} {isE sim : Bool} {o ax c : Nat} {cf : Cfg K} {A B : V3 K} {q1 q2 : F3 K} {i j k : Nat} :
    stepCpml1 p isE sim o (D cf ax (V3.get (linV a b A B) c) i j k) (linF a b q1 q2 i j k)
      = (a * (stepCpml1 p isE sim o (D cf ax (V3.get A c) i j k) (q1 i j k)).1
          + b * (stepCpml1 p isE sim o (D cf ax (V3.get B c) i j k) (q2 i j k)).1,
         a * (stepCpml1 p isE sim o (D cf ax (V3.get A c) i j k) (q1 i j k)).2
          + b * (stepCpml1 p isE sim o (D cf ax (V3.get B c) i j k) (q2 i j k)).2) := by
  rw [get_lin, hD]
  exact C10_cpml_linear ..

variable (cf : Cfg K) (sim : Bool)

theorem applyE_lin (E1 E2 : V3 K) (comp i j k : Nat) (x y : K) (s t : PmlSt K) (hp : t.p = s.p) :
    applyE cf sim (linV a b E1 E2) comp i j k (a * x + b * y) (linSt a b s t)
      = a * applyE cf sim E1 comp i j k x s + b * applyE cf sim E2 comp i j k y t := by
  unfold applyE
  rw [hp]
  exact lin_ite _ (lin_ite _ (lin_sub rfl (congrArg Prod.fst (cpmlCell_lin dFwd_lin)))
    (lin_ite _ (lin_add rfl (congrArg Prod.fst (cpmlCell_lin dFwd_lin))) rfl)) rfl

theorem applyH_lin (H1 H2 : V3 K) (comp i j k : Nat) (x y : K) (s t : PmlSt K) (hp : t.p = s.p) :
    applyH cf sim (linV a b H1 H2) comp i j k (a * x + b * y) (linSt a b s t)
      = a * applyH cf sim H1 comp i j k x s + b * applyH cf sim H2 comp i j k y t := by
  unfold applyH
  rw [hp]
  exact lin_ite _ (lin_ite _ (lin_sub rfl (congrArg Prod.fst (cpmlCell_lin dBwd_lin)))
    (lin_ite _ (lin_add rfl (congrArg Prod.fst (cpmlCell_lin dBwd_lin))) rfl)) rfl

/-- the PML loop of a curl component is a left fold over the layers -/
theorem fold_lin (ap ap1 ap2 : K → PmlSt K → K)
    (h : ∀ x y s t, t.p = s.p → ap (a * x + b * y) (linSt a b s t) = a * ap1 x s + b * ap2 y t)
    (l1 l2 : List (PmlSt K)) (hl : SameP l1 l2) : ∀ x y : K,
    (linPmls a b l1 l2).foldl ap (a * x + b * y) = a * l1.foldl ap1 x + b * l2.foldl ap2 y := by
  induction hl with
  | nil => intro x y; rfl
  | cons hp _ ih =>
    intro x y
    simp only [linPmls, List.zipWith_cons_cons, List.foldl_cons]
    rw [h x y _ _ hp]
    exact ih _ _

/-- `curl_E` with all its PML corrections is linear in (E, psi_H) -/
theorem curlEp_lin (l1 l2 : List (PmlSt K)) (h : SameP l1 l2) (E1 E2 : V3 K) :
    curlEp cf sim (linPmls a b l1 l2) (linV a b E1 E2) = linV a b (curlEp cf sim l1 E1) (curlEp cf sim l2 E2) := by
  apply V3.ext' <;> intro i j k <;> simp only [curlEp, curlE_lin, linV_x, linV_y, linV_z] <;>
    exact fold_lin _ _ _ (applyE_lin cf sim E1 E2 _ i j k) l1 l2 h _ _

theorem curlHp_lin (l1 l2 : List (PmlSt K)) (h : SameP l1 l2) (H1 H2 : V3 K) :
    curlHp cf sim (linPmls a b l1 l2) (linV a b H1 H2) = linV a b (curlHp cf sim l1 H1) (curlHp cf sim l2 H2) := by
  apply V3.ext' <;> intro i j k <;> simp only [curlHp, curlH_lin, linV_x, linV_y, linV_z] <;>
    exact fold_lin _ _ _ (applyH_lin cf sim H1 H2 _ i j k) l1 l2 h _ _

theorem updPsiH_lin (E1 E2 : V3 K) (s t : PmlSt K) (hp : t.p = s.p) :
    updPsiH cf sim (linV a b E1 E2) (linSt a b s t) = linSt a b (updPsiH cf sim E1 s) (updPsiH cf sim E2 t) := by
  obtain ⟨_, _, _, _, _⟩ := t
  subst hp
  apply PmlSt.ext'
  · rfl
  · exact fun _ _ _ => rfl
  · exact fun _ _ _ => rfl
  · exact fun _ _ _ => lin_ite _ (congrArg Prod.snd (cpmlCell_lin dFwd_lin)) rfl
  · exact fun _ _ _ => lin_ite _ (congrArg Prod.snd (cpmlCell_lin dFwd_lin)) rfl

theorem updPsiE_lin (H1 H2 : V3 K) (s t : PmlSt K) (hp : t.p = s.p) :
    updPsiE cf sim (linV a b H1 H2) (linSt a b s t) = linSt a b (updPsiE cf sim H1 s) (updPsiE cf sim H2 t) := by
  obtain ⟨_, _, _, _, _⟩ := t
  subst hp
  apply PmlSt.ext'
  · rfl
  · exact fun _ _ _ => lin_ite _ (congrArg Prod.snd (cpmlCell_lin dBwd_lin)) rfl
  · exact fun _ _ _ => lin_ite _ (congrArg Prod.snd (cpmlCell_lin dBwd_lin)) rfl
  · exact fun _ _ _ => rfl
  · exact fun _ _ _ => rfl

theorem map_lin (u u1 u2 : PmlSt K → PmlSt K) (h : ∀ s t, t.p = s.p → u (linSt a b s t) = linSt a b (u1 s) (u2 t))
    (l1 l2 : List (PmlSt K)) (hl : SameP l1 l2) :
    (linPmls a b l1 l2).map u = linPmls a b (l1.map u1) (l2.map u2) := by
  induction hl with
  | nil => rfl
  | cons hp _ ih =>
    simp only [linPmls, List.zipWith_cons_cons, List.map_cons] at ih ⊢
    rw [h _ _ hp, ih]

end

/-- **C10_cpml_affine**: one time step with any set of CPML layers is linear in (sources, E, H, all psi arrays). -/
theorem C10_cpml_affine (cf : Cfg K) (m : Mat K) (a b : K) (jE1 jE2 jH1 jH2 : V3 K) (sim : Bool)
    (l1 l2 : List (PmlSt K)) (h : SameP l1 l2) (E1 E2 H1 H2 : V3 K) :
    forwardP cf m (linV a b jE1 jE2) (linV a b jH1 jH2) sim (linPmls a b l1 l2) (linV a b E1 E2) (linV a b H1 H2)
      = (linV a b (forwardP cf m jE1 jH1 sim l1 E1 H1).1 (forwardP cf m jE2 jH2 sim l2 E2 H2).1,
         linV a b (forwardP cf m jE1 jH1 sim l1 E1 H1).2.1 (forwardP cf m jE2 jH2 sim l2 E2 H2).2.1,
         linPmls a b (forwardP cf m jE1 jH1 sim l1 E1 H1).2.2 (forwardP cf m jE2 jH2 sim l2 E2 H2).2.2) := by
  have h1 : SameP (l1.map (updPsiE cf sim H1)) (l2.map (updPsiE cf sim H2)) :=
    sameP_map (updPsiE cf sim H1) (updPsiE cf sim H2) (fun _ => rfl) (fun _ => rfl) l1 l2 h
  simp only [forwardP]
  rw [curlHp_lin cf sim l1 l2 h, updEwith_lin, map_lin _ _ _ (updPsiE_lin cf sim H1 H2) l1 l2 h,
    curlEp_lin cf sim _ _ h1, updHwith_lin, map_lin _ _ _ (updPsiH_lin cf sim _ _) _ _ h1]

/-- the static layer data never changes during a run -/
theorem forwardP_sameP (cf : Cfg K) (m : Mat K) (jE1 jE2 jH1 jH2 : V3 K) (sim : Bool)
    (l1 l2 : List (PmlSt K)) (h : SameP l1 l2) (E1 E2 H1 H2 : V3 K) :
    SameP (forwardP cf m jE1 jH1 sim l1 E1 H1).2.2 (forwardP cf m jE2 jH2 sim l2 E2 H2).2.2 := by
  simp only [forwardP]
  exact sameP_map (updPsiH cf sim _) (updPsiH cf sim _) (fun _ => rfl) (fun _ => rfl) _ _
    (sameP_map (updPsiE cf sim H1) (updPsiE cf sim H2) (fun _ => rfl) (fun _ => rfl) l1 l2 h)

/-- n steps with CPML layers, sources indexed by the step -/
def fwdPN (cf : Cfg K) (m : Mat K) (jE jH : Nat → V3 K) (sim : Bool) (t : Nat) :
    Nat → V3 K × V3 K × List (PmlSt K) → V3 K × V3 K × List (PmlSt K)
  | 0, s => s
  | n + 1, s => let s' := fwdPN cf m jE jH sim t n s; forwardP cf m (jE (t + n)) (jH (t + n)) sim s'.2.2 s'.1 s'.2.1

/-- **C10_cpml_affine_steps**: n steps with CPML layers are linear in (step-indexed sources, E, H, psi). -/
theorem C10_cpml_affine_steps (cf : Cfg K) (m : Mat K) (a b : K) (jE1 jE2 jH1 jH2 : Nat → V3 K) (sim : Bool) (t n : Nat)
    (l1 l2 : List (PmlSt K)) (h : SameP l1 l2) (E1 E2 H1 H2 : V3 K) :
    fwdPN cf m (fun s => linV a b (jE1 s) (jE2 s)) (fun s => linV a b (jH1 s) (jH2 s)) sim t n
        (linV a b E1 E2, linV a b H1 H2, linPmls a b l1 l2)
      = (linV a b (fwdPN cf m jE1 jH1 sim t n (E1, H1, l1)).1 (fwdPN cf m jE2 jH2 sim t n (E2, H2, l2)).1,
         linV a b (fwdPN cf m jE1 jH1 sim t n (E1, H1, l1)).2.1 (fwdPN cf m jE2 jH2 sim t n (E2, H2, l2)).2.1,
         linPmls a b (fwdPN cf m jE1 jH1 sim t n (E1, H1, l1)).2.2 (fwdPN cf m jE2 jH2 sim t n (E2, H2, l2)).2.2)
    ∧ SameP (fwdPN cf m jE1 jH1 sim t n (E1, H1, l1)).2.2 (fwdPN cf m jE2 jH2 sim t n (E2, H2, l2)).2.2 := by
  induction n with
  | zero => exact ⟨rfl, h⟩
  | succ n ih =>
    obtain ⟨ihe, ihs⟩ := ih
    simp only [fwdPN]
    rw [ihe]
    exact ⟨C10_cpml_affine cf m a b _ _ _ _ sim _ _ ihs _ _ _ _, forwardP_sameP cf m _ _ _ _ sim _ _ ihs _ _ _ _⟩

/-! ### full 3×3 tensors -/

section
variable {a b : K} (cf : Cfg K) (aw : Option (AW K))

/-- halo access along an axis; `hS` lets the array be one that is only known to be a combination -/
theorem nextAx_lin (ax : Nat) {S f g : F3 K} (hS : S = linF a b f g) (i j k : Nat) :
    nextAx cf ax S i j k = a * nextAx cf ax f i j k + b * nextAx cf ax g i j k := by
  subst hS
  rcases ax with _ | _ | ax <;> dsimp only [nextAx] <;> exact next1_lin ..

theorem prevAx_lin (ax : Nat) {S f g : F3 K} (hS : S = linF a b f g) (i j k : Nat) :
    prevAx cf ax S i j k = a * prevAx cf ax f i j k + b * prevAx cf ax g i j k := by
  subst hS
  rcases ax with _ | _ | ax <;> dsimp only [prevAx] <;> exact prev1_lin ..

/-- both neighbour averages (uniform four-point mean and the spacing-weighted variant) are linear: sums of the array and
its shifts, the inner average of the weighted variant being itself a combination before it is shifted -/
theorem avgE_lin (comp loc : Nat) (f g : F3 K) (i j k : Nat) :
    avgE cf aw comp loc (linF a b f g) i j k = a * avgE cf aw comp loc f i j k + b * avgE cf aw comp loc g i j k := by
  cases aw with
  | none =>
    exact lin_div (lin_add (lin_add (lin_add rfl (nextAx_lin cf loc rfl i j k)) (prevAx_lin cf comp rfl i j k))
      (nextAx_lin cf loc (funext₃ (prevAx_lin cf comp rfl)) i j k)) _
  | some w =>
    let cen (S : F3 K) : F3 K := fun i j k => (1 / 2) * (S i j k + nextAx cf loc S i j k)
    have hc : cen (linF a b f g) = linF a b (cen f) (cen g) :=
      funext₃ fun i j k => lin_lmul _ (lin_add rfl (nextAx_lin cf loc rfl i j k))
    exact lin_div (lin_add (lin_mul (congr_fun₃ hc i j k) _) (lin_mul (prevAx_lin cf comp hc i j k) _)) _

theorem avgH_lin (comp loc : Nat) (f g : F3 K) (i j k : Nat) :
    avgH cf aw comp loc (linF a b f g) i j k = a * avgH cf aw comp loc f i j k + b * avgH cf aw comp loc g i j k := by
  cases aw with
  | none =>
    exact lin_div (lin_add (lin_add (lin_add rfl (prevAx_lin cf loc rfl i j k)) (nextAx_lin cf comp rfl i j k))
      (prevAx_lin cf loc (funext₃ (nextAx_lin cf comp rfl)) i j k)) _
  | some w =>
    let onEdge (S : F3 K) : F3 K := fun i j k =>
      (S i j k * wPrev (w.ax loc) (idxAx loc i j k) + prevAx cf loc S i j k * w.ax loc (idxAx loc i j k))
        / (w.ax loc (idxAx loc i j k) + wPrev (w.ax loc) (idxAx loc i j k))
    have hc : onEdge (linF a b f g) = linF a b (onEdge f) (onEdge g) :=
      funext₃ fun i j k => lin_div (lin_add (lin_mul rfl _) (lin_mul (prevAx_lin cf loc rfl i j k) _)) _
    exact lin_lmul _ (lin_add (congr_fun₃ hc i j k) (nextAx_lin cf comp hc i j k))

/-- a row of a 3×3 tensor applied to (own component, two averaged neighbours) -/
theorem rowsApply_lin (avg : Nat → Nat → F3 K → F3 K)
    (hav : ∀ c l (f g : F3 K) i j k, avg c l (linF a b f g) i j k = a * avg c l f i j k + b * avg c l g i j k)
    (T : F3 (M3 K)) (V W : V3 K) :
    rowsApply avg T (linV a b V W) = linV a b (rowsApply avg T V) (rowsApply avg T W) := by
  apply V3.ext' <;> intro i j k
  · exact lin_add (lin_add (lin_lmul _ rfl) (lin_lmul _ (hav 1 0 V.y W.y i j k))) (lin_lmul _ (hav 2 0 V.z W.z i j k))
  · exact lin_add (lin_add (lin_lmul _ (hav 0 1 V.x W.x i j k)) (lin_lmul _ rfl)) (lin_lmul _ (hav 2 1 V.z W.z i j k))
  · exact lin_add (lin_add (lin_lmul _ (hav 0 2 V.x W.x i j k)) (lin_lmul _ (hav 1 2 V.y W.y i j k))) (lin_lmul _ rfl)

theorem stepEFull_lin (inv : F3 (M3 K)) (sig : Option (F3 (M3 K))) (jE1 jE2 E1 E2 H1 H2 : V3 K) :
    stepEFull cf aw inv sig (linV a b jE1 jE2) (linV a b E1 E2) (linV a b H1 H2)
      = linV a b (stepEFull cf aw inv sig jE1 E1 H1) (stepEFull cf aw inv sig jE2 E2 H2) := by
  simp only [stepEFull, curlH_lin, rowsApply_lin (avgE cf aw) (avgE_lin cf aw)]
  apply V3.ext' <;> intro i j k <;> exact lin_cell _ (lin_add rfl rfl) _ _

theorem stepHFull_lin (inv : F3 (M3 K)) (sig : Option (F3 (M3 K))) (jH1 jH2 E1 E2 H1 H2 : V3 K) :
    stepHFull cf aw inv sig (linV a b jH1 jH2) (linV a b E1 E2) (linV a b H1 H2)
      = linV a b (stepHFull cf aw inv sig jH1 E1 H1) (stepHFull cf aw inv sig jH2 E2 H2) := by
  simp only [stepHFull, curlE_lin, rowsApply_lin (avgH cf aw) (avgH_lin cf aw)]
  apply V3.ext' <;> intro i j k <;> exact lin_cell _ (lin_sub rfl rfl) _ _

end

/-- **C10_aniso_affine**: the time step of ANY material tier (isotropic, diagonal, full 3×3 tensors for ε⁻¹, μ⁻¹ and the
conductivities; uniform or spacing-weighted averaging) is linear in (sources, E, H). -/
theorem C10_aniso_affine (cf : Cfg K) (aw : Option (AW K)) (m : MatA K) (a b : K) (jE1 jE2 jH1 jH2 E1 E2 H1 H2 : V3 K) :
    forwardA cf aw m (linV a b jE1 jE2) (linV a b jH1 jH2) (linV a b E1 E2) (linV a b H1 H2)
      = (linV a b (forwardA cf aw m jE1 jH1 E1 H1).1 (forwardA cf aw m jE2 jH2 E2 H2).1,
         linV a b (forwardA cf aw m jE1 jH1 E1 H1).2 (forwardA cf aw m jE2 jH2 E2 H2).2) := by
  -- each branch of the tier dispatch is linear, and a combination of two `if`s on one condition is one `if`
  simp only [forwardA, stepEA, stepHA, ← apply_ite₂ (linV a b), stepEFull_lin, stepHFull_lin, stepE_lin, stepH_lin]

/-- n steps of the any-tier model -/
def fwdAN (cf : Cfg K) (aw : Option (AW K)) (m : MatA K) (jE jH : Nat → V3 K) (t : Nat) : Nat → V3 K × V3 K → V3 K × V3 K
  | 0, s => s
  | n + 1, s => let s' := fwdAN cf aw m jE jH t n s; forwardA cf aw m (jE (t + n)) (jH (t + n)) s'.1 s'.2

theorem C10_aniso_affine_steps (cf : Cfg K) (aw : Option (AW K)) (m : MatA K) (a b : K) (jE1 jE2 jH1 jH2 : Nat → V3 K)
    (t n : Nat) (E1 E2 H1 H2 : V3 K) :
    fwdAN cf aw m (fun s => linV a b (jE1 s) (jE2 s)) (fun s => linV a b (jH1 s) (jH2 s)) t n (linV a b E1 E2, linV a b H1 H2)
      = (linV a b (fwdAN cf aw m jE1 jH1 t n (E1, H1)).1 (fwdAN cf aw m jE2 jH2 t n (E2, H2)).1,
         linV a b (fwdAN cf aw m jE1 jH1 t n (E1, H1)).2 (fwdAN cf aw m jE2 jH2 t n (E2, H2)).2) := by
  induction n with
  | zero => rfl
  | succ n ih =>
    simp only [fwdAN]
    rw [ih]
    exact C10_aniso_affine cf aw m a b _ _ _ _ _ _ _ _

end

/-! ### non-vacuity: two different psi states over the same (graded, kappa ≠ 1) layer satisfy `SameP`; the layer's cell
update is not the zero map; a material with an off-diagonal 3×3 tensor takes the full-tensor branch. -/
def exPml : Pml ℚ :=
  ⟨0, false, ⟨0, 1, 0, 3, 0, 2⟩, false, fun _ => 1 / 3, fun _ => 1 / 2, fun _ => 3 / 4, fun _ => 1 / 5, fun _ => 2 / 3, fun _ => 4 / 5⟩
def exSt (c : ℚ) : PmlSt ℚ := ⟨exPml, fun _ _ _ => c, fun _ _ _ => 2 * c, fun _ _ _ => 3 * c, fun _ _ _ => c⟩
example : SameP [exSt 1] [exSt 5] := List.Forall₂.cons rfl List.Forall₂.nil
example : (stepCpml1 exPml true true 0 2 3).1 ≠ 0 ∧ (stepCpml1 exPml true true 0 2 3).2 ≠ 0 := by
  decide +kernel
example : (⟨.full (fun _ _ _ => ⟨2, 1, 0, 1, 2, 0, 0, 0, 2⟩), .scalar 1, none, none⟩ : MatA ℚ).fullE = true := rfl

end Fdtdx.C10
