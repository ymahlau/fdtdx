/-
C02 — backward ∘ forward = identity, fully anisotropic (9-component) tier (`FdtdxModel/YeeAniso.lean`).

Lossless (`C02_aniso_lossless_roundtrip`, `_steps` for n steps with step-indexed sources): with σ_E = σ_H = none and
inv_eps / inv_mu of ANY tier (scalar, 1, 3 or 9 components; a full 3×3 tensor per cell, not necessarily symmetric), any
halo rule (zero / wrap with arbitrary ghost multipliers = Bloch), any metric, uniform or spacing-weighted averaging with
any widths, PEC / PMC walls, any additive sources and any wall-satisfying state, backwardA (forwardA s) = s exactly, over
any field: `solve` with the identity returns its right-hand side, so A = I and B = c·inv in both directions.

Lossy full tensors: per cell A_rev·A_fwd = I and B_rev = A_rev·B_fwd whenever det M1 ≠ 0 and det M2 ≠ 0 (`LossOK`;
3×3 adjugate / determinant algebra), hence A_rev·(A_fwd·e ± B_fwd·k) ∓ B_rev·k = e for the un-averaged update
(`aniso_lossy_cell_local`, `_H`).  But the full lossy round trip is NOT the identity (`aniso_lossy_roundtrip_fails`,
concrete witness over ℚ): the off-diagonal entries of A act on neighbour AVERAGES, and averaging there and back is a
smoothing.  The property text claims lossless tensors only; what is reconstructed is in C02AnisoLossy.
-/
import FdtdxModel.YeeAniso
import FdtdxProps.C02
import Mathlib.Tactic.Ring

namespace Fdtdx.C02
open Fdtdx Fdtdx.Yee Fdtdx.YeeAniso Fdtdx.C01

section
variable {K : Type} [Field K]

/-! ### 3×3 algebra over a field

An entry of a product is a "row · column" sum: associativity is stated once for such sums of scalars
(`dot_assoc`) and holds entry by entry by instantiation.  Where `ring` has to see the nine entries
(Cramer's rule, `loss_commute`) the matrix is destructured first; on projections `simp only` and `ring` are much slower. -/

/-- (row of `a` · `b`) · column of `c` = row of `a` · (`b` · column of `c`) -/
theorem dot_assoc (a1 a2 a3 b11 b12 b13 b21 b22 b23 b31 b32 b33 c1 c2 c3 : K) :
    (a1 * b11 + a2 * b21 + a3 * b31) * c1 + (a1 * b12 + a2 * b22 + a3 * b32) * c2
        + (a1 * b13 + a2 * b23 + a3 * b33) * c3
      = a1 * (b11 * c1 + b12 * c2 + b13 * c3) + a2 * (b21 * c1 + b22 * c2 + b23 * c3)
        + a3 * (b31 * c1 + b32 * c2 + b33 * c3) := by
  ring

theorem M3.mul_assoc' (a b c : M3 K) : M3.mul (M3.mul a b) c = M3.mul a (M3.mul b c) := by
  cases a; cases b; cases c
  simp only [M3.mul, M3.mk.injEq]
  refine ⟨?_, ?_, ?_, ?_, ?_, ?_, ?_, ?_, ?_⟩ <;> exact dot_assoc ..

theorem M3.one_mul' (a : M3 K) : M3.mul M3.one a = a := by
  cases a; simp only [M3.mul, M3.one, one_mul, zero_mul, add_zero, zero_add]

theorem M3.mul_one' (a : M3 K) : M3.mul a M3.one = a := by
  cases a; simp only [M3.mul, M3.one, mul_one, mul_zero, add_zero, zero_add]

theorem M3.smul_mul (s : K) (a b : M3 K) : M3.mul (M3.smul s a) b = M3.smul s (M3.mul a b) := by
  simp only [M3.mul, M3.smul, mul_assoc, mul_add]

theorem M3.mul_smul (s : K) (a b : M3 K) : M3.mul a (M3.smul s b) = M3.smul s (M3.mul a b) := by
  simp only [M3.mul, M3.smul, mul_left_comm _ s, mul_add]

theorem M3.inv_smul_smul (d : K) (h : d ≠ 0) (a : M3 K) : M3.smul d⁻¹ (M3.smul d a) = a := by
  cases a; simp only [M3.smul, inv_mul_cancel_left₀ h]

/-- Cramer's rule, from the left and from the right -/
theorem M3.adj_mul (a : M3 K) : M3.mul (M3.adj a) a = M3.smul (M3.det a) M3.one := by
  cases a
  simp only [M3.mul, M3.adj, M3.smul, M3.one, M3.det, M3.mk.injEq, mul_one, mul_zero]
  refine ⟨?_, ?_, ?_, ?_, ?_, ?_, ?_, ?_, ?_⟩ <;> ring

theorem M3.mul_adj (a : M3 K) : M3.mul a (M3.adj a) = M3.smul (M3.det a) M3.one := by
  cases a
  simp only [M3.mul, M3.adj, M3.smul, M3.one, M3.det, M3.mk.injEq, mul_one, mul_zero]
  refine ⟨?_, ?_, ?_, ?_, ?_, ?_, ?_, ?_, ?_⟩ <;> ring

theorem M3.solve_eq (m x : M3 K) : M3.solve m x = M3.smul (M3.det m)⁻¹ (M3.mul (M3.adj m) x) := by
  simp only [M3.solve, M3.sdiv, M3.smul, div_eq_inv_mul]

theorem M3.solve_mul (m x : M3 K) (h : M3.det m ≠ 0) : M3.solve m (M3.mul m x) = x := by
  rw [M3.solve_eq, ← M3.mul_assoc', M3.adj_mul, M3.smul_mul, M3.one_mul', M3.inv_smul_smul _ h]

theorem M3.mul_solve (m x : M3 K) (h : M3.det m ≠ 0) : M3.mul m (M3.solve m x) = x := by
  rw [M3.solve_eq, M3.mul_smul, ← M3.mul_assoc', M3.mul_adj, M3.smul_mul, M3.one_mul', M3.inv_smul_smul _ h]

theorem M3.det_one : M3.det (M3.one : M3 K) = 1 := by
  simp only [M3.det, M3.one, mul_one, mul_zero, sub_zero, sub_self, add_zero]

/-- `jnp.linalg.solve(I, x) = x` -/
theorem M3.solve_one (x : M3 K) : M3.solve M3.one x = x := by
  have h := M3.solve_mul M3.one x (by rw [M3.det_one]; exact one_ne_zero)
  rwa [M3.one_mul'] at h

/-- the two loss matrices commute (both are polynomials in the same `f`) -/
theorem M3.loss_commute (f : M3 K) :
    M3.mul (M3.add M3.one f) (M3.sub M3.one f) = M3.mul (M3.sub M3.one f) (M3.add M3.one f) := by
  cases f
  simp only [M3.mul, M3.add, M3.sub, M3.one, M3.mk.injEq, zero_add, zero_sub]
  refine ⟨?_, ?_, ?_, ?_, ?_, ?_, ?_, ?_, ?_⟩ <;> ring

/-! ### lossless: A = I, B = c·inv in both directions -/

theorem updMats_none (c etaF : K) (inv : M3 K) : updMats c etaF inv none = (M3.one, M3.smul c inv) := by
  simp only [updMats, lossMats, M3.solve_one]

theorem updMatsRev_none (c etaF : K) (inv : M3 K) : updMatsRev c etaF inv none = (M3.one, M3.smul c inv) := by
  simp only [updMatsRev, lossMats, M3.solve_one]

theorem rowsApply_one (avg : Nat → Nat → F3 K → F3 K) (V : V3 K) : rowsApply avg (fun _ _ _ => M3.one) V = V := by
  simp only [rowsApply, M3.one, one_mul, zero_mul, add_zero, zero_add]

/-! ### lossless half steps of the full-tensor branch

With `A = I` the field enters its own update without averaging, and the averaged curl term `B·curl` is the same array in
both directions: off the walls the reverse step subtracts what the forward step added, on them the field was zero. -/

theorem revStepEFull_stepEFull (cf : Cfg K) (aw : Option (AW K)) (inv : F3 (M3 K)) (jE E H : V3 K)
    (hwx : ∀ i j k, pecMask cf 0 i j k = true → E.x i j k = 0)
    (hwy : ∀ i j k, pecMask cf 1 i j k = true → E.y i j k = 0)
    (hwz : ∀ i j k, pecMask cf 2 i j k = true → E.z i j k = 0) :
    revStepEFull cf aw inv none jE (stepEFull cf aw inv none jE E H) H = E := by
  have key : ∀ (b : Bool) (e x j : K), (b = true → e = 0) →
      (if b = true then 0 else (if b = true then 0 else e + x + j) - j - x) = e := by
    intro b e x j h0
    cases b
    · rw [if_neg Bool.false_ne_true, if_neg Bool.false_ne_true, add_sub_cancel_right, add_sub_cancel_right]
    · exact (h0 rfl).symm
  simp only [revStepEFull, stepEFull, sigAt, Option.map_none, updMats_none, updMatsRev_none, rowsApply_one]
  apply V3.ext' <;> intro i j k
  exacts [key _ _ _ _ (hwx i j k), key _ _ _ _ (hwy i j k), key _ _ _ _ (hwz i j k)]

theorem revStepHFull_stepHFull (cf : Cfg K) (aw : Option (AW K)) (inv : F3 (M3 K)) (jH E' H : V3 K)
    (hwx : ∀ i j k, pmcMask cf 0 i j k = true → H.x i j k = 0)
    (hwy : ∀ i j k, pmcMask cf 1 i j k = true → H.y i j k = 0)
    (hwz : ∀ i j k, pmcMask cf 2 i j k = true → H.z i j k = 0) :
    revStepHFull cf aw inv none jH E' (stepHFull cf aw inv none jH E' H) = H := by
  have key : ∀ (b : Bool) (h x j : K), (b = true → h = 0) →
      (if b = true then 0 else (if b = true then 0 else h - x + j) - j + x) = h := by
    intro b h x j h0
    cases b
    · rw [if_neg Bool.false_ne_true, if_neg Bool.false_ne_true, add_sub_cancel_right, sub_add_cancel]
    · exact (h0 rfl).symm
  simp only [revStepHFull, stepHFull, sigAt, Option.map_none, updMats_none, updMatsRev_none, rowsApply_one]
  apply V3.ext' <;> intro i j k
  exacts [key _ _ _ _ (hwx i j k), key _ _ _ _ (hwy i j k), key _ _ _ _ (hwz i j k)]

/-! ### any tier: the dispatch of `update_E` / `update_H` -/

/-- without conductivity arrays the divisors of the diagonal tier are trivially fine -/
theorem factorOK_lossless (cf : Cfg K) (m : MatA K) (hE : m.sigE = none) (hH : m.sigH = none) :
    FactorOK cf m.diagMat := by
  constructor <;> intro i j k s hs <;> simp [MatA.diagMat, hE, hH, optAt] at hs

theorem revStepEA_stepEA (cf : Cfg K) (aw : Option (AW K)) (m : MatA K) (jE E H : V3 K)
    (hE : m.sigE = none) (hH : m.sigH = none) (hw : WallOK cf E H) :
    revStepEA cf aw m jE (stepEA cf aw m jE E H) H = E := by
  unfold revStepEA stepEA
  cases hf : m.fullE with
  | true =>
    simp only [if_true, hE, Option.map_none]
    exact revStepEFull_stepEFull cf aw _ jE E H hw.ex hw.ey hw.ez
  | false =>
    simp only [Bool.false_eq_true, if_false]
    exact revStepE_stepE cf m.diagMat jE E H (factorOK_lossless cf m hE hH) hw.ex hw.ey hw.ez

theorem revStepHA_stepHA (cf : Cfg K) (aw : Option (AW K)) (m : MatA K) (jH E' H : V3 K)
    (hE : m.sigE = none) (hH : m.sigH = none)
    (hwx : ∀ i j k, pmcMask cf 0 i j k = true → H.x i j k = 0)
    (hwy : ∀ i j k, pmcMask cf 1 i j k = true → H.y i j k = 0)
    (hwz : ∀ i j k, pmcMask cf 2 i j k = true → H.z i j k = 0) :
    revStepHA cf aw m jH E' (stepHA cf aw m jH E' H) = H := by
  unfold revStepHA stepHA
  cases hf : m.fullH with
  | true =>
    simp only [if_true, hH, Option.map_none]
    exact revStepHFull_stepHFull cf aw _ jH E' H hwx hwy hwz
  | false =>
    simp only [Bool.false_eq_true, if_false]
    exact revStepH_stepH cf m.diagMat jH E' H (factorOK_lossless cf m hE hH) hwx hwy hwz

/-- **C02_aniso_lossless_roundtrip**: with σ_E = σ_H = none and inverse permittivity / permeability of any tier — in
particular a full 3×3 tensor per cell — one backward step after one forward step returns E and H exactly. -/
theorem C02_aniso_lossless_roundtrip (cf : Cfg K) (aw : Option (AW K)) (m : MatA K) (jE jH : V3 K) (E H : V3 K)
    (hE : m.sigE = none) (hH : m.sigH = none) (hw : WallOK cf E H) :
    backwardA cf aw m jE jH (forwardA cf aw m jE jH E H).1 (forwardA cf aw m jE jH E H).2 = (E, H) := by
  simp only [backwardA, forwardA]
  rw [revStepHA_stepHA cf aw m jH _ H hE hH hw.hx hw.hy hw.hz, revStepEA_stepEA cf aw m jE E H hE hH hw]

theorem C02_aniso_lossless_roundtrip_pointwise (cf : Cfg K) (aw : Option (AW K)) (m : MatA K) (jE jH : V3 K) (E H : V3 K)
    (hE : m.sigE = none) (hH : m.sigH = none) (hw : WallOK cf E H) (i j k : Nat) :
    let s' := forwardA cf aw m jE jH E H
    let s := backwardA cf aw m jE jH s'.1 s'.2
    s.1.x i j k = E.x i j k ∧ s.1.y i j k = E.y i j k ∧ s.1.z i j k = E.z i j k ∧
    s.2.x i j k = H.x i j k ∧ s.2.y i j k = H.y i j k ∧ s.2.z i j k = H.z i j k := by
  intro s' s
  have h : s = (E, H) := C02_aniso_lossless_roundtrip cf aw m jE jH E H hE hH hw
  rw [h]
  exact ⟨rfl, rfl, rfl, rfl, rfl, rfl⟩

/-- the step of any tier ends with the wall projections -/
theorem forwardA_walls (cf : Cfg K) (aw : Option (AW K)) (m : MatA K) (jE jH : V3 K) (E H : V3 K) :
    WallOK cf (forwardA cf aw m jE jH E H).1 (forwardA cf aw m jE jH E H).2 := by
  simp only [forwardA, stepEA, stepHA]
  split <;> split <;> exact wallOK_proj cf _ _

def fwdNA (cf : Cfg K) (aw : Option (AW K)) (m : MatA K) (jE jH : Nat → V3 K) (t : Nat) : Nat → V3 K × V3 K → V3 K × V3 K
  | 0, s => s
  | n + 1, s => let s' := fwdNA cf aw m jE jH t n s; forwardA cf aw m (jE (t + n)) (jH (t + n)) s'.1 s'.2

def bwdNA (cf : Cfg K) (aw : Option (AW K)) (m : MatA K) (jE jH : Nat → V3 K) (t : Nat) : Nat → V3 K × V3 K → V3 K × V3 K
  | 0, s => s
  | n + 1, s => bwdNA cf aw m jE jH t n (backwardA cf aw m (jE (t + n)) (jH (t + n)) s.1 s.2)

theorem fwdNA_walls (cf : Cfg K) (aw : Option (AW K)) (m : MatA K) (jE jH : Nat → V3 K) (t n : Nat) (E H : V3 K)
    (hw : WallOK cf E H) : WallOK cf (fwdNA cf aw m jE jH t n (E, H)).1 (fwdNA cf aw m jE jH t n (E, H)).2 := by
  cases n with
  | zero => exact hw
  | succ n => exact forwardA_walls cf aw m _ _ _ _

/-- **C02_aniso_lossless_roundtrip_steps**: n forward steps then n backward steps (step-indexed sources) are the identity. -/
theorem C02_aniso_lossless_roundtrip_steps (cf : Cfg K) (aw : Option (AW K)) (m : MatA K) (jE jH : Nat → V3 K) (t n : Nat)
    (E H : V3 K) (hE : m.sigE = none) (hH : m.sigH = none) (hw : WallOK cf E H) :
    bwdNA cf aw m jE jH t n (fwdNA cf aw m jE jH t n (E, H)) = (E, H) := by
  induction n with
  | zero => rfl
  | succ n ih =>
    simp only [fwdNA, bwdNA, C02_aniso_lossless_roundtrip cf aw m _ _ _ _ hE hH (fwdNA_walls cf aw m jE jH t n E H hw)]
    exact ih

/-! ### lossy full tensors: cell-local inverse only -/

/-- the 3×3 systems the code solves are regular: det M1 ≠ 0 (forward) and det M2 ≠ 0 (reverse) -/
structure LossOK (c etaF : K) (inv : M3 K) (sig : Option (M3 K)) : Prop where
  d1 : M3.det (lossMats c etaF inv sig).1 ≠ 0
  d2 : M3.det (lossMats c etaF inv sig).2 ≠ 0

/-- `M2⁻¹M1 · M1⁻¹x = M2⁻¹x` -/
theorem M3.solve_trans (m1 m2 x : M3 K) (h1 : M3.det m1 ≠ 0) :
    M3.mul (M3.solve m2 m1) (M3.solve m1 x) = M3.solve m2 x := by
  rw [M3.solve_eq m2 m1, M3.smul_mul, M3.mul_assoc', M3.mul_solve m1 x h1, ← M3.solve_eq]

/-- A_rev · A_fwd = I -/
theorem aniso_Arev_Afwd (c etaF : K) (inv : M3 K) (sig : Option (M3 K)) (h : LossOK c etaF inv sig) :
    M3.mul (updMatsRev c etaF inv sig).1 (updMats c etaF inv sig).1 = M3.one := by
  have e := M3.solve_mul (lossMats c etaF inv sig).2 M3.one h.d2
  rw [M3.mul_one'] at e
  exact (M3.solve_trans _ _ _ h.d1).trans e

/-- B_rev = A_rev · B_fwd -/
theorem aniso_Brev (c etaF : K) (inv : M3 K) (sig : Option (M3 K)) (h : LossOK c etaF inv sig) :
    (updMatsRev c etaF inv sig).2 = M3.mul (updMatsRev c etaF inv sig).1 (updMats c etaF inv sig).2 := by
  simp only [updMats, updMatsRev]
  rw [M3.mul_smul, M3.solve_trans _ _ _ h.d1]

def M3.vec (a : M3 K) (v : K × K × K) : K × K × K :=
  (a.xx * v.1 + a.xy * v.2.1 + a.xz * v.2.2, a.yx * v.1 + a.yy * v.2.1 + a.yz * v.2.2, a.zx * v.1 + a.zy * v.2.1 + a.zz * v.2.2)

theorem M3.vec_mul (a b : M3 K) (v : K × K × K) : M3.vec (M3.mul a b) v = M3.vec a (M3.vec b v) := by
  refine Prod.ext ?_ (Prod.ext ?_ ?_) <;> exact dot_assoc ..

theorem M3.vec_one (v : K × K × K) : M3.vec M3.one v = v := by
  simp only [M3.vec, M3.one, one_mul, zero_mul, add_zero, zero_add]

theorem M3.vec_add (a : M3 K) (u v : K × K × K) : M3.vec a (u + v) = M3.vec a u + M3.vec a v := by
  simp only [M3.vec, Prod.fst_add, Prod.snd_add, Prod.mk_add_mk, Prod.mk.injEq]
  refine ⟨?_, ?_, ?_⟩ <;> ring

theorem M3.vec_sub (a : M3 K) (u v : K × K × K) : M3.vec a (u - v) = M3.vec a u - M3.vec a v :=
  eq_sub_of_add_eq (by rw [← M3.vec_add, sub_add_cancel])

/-- **aniso_lossy_cell_local**: where the 3×3 systems are regular, the reverse update inverts the forward update of the
same cell when all three components are taken at that cell (no neighbour averaging):
`A_rev·(A_fwd·e + B_fwd·k) − B_rev·k = e`. -/
theorem aniso_lossy_cell_local (c etaF : K) (inv : M3 K) (sig : Option (M3 K)) (h : LossOK c etaF inv sig)
    (e k : K × K × K) :
    M3.vec (updMatsRev c etaF inv sig).1 (M3.vec (updMats c etaF inv sig).1 e + M3.vec (updMats c etaF inv sig).2 k)
      - M3.vec (updMatsRev c etaF inv sig).2 k = e := by
  rw [M3.vec_add, ← M3.vec_mul, ← M3.vec_mul, aniso_Arev_Afwd c etaF inv sig h, ← aniso_Brev c etaF inv sig h, M3.vec_one,
    add_sub_cancel_right]

/-- **aniso_lossy_cell_local_H**: the H form (forward subtracts, reverse adds the curl term) -/
theorem aniso_lossy_cell_local_H (c etaF : K) (inv : M3 K) (sig : Option (M3 K)) (h : LossOK c etaF inv sig)
    (e k : K × K × K) :
    M3.vec (updMatsRev c etaF inv sig).1 (M3.vec (updMats c etaF inv sig).1 e - M3.vec (updMats c etaF inv sig).2 k)
      + M3.vec (updMatsRev c etaF inv sig).2 k = e := by
  rw [M3.vec_sub, ← M3.vec_mul, ← M3.vec_mul, aniso_Arev_Afwd c etaF inv sig h, ← aniso_Brev c etaF inv sig h, M3.vec_one,
    sub_add_cancel]

end

/-! ### the full lossy round trip fails (witness over ℚ) -/

def zBC : AxisBC Rat := ⟨false, 1, 1, false, false, false, false⟩
/-- one cell, zero halo on every axis, uniform metric, c = η₀ = 1 -/
def cexCfg : Cfg Rat :=
  { nx := 1, ny := 1, nz := 1, bx := zBC, by_ := zBC, bz := zBC,
    sfx := fun _ => 1, sfy := fun _ => 1, sfz := fun _ => 1, sbx := fun _ => 1, sby := fun _ => 1, sbz := fun _ => 1,
    c := 1, eta0 := 1 }
/-- identity inverse permittivity, conductivity tensor with an xy / yx entry -/
def cexMat : MatA Rat :=
  ⟨.full (fun _ _ _ => ⟨1, 0, 0, 0, 1, 0, 0, 0, 1⟩), .scalar 1, some (.full (fun _ _ _ => ⟨0, 1, 0, 1, 0, 0, 0, 0, 0⟩)), none⟩
def cexE : V3 Rat := ⟨fun _ _ _ => 1, fun _ _ _ => 0, fun _ _ _ => 0⟩
def cexZero : V3 Rat := constV 0

/-- the 3×3 systems of the witness are regular (det M1 = det M2 = 3/4), so the cell-local statement applies to it -/
example : LossOK (K := ℚ) 1 1 ⟨1, 0, 0, 0, 1, 0, 0, 0, 1⟩ (some ⟨0, 1, 0, 1, 0, 0, 0, 0, 0⟩) := by
  constructor <;> decide +kernel

/-- **aniso_lossy_roundtrip_fails**: lossy full tensor, source-free, no walls: E_x = 1 comes back as 8/3.
(forward: E_x ← A_xx·1 = 5/3 and E_y ← A_yx·avg(E_x) = −4/3·¼; reverse: E_x ← 5/3·5/3 + 4/3·avg(E_y) = 25/9 − 1/9.) -/
theorem aniso_lossy_roundtrip_fails :
    let s' := forwardA cexCfg none cexMat cexZero cexZero cexE cexZero
    (backwardA cexCfg none cexMat cexZero cexZero s'.1 s'.2).1.x 0 0 0 = 8 / 3 ∧ cexE.x 0 0 0 = 1 := by
  decide +kernel

/-! ### non-vacuity: a full non-symmetric tensor on the concrete domain of C01 (periodic x, PEC y) -/
def exMatA : MatA Rat :=
  ⟨.full (fun i j k => ⟨2, 1 / 3, 0, 1 / 5, 3, (i + j + k : Nat), 0, 1 / 7, 1⟩), .scalar 1, none, none⟩
example : exMatA.sigE = none ∧ exMatA.sigH = none ∧ exMatA.fullE = true ∧ exMatA.fullH = false := by decide
example : WallOK exCfg exE exH := ex_wallOK

end Fdtdx.C02

