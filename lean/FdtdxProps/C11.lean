/-
C11 — Complex-valued fields reproduce real-valued runs.

The Yee model is generic in the scalar type, so the statement is naturality of the time step under a ring homomorphism
`φ : R →+* K` between fields (`C11_natural`, and `C11_natural_steps` for n steps with step-indexed sources): every grid
shape, halo rule, walls, metric, diagonal materials with or without conductivities, any source terms. For φ = (ℝ → ℂ)
the complex run started from real data has real part = the real run and imaginary part 0 at every cell, component and step
(`C11_complex_run`), and the |·|² / Re(E × conj H) records of such a state are the real-storage records. The TFSF quadrature
branch adds nothing for a profile with zero imaginary part (`C11_quadrature_inert`).

`mapCfg φ cf` keeps the ghost multipliers `pp`, `pm` as φ-images: that is "no non-zero Bloch phase" (periodic axes have
pp = pm = 1, and φ 1 = 1) — a genuinely complex Bloch phase is not in the image of ℝ.

How: as for linearity (`C10`), operation by operation: `hom_add … hom_ite` carry "is the φ-image" through sums, differences,
products, quotients and zeroing, and each `…_map` lemma is the term with the shape of the definition it is about. The
lemmas on `dFwd`, `dBwd`, `updEwith`, `updHwith` also serve the CPML step (`C11Pml`).
-/
import FdtdxProps.C02
import FdtdxModel.C10
import FdtdxModel.C11
import FdtdxModel.C11Ext
import Mathlib.Data.Complex.Basic

namespace Fdtdx.C11
open Fdtdx Fdtdx.Yee Fdtdx.C02 Fdtdx.Cpml

/-! ### images of scalars

Every operation of the step is built from sums, differences, products, quotients and zeroing; `hp`, `hq` say that `p'`,
`q'` are already the images of `p`, `q`. -/
section
variable {R K : Type} [Field R] [Field K] {φ : R →+* K} {p q : R} {p' q' : K}

theorem hom_add (hp : p' = φ p) (hq : q' = φ q) : p' + q' = φ (p + q) := by rw [hp, hq, map_add]

theorem hom_sub (hp : p' = φ p) (hq : q' = φ q) : p' - q' = φ (p - q) := by rw [hp, hq, map_sub]

theorem hom_mul (hp : p' = φ p) (hq : q' = φ q) : p' * q' = φ (p * q) := by rw [hp, hq, map_mul]

theorem hom_div (hp : p' = φ p) (hq : q' = φ q) : p' / q' = φ (p / q) := by rw [hp, hq, map_div₀]

theorem hom_ite (c : Prop) [Decidable c] (hp : p' = φ p) (hq : q' = φ q) :
    (if c then p' else q') = φ (if c then p else q) := by
  rw [hp, hq, apply_ite φ]

/-- a cell of `update_E` / `update_H`: the material update `u` plus the source term, zeroed on a wall -/
theorem hom_cell (msk : Bool) {u : R} {u' : K} (hu : u' = φ u) (j : R) :
    (if msk then 0 else u' + φ j) = φ (if msk then 0 else u + j) :=
  hom_ite _ (map_zero φ).symm (hom_add hu rfl)

end

section
variable {R K : Type} [Field R] [Field K] (φ : R →+* K)

theorem next1_map (n : Nat) (b : AxisBC R) (g : Nat → R) (i : Nat) :
    next1 n (mapBC φ b) (fun u => φ (g u)) i = φ (next1 n b g i) :=
  hom_ite _ rfl (hom_ite _ (hom_mul rfl rfl) (map_zero φ).symm)

theorem prev1_map (n : Nat) (b : AxisBC R) (g : Nat → R) (i : Nat) :
    prev1 n (mapBC φ b) (fun u => φ (g u)) i = φ (prev1 n b g i) :=
  hom_ite _ (hom_ite _ (hom_mul rfl rfl) (map_zero φ).symm) rfl

theorem dFwd_map (cf : Cfg R) (ax : Nat) (f : F3 R) (i j k : Nat) :
    dFwd (mapCfg φ cf) ax (mapF φ f) i j k = φ (dFwd cf ax f i j k) := by
  rcases ax with _ | _ | ax <;> exact hom_mul (hom_sub (next1_map φ ..) rfl) rfl

theorem dBwd_map (cf : Cfg R) (ax : Nat) (f : F3 R) (i j k : Nat) :
    dBwd (mapCfg φ cf) ax (mapF φ f) i j k = φ (dBwd cf ax f i j k) := by
  rcases ax with _ | _ | ax <;> exact hom_mul (hom_sub rfl (prev1_map φ ..)) rfl

/-- each curl component is a difference of two directional differences -/
theorem curlE_map (cf : Cfg R) (E : V3 R) : curlE (mapCfg φ cf) (mapV φ E) = mapV φ (curlE cf E) := by
  apply V3.ext' <;> intro i j k <;>
    exact hom_sub (hom_mul (hom_sub (next1_map φ ..) rfl) rfl) (hom_mul (hom_sub (next1_map φ ..) rfl) rfl)

theorem curlH_map (cf : Cfg R) (H : V3 R) : curlH (mapCfg φ cf) (mapV φ H) = mapV φ (curlH cf H) := by
  apply V3.ext' <;> intro i j k <;>
    exact hom_sub (hom_mul (hom_sub rfl (prev1_map φ ..)) rfl) (hom_mul (hom_sub rfl (prev1_map φ ..)) rfl)

theorem updE1_map (c eta0 e cu ie : R) (sig : Option R) {sig' : Option K} (hs : sig' = sig.map φ) :
    updE1 (φ c) (φ eta0) (φ e) (φ cu) (φ ie) sig' = φ (updE1 c eta0 e cu ie sig) := by
  subst hs
  cases sig with
  | none => exact hom_add rfl (hom_mul (hom_mul rfl rfl) rfl)
  | some s =>
    have hx : φ c * φ s * φ eta0 * φ ie / 2 = φ (c * s * eta0 * ie / 2) :=
      hom_div (hom_mul (hom_mul (hom_mul rfl rfl) rfl) rfl) (map_ofNat φ 2).symm
    exact hom_div (hom_add (hom_mul (hom_sub (map_one φ).symm hx) rfl) (hom_mul (hom_mul rfl rfl) rfl))
      (hom_add (map_one φ).symm hx)

theorem updH1_map (c eta0 h cu im : R) (sig : Option R) {sig' : Option K} (hs : sig' = sig.map φ) :
    updH1 (φ c) (φ eta0) (φ h) (φ cu) (φ im) sig' = φ (updH1 c eta0 h cu im sig) := by
  subst hs
  cases sig with
  | none => exact hom_sub rfl (hom_mul (hom_mul rfl rfl) rfl)
  | some s =>
    have hx : φ c * φ s / φ eta0 * φ im / 2 = φ (c * s / eta0 * im / 2) :=
      hom_div (hom_mul (hom_div (hom_mul rfl rfl) rfl) rfl) (map_ofNat φ 2).symm
    exact hom_div (hom_sub (hom_mul (hom_sub (map_one φ).symm hx) rfl) (hom_mul (hom_mul rfl rfl) rfl))
      (hom_add (map_one φ).symm hx)

theorem pecMask_map (cf : Cfg R) (comp i j k : Nat) : pecMask (mapCfg φ cf) comp i j k = pecMask cf comp i j k := rfl
theorem pmcMask_map (cf : Cfg R) (comp i j k : Nat) : pmcMask (mapCfg φ cf) comp i j k = pmcMask cf comp i j k := rfl

theorem optAt_map (s : Option (V3 R)) (p : V3 R → F3 R) (q : V3 K → F3 K)
    (hpq : ∀ V i j k, q (mapV φ V) i j k = φ (p V i j k)) (i j k : Nat) :
    optAt ((s.map (mapV φ)).map q) i j k = (optAt (s.map p) i j k).map φ := by
  cases s with
  | none => rfl
  | some V => exact congrArg some (hpq V i j k)

theorem updEwith_map (cf : Cfg R) (m : Mat R) (jE cu E : V3 R) :
    updEwith (mapCfg φ cf) (mapMat φ m) (mapV φ jE) (mapV φ cu) (mapV φ E) = mapV φ (updEwith cf m jE cu E) := by
  apply V3.ext' <;> intro i j k <;>
    exact hom_cell _ (updE1_map φ _ _ _ _ _ _ (optAt_map φ m.sigE _ _ (fun _ _ _ _ => rfl) i j k)) _

theorem updHwith_map (cf : Cfg R) (m : Mat R) (jH cu H : V3 R) :
    updHwith (mapCfg φ cf) (mapMat φ m) (mapV φ jH) (mapV φ cu) (mapV φ H) = mapV φ (updHwith cf m jH cu H) := by
  apply V3.ext' <;> intro i j k <;>
    exact hom_cell _ (updH1_map φ _ _ _ _ _ _ (optAt_map φ m.sigH _ _ (fun _ _ _ _ => rfl) i j k)) _

/-- `stepE` is `updEwith` fed with the plain curl of `H` -/
theorem stepE_map (cf : Cfg R) (m : Mat R) (jE E H : V3 R) :
    stepE (mapCfg φ cf) (mapMat φ m) (mapV φ jE) (mapV φ E) (mapV φ H) = mapV φ (stepE cf m jE E H) :=
  (congrArg (updEwith _ _ _ · _) (curlH_map φ cf H)).trans (updEwith_map φ ..)

theorem stepH_map (cf : Cfg R) (m : Mat R) (jH E H : V3 R) :
    stepH (mapCfg φ cf) (mapMat φ m) (mapV φ jH) (mapV φ E) (mapV φ H) = mapV φ (stepH cf m jH E H) :=
  (congrArg (updHwith _ _ _ · _) (curlE_map φ cf E)).trans (updHwith_map φ ..)

/-- **C11_natural**: the time step commutes with every ring homomorphism between scalar fields. -/
theorem C11_natural (cf : Cfg R) (m : Mat R) (jE jH E H : V3 R) :
    forward (mapCfg φ cf) (mapMat φ m) (mapV φ jE) (mapV φ jH) (mapV φ E) (mapV φ H)
      = (mapV φ (forward cf m jE jH E H).1, mapV φ (forward cf m jE jH E H).2) := by
  simp only [forward]
  rw [stepE_map, stepH_map]

theorem C11_natural_steps (cf : Cfg R) (m : Mat R) (jE jH : Nat → V3 R) (t n : Nat) (E H : V3 R) :
    fwdN (mapCfg φ cf) (mapMat φ m) (fun s => mapV φ (jE s)) (fun s => mapV φ (jH s)) t n (mapV φ E, mapV φ H)
      = (mapV φ (fwdN cf m jE jH t n (E, H)).1, mapV φ (fwdN cf m jE jH t n (E, H)).2) := by
  induction n with
  | zero => rfl
  | succ n ih =>
    simp only [fwdN]
    rw [ih]
    exact C11_natural φ cf m _ _ _ _

end

/-! ### real → complex -/
section complex
open Complex

/-- the embedding ℝ → ℂ used by `use_complex_fields=True` (real data stored with zero imaginary part) -/
noncomputable def emb : ℝ →+* ℂ := Complex.ofRealHom

/-- **C11_complex_run**: a complex-storage run of a scene without Bloch phase, started from the real data, has at
every step, cell and component real part = the real-storage run and imaginary part = 0. -/
theorem C11_complex_run (cf : Cfg ℝ) (m : Mat ℝ) (jE jH : Nat → V3 ℝ) (t n : Nat) (E H : V3 ℝ) (i j k : Nat) :
    let SC := fwdN (mapCfg emb cf) (mapMat emb m) (fun s => mapV emb (jE s)) (fun s => mapV emb (jH s)) t n
        (mapV emb E, mapV emb H)
    let SR := fwdN cf m jE jH t n (E, H)
    ((SC.1.x i j k).re = SR.1.x i j k ∧ (SC.1.x i j k).im = 0)
    ∧ ((SC.1.y i j k).re = SR.1.y i j k ∧ (SC.1.y i j k).im = 0)
    ∧ ((SC.1.z i j k).re = SR.1.z i j k ∧ (SC.1.z i j k).im = 0)
    ∧ ((SC.2.x i j k).re = SR.2.x i j k ∧ (SC.2.x i j k).im = 0)
    ∧ ((SC.2.y i j k).re = SR.2.y i j k ∧ (SC.2.y i j k).im = 0)
    ∧ ((SC.2.z i j k).re = SR.2.z i j k ∧ (SC.2.z i j k).im = 0) := by
  intro SC SR
  have h : SC = _ := C11_natural_steps emb cf m jE jH t n E H
  rw [h]
  exact ⟨⟨rfl, rfl⟩, ⟨rfl, rfl⟩, ⟨rfl, rfl⟩, ⟨rfl, rfl⟩, ⟨rfl, rfl⟩, ⟨rfl, rfl⟩⟩

/-- **C11_energy_record**: the EnergyDetector expression on complex storage (|·|²) of an embedded real state equals
the real-storage expression. -/
theorem C11_energy_record (ie im E H : V3 ℝ) (i j k : Nat) :
    detEnergyG Complex.normSq ie im (mapV emb E) (mapV emb H) i j k = C10.detEnergy ie im E H i j k := by
  have h (x : ℝ) : Complex.normSq (emb x) = x * x := Complex.normSq_ofReal x
  simp only [detEnergyG, C10.detEnergy, mapV, h]

/-- **C11_poynting_record**: Re(E × conj H) on complex storage of an embedded real state = E × H -/
theorem C11_poynting_record (E H : V3 ℝ) :
    poyntingG (starRingEnd ℂ) Complex.re (mapV emb E) (mapV emb H) = C10.poynting E H := by
  have h (e1 h1 e2 h2 : ℝ) :
      (emb e1 * (starRingEnd ℂ) (emb h1) - emb e2 * (starRingEnd ℂ) (emb h2)).re = e1 * h1 - e2 * h2 := by
    simp only [emb, ofRealHom_eq_coe, conj_ofReal, ← ofReal_mul, ← ofReal_sub, ofReal_re]
  apply V3.ext' <;> intro i j k <;> exact h ..

end complex

/-- **C11_quadrature_inert**: for an incident profile whose imaginary part is zero the quadrature branch of
`_tfsf_inject_*` injects exactly what the plain branch injects (over any field). -/
theorem C11_quadrature_inert {K : Type} [Field K] (re amp quad : K) :
    incidentComponent true re 0 amp quad = incidentComponent false re 0 amp quad := by
  simp [incidentComponent]

/-! ### non-vacuity: the embedded configuration of C01's example is a genuine complex configuration whose periodic
ghost multipliers are 1, and the quadrature branch is NOT inert for a genuinely complex profile. -/
noncomputable def exCfgR : Cfg ℝ :=
  { nx := 2, ny := 3, nz := 2, bx := ⟨true, 1, 1, false, false, false, false⟩, by_ := ⟨false, 1, 1, true, true, false, false⟩,
    bz := ⟨false, 1, 1, false, false, false, true⟩,
    sfx := fun _ => 1, sfy := fun _ => 1, sfz := fun _ => 1, sbx := fun _ => 1, sby := fun _ => 1, sbz := fun _ => 1,
    c := 1 / 2, eta0 := 1 }
example : (mapCfg emb exCfgR).bx.pp = 1 ∧ (mapCfg emb exCfgR).bx.wrap = true ∧ (mapCfg emb exCfgR).c = 1 / 2 := by
  refine ⟨map_one emb, rfl, ?_⟩
  show emb (1 / 2) = 1 / 2
  rw [map_div₀, map_one, map_ofNat]
example : incidentComponent true (1 : ℚ) 2 3 5 ≠ incidentComponent false 1 2 3 5 := by
  simp [incidentComponent]

end Fdtdx.C11
