/-
C12 — Absorbing layers absorb.  PARTIAL BY NATURE: the quantitative clauses of the property (residual energy below
1e-6 of the peak; less than 1e-4 relative energy difference to a much larger reference domain) are statements about
the reflection of a graded discrete CPML over all angles and are NOT proved here; they are evaluated on the real code
by the check (harness/c12.py, scenario oracle).  What is algebraic is proved, about `FdtdxModel/Cpml.lean`
(`profile`, `coefB`, `coefA`, `coefArrays`, `depthsUniform`, `depthsEdges`, `stepCpml1`, `curlEp`, `curlHp`), over any
ordered field, with `exp` and `pow` abstract functions satisfying only what is stated:

  coefficients   0 < b ≤ 1, b < 1 inside a lossy layer, a ≤ 0, a = 0 ⇔ σ = 0 (sign-correct dt, ε₀, σ, κ, α)
  profiles       monotone in the depth; depths of the uniform grid grow toward the outer face, for both directions, E
                 and H samples; the depth of the interface cell is 0 (uniform and non-uniform grids)
  default        σ_start = 0, κ_start = 1 ⇒ a = 0 and 1/κ = 1 at the inner face, i.e. the hypothesis `IfaceCoef` of C03
                 holds for the arrays `place_on_grid` computes; κ_start = κ_end = 1 ⇒ 1/κ = 1 everywhere
  zero profile   a cell whose PMLs all have zero profile there and ψ = 0: corrected curl = plain curl, ψ stays 0, and
                 the E update equals the plain Yee update
  ψ recursion    |ψ'| ≤ b|ψ| + |a||d|   (0 ≤ b)
-/
import FdtdxProps.C03
import Mathlib.Algebra.Order.Field.Basic
import Mathlib.Algebra.Order.AbsoluteValue.Basic

namespace Fdtdx.C12
open Fdtdx Fdtdx.Yee Fdtdx.Cpml Fdtdx.C03

section field
variable {K : Type} [Field K]

/-- `b` is just `exp` of the argument (the `expm1 + 1` detour cancels) -/
theorem coefB_eq (exp : K → K) (dt eps0 sigma kappa alpha : K) :
    coefB exp dt eps0 sigma kappa alpha = exp ((0 - dt) / eps0 * (sigma / kappa + alpha)) :=
  sub_add_cancel _ _

/-- σ = 0 ⇒ a = 0 (also when the denominator vanishes: the code's 0/0 → nan → 0) -/
theorem coefA_sigma_zero (b kappa alpha : K) : coefA id b 0 kappa alpha = 0 := by
  unfold coefA
  rw [mul_zero, zero_div, zero_div]
  rfl

/-- inside a lossy layer (`b ≠ 1`: `C12_b_lt_one`) `a` vanishes exactly where σ does -/
theorem C12_a_zero_iff (b sigma kappa alpha : K) (hb : b ≠ 1) (hk : kappa ≠ 0) (hd : sigma + alpha * kappa ≠ 0) :
    coefA id b sigma kappa alpha = 0 ↔ sigma = 0 := by
  constructor
  · intro h
    simp only [coefA, id, div_eq_zero_iff, mul_eq_zero, sub_eq_zero] at h
    rcases h with ((h | h) | h) | h
    · exact absurd h hb
    · exact h
    · exact absurd h hd
    · exact absurd h hk
  · rintro rfl; exact coefA_sigma_zero b kappa alpha

/-- the graded profile at depth 0 is its start value -/
theorem profile_zero (pow : K → K → K) (vs ve order norm : K) (hp : pow 0 order = 0) :
    profile pow vs ve order norm 0 = vs := by
  unfold profile
  rw [zero_div, hp, mul_zero, add_zero]

/-- **C12_kappa_default**: with `kappa_start = kappa_end = 1` the profile is 1 at every depth -/
theorem C12_kappa_default (pow : K → K → K) (order norm d : K) : profile pow 1 1 order norm d = 1 := by
  unfold profile
  rw [sub_self, zero_mul, add_zero]

/-- uniform grid: both depth arrays vanish at the interface offset (`0` for "+", `L-1` for "-") -/
theorem C12_inner_face_depth_uniform (cast : Nat → K) (half : K) (hc : cast 0 = 0) (plus : Bool) (L : Nat) (hL : 1 ≤ L) :
    (depthsUniform cast half plus L).1 (if plus then 0 else L - 1) = 0 ∧
    (depthsUniform cast half plus L).2.1 (if plus then 0 else L - 1) = 0 := by
  cases plus
  · simp only [depthsUniform, Bool.false_eq_true, if_false, Nat.sub_self, hc, Nat.sub_add_cancel hL, if_true, and_self]
  · simp only [depthsUniform, if_true, hc, and_self]

/-- the same on a non-uniform grid (depths from the physical edges) -/
theorem C12_inner_face_depth_edges (e : Nat → K) (plus : Bool) (L : Nat) (hL : 1 ≤ L) :
    (depthsEdges e plus L).1 (if plus then 0 else L - 1) = 0 ∧
    (depthsEdges e plus L).2.1 (if plus then 0 else L - 1) = 0 := by
  cases plus
  · simp only [depthsEdges, Bool.false_eq_true, if_false, Nat.sub_add_cancel hL, sub_self, if_true, and_self]
  · simp only [depthsEdges, if_true, sub_self, and_self]

/-- **C12_default_inner_face**: whenever the depth of the interface cell is 0 for both sample sets (previous two
theorems), `sigma_start = 0`, `kappa_start = 1` and `pow 0 order = 0` give `a_E = a_H = 0` and
`1/κ_E = 1/κ_H = 1` there — for any `exp`, any end values and orders, any α. -/
theorem C12_default_inner_face (exp : K → K) (pow : K → K → K) (g : Grading K) (dt eps0 : K)
    (dp : (Nat → K) × (Nat → K) × K) (o : Nat) (hdE : dp.1 o = 0) (hdH : dp.2.1 o = 0)
    (hs : g.sigS = 0) (hk : g.kapS = 1) (hps : pow 0 g.sigO = 0) (hpk : pow 0 g.kapO = 0) :
    let c := coefArrays exp pow id g dt eps0 dp
    c.1 o = 0 ∧ c.2.2.1 o = 1 ∧ c.2.2.2.1 o = 0 ∧ c.2.2.2.2.2 o = 1 := by
  -- at depth 0 the σ profile is `sigma_start = 0`, the κ profile `kappa_start = 1`
  have hsg : profile pow g.sigS g.sigE g.sigO dp.2.2 0 = 0 := by rw [profile_zero pow _ _ _ _ hps, hs]
  have hkp : profile pow g.kapS g.kapE g.kapO dp.2.2 0 = 1 := by rw [profile_zero pow _ _ _ _ hpk, hk]
  simp only [coefArrays, hdE, hdH, hsg, hkp, coefA_sigma_zero, div_one, and_self]

/-- the C03 hypothesis for a PML whose arrays come from `coefArrays` with the default inner face -/
theorem C12_default_ifaceCoef (exp : K → K) (pow : K → K → K) (g : Grading K) (dt eps0 : K)
    (dp : (Nat → K) × (Nat → K) × K) (q : Pml K) (hdE : dp.1 q.ifOff = 0) (hdH : dp.2.1 q.ifOff = 0)
    (hs : g.sigS = 0) (hk : g.kapS = 1) (hps : pow 0 g.sigO = 0) (hpk : pow 0 g.kapO = 0)
    (hq : (q.aE, q.bE, q.ikE, q.aH, q.bH, q.ikH) = coefArrays exp pow id g dt eps0 dp) : IfaceCoef q := by
  obtain ⟨h1, h2, h3, h4⟩ := C12_default_inner_face exp pow g dt eps0 dp q.ifOff hdE hdH hs hk hps hpk
  simp only [Prod.ext_iff] at hq
  obtain ⟨e1, -, e3, e4, -, e6⟩ := hq
  exact ⟨e1 ▸ h1, e4 ▸ h3, Or.inr ⟨e3 ▸ h2, e6 ▸ h4⟩⟩

/-- zero-profile cell, curl of E: at a cell where every PML containing it has zero profile and ψ_H = 0, the
corrected curl is the plain curl and ψ_H stays 0 -/
theorem C12_zero_profile_curlE (cf : Cfg K) (sim : Bool) (pmls : List (PmlSt K)) (E : V3 K) (i j k : Nat)
    (h : ∀ st ∈ pmls, st.p.box.mem i j k → CleanAt st.p (st.p.off i j k) ∧ st.h1 i j k = 0 ∧ st.h2 i j k = 0) :
    agree (curlEp cf sim pmls E) (curlE cf E) i j k ∧
    ∀ st ∈ pmls, st.p.box.mem i j k → (updPsiH cf sim E st).h1 i j k = 0 ∧ (updPsiH cf sim E st).h2 i j k = 0 :=
  ⟨curlEp_clean cf sim pmls E i j k h, fun st hst hm =>
    updPsiH_clean cf sim E st i j k hm (h st hst hm).1 (h st hst hm).2.1 (h st hst hm).2.2⟩

/-- zero-profile cell, curl of H and the E update: with zero profile and ψ_E = 0 the E update of the cell is
exactly the plain Yee update `Yee.stepE`, and ψ_E stays 0 -/
theorem C12_zero_profile_stepE (cf : Cfg K) (m : Mat K) (jE : V3 K) (sim : Bool) (pmls : List (PmlSt K)) (E H : V3 K)
    (i j k : Nat)
    (h : ∀ st ∈ pmls, st.p.box.mem i j k → CleanAt st.p (st.p.off i j k) ∧ st.e1 i j k = 0 ∧ st.e2 i j k = 0) :
    agree (forwardP cf m jE (constV 0) sim pmls E H).1 (stepE cf m jE E H) i j k ∧
    ∀ st ∈ pmls, st.p.box.mem i j k → (updPsiE cf sim H st).e1 i j k = 0 ∧ (updPsiE cf sim H st).e2 i j k = 0 := by
  obtain ⟨c1, c2, c3⟩ := curlHp_clean cf sim pmls H i j k h
  refine ⟨?_, fun st hst hm =>
    updPsiE_clean cf sim H st i j k hm (h st hst hm).1 (h st hst hm).2.1 (h st hst hm).2.2⟩
  -- both updates are `updEwith`, which reads the curl at the cell only
  simp only [agree, forwardP, updEwith, stepE, projE, maskV, addV, c1, c2, c3, and_self]

/-- the ψ recursion of `step_cpml` with `simulate_boundaries = True` -/
theorem stepCpml1_psi (p : Pml K) (isE : Bool) (o : Nat) (d psi : K) :
    (stepCpml1 p isE true o d psi).2
      = (if isE then p.bH o else p.bE o) * psi + (if isE then p.aH o else p.aE o) * d :=
  rfl

/-- with `simulate_boundaries = False` ψ is frozen -/
theorem stepCpml1_frozen (p : Pml K) (isE : Bool) (o : Nat) (d psi : K) : (stepCpml1 p isE false o d psi).2 = psi :=
  rfl

end field

section ordered
variable {K : Type} [Field K] [LinearOrder K] [IsStrictOrderedRing K]

/-- **C12_b_range**: `0 < b ≤ 1` -/
theorem C12_b_range (exp : K → K) (hpos : ∀ x, 0 < exp x) (hle : ∀ x, x ≤ 0 → exp x ≤ 1)
    (dt eps0 sigma kappa alpha : K) (hdt : 0 ≤ dt) (he : 0 < eps0) (hs : 0 ≤ sigma) (hk : 0 < kappa) (ha : 0 ≤ alpha) :
    0 < coefB exp dt eps0 sigma kappa alpha ∧ coefB exp dt eps0 sigma kappa alpha ≤ 1 := by
  rw [coefB_eq]
  exact ⟨hpos _, hle _ (mul_nonpos_of_nonpos_of_nonneg (div_nonpos_of_nonpos_of_nonneg (sub_nonpos.2 hdt) he.le)
    (add_nonneg (div_nonneg hs hk.le) ha))⟩

/-- `b < 1` strictly inside a lossy layer (strictly decreasing `exp`), which is the `b ≠ 1` of `C12_a_zero_iff` -/
theorem C12_b_lt_one (exp : K → K) (hlt : ∀ x, x < 0 → exp x < 1)
    (dt eps0 sigma kappa alpha : K) (hdt : 0 < dt) (he : 0 < eps0) (hs : 0 ≤ sigma) (hk : 0 < kappa) (ha : 0 ≤ alpha)
    (hpos : 0 < sigma ∨ 0 < alpha) : coefB exp dt eps0 sigma kappa alpha < 1 := by
  rw [coefB_eq]
  refine hlt _ (mul_neg_of_neg_of_pos (div_neg_of_neg_of_pos (sub_neg.2 hdt) he) ?_)
  rcases hpos with h | h
  · exact add_pos_of_pos_of_nonneg (div_pos h hk) ha
  · exact add_pos_of_nonneg_of_pos (div_nonneg hs hk.le) h

/-- **C12_a_nonpos**: `a ≤ 0` -/
theorem C12_a_nonpos (b sigma kappa alpha : K) (hb : b ≤ 1) (hs : 0 ≤ sigma) (hk : 0 < kappa) (ha : 0 ≤ alpha) :
    coefA id b sigma kappa alpha ≤ 0 :=
  div_nonpos_of_nonpos_of_nonneg
    (div_nonpos_of_nonpos_of_nonneg (mul_nonpos_of_nonpos_of_nonneg (sub_nonpos.2 hb) hs)
      (add_nonneg hs (mul_nonneg ha hk.le)))
    hk.le

/-- **C12_profile_monotone**: deeper cells have larger profile values (start ≤ end, `pow · order` monotone on `[0, ∞)`) -/
theorem C12_profile_monotone (pow : K → K → K) (vs ve order norm d1 d2 : K)
    (hmono : ∀ x y, 0 ≤ x → x ≤ y → pow x order ≤ pow y order) (hv : vs ≤ ve) (hn : 0 < norm) (h0 : 0 ≤ d1)
    (h12 : d1 ≤ d2) : profile pow vs ve order norm d1 ≤ profile pow vs ve order norm d2 :=
  add_le_add_right
    (mul_le_mul_of_nonneg_left (hmono _ _ (div_nonneg h0 hn.le) (div_le_div_of_nonneg_right h12 hn.le))
      (sub_nonneg.2 hv)) vs

/-- The staggered sample depths of the uniform grid have the form `if (at the face) then 0 else cast n + half`.  Two
of them compare as their cell counts do, provided the deeper one is at the face only if the other is. -/
theorem stag_le {cast : Nat → K} {half : K} (hc : Monotone cast) (h0 : 0 ≤ cast 0) (hh : 0 ≤ half) {P Q : Prop}
    [Decidable P] [Decidable Q] {a b : Nat} (hQP : Q → P) (hab : a ≤ b) :
    (if P then 0 else cast a + half) ≤ (if Q then 0 else cast b + half) := by
  by_cases hQ : Q
  · rw [if_pos hQ, if_pos (hQP hQ)]
  · rw [if_neg hQ]
    split
    · exact add_nonneg (h0.trans (hc (Nat.zero_le b))) hh
    · exact add_le_add_left (hc hab) half

theorem stag_nonneg {cast : Nat → K} {half : K} (hc : Monotone cast) (h0 : 0 ≤ cast 0) (hh : 0 ≤ half) (P : Prop)
    [Decidable P] (a : Nat) : 0 ≤ if P then 0 else cast a + half :=
  stag_le hc h0 hh (P := True) (fun _ => trivial) le_rfl

/-- depths of the uniform grid for any monotone embedding `cast` of the cell counts with `0 ≤ cast 0` and any
`0 ≤ half`: monotone toward the outer face, and non-negative -/
theorem depthsUniform_monotone {cast : Nat → K} {half : K} (hc : Monotone cast) (h0 : 0 ≤ cast 0) (hh : 0 ≤ half)
    (plus : Bool) (L i i' : Nat) (hi : i ≤ i') (hL : i' < L) :
    let dp := depthsUniform cast half plus L
    (if plus then dp.1 i ≤ dp.1 i' ∧ dp.2.1 i ≤ dp.2.1 i' else dp.1 i' ≤ dp.1 i ∧ dp.2.1 i' ≤ dp.2.1 i)
      ∧ 0 ≤ dp.1 i ∧ 0 ≤ dp.2.1 i := by
  have hpos : ∀ n, 0 ≤ cast n := fun n => h0.trans (hc (Nat.zero_le n))
  cases plus
  · exact ⟨⟨hc (by omega), stag_le hc h0 hh (by omega) (by omega)⟩, hpos _, stag_nonneg hc h0 hh _ _⟩
  · exact ⟨⟨stag_le hc h0 hh (by omega) (by omega), hc hi⟩, stag_nonneg hc h0 hh _ _, hpos _⟩

/-- **C12_depths_monotone** (uniform grid, `cast = Nat.cast`, `half = 1/2`): for "+" the depths of both sample sets
are non-decreasing in the cell index, for "-" non-increasing (cells inside the layer), and all depths are ≥ 0 -/
theorem C12_depths_monotone (plus : Bool) (L i i' : Nat) (hi : i ≤ i') (hL : i' < L) :
    let dp := depthsUniform (fun n : Nat => (n : K)) (1 / 2) plus L
    (if plus then dp.1 i ≤ dp.1 i' ∧ dp.2.1 i ≤ dp.2.1 i' else dp.1 i' ≤ dp.1 i ∧ dp.2.1 i' ≤ dp.2.1 i)
      ∧ 0 ≤ dp.1 i ∧ 0 ≤ dp.2.1 i :=
  depthsUniform_monotone Nat.mono_cast (Nat.cast_nonneg' 0) one_half_pos.le plus L i i' hi hL

/-- **C12_psi_contraction**: one ψ update is a contraction up to the forcing term: `|ψ'| ≤ b·|ψ| + |a|·|d|` -/
theorem C12_psi_contraction (p : Pml K) (isE : Bool) (o : Nat) (d psi : K)
    (hb : 0 ≤ (if isE then p.bH o else p.bE o)) :
    |(stepCpml1 p isE true o d psi).2|
      ≤ (if isE then p.bH o else p.bE o) * |psi| + |(if isE then p.aH o else p.aE o)| * |d| := by
  rw [stepCpml1_psi]
  exact (abs_add_le _ _).trans_eq (by rw [abs_mul, abs_mul, abs_of_nonneg hb])

/-- with `b ≤ 1` and no forcing (`d = 0`, or `a = 0`) ψ does not grow -/
theorem C12_psi_nonexpansive (p : Pml K) (isE : Bool) (o : Nat) (psi : K)
    (hb0 : 0 ≤ (if isE then p.bH o else p.bE o)) (hb1 : (if isE then p.bH o else p.bE o) ≤ 1) :
    |(stepCpml1 p isE true o 0 psi).2| ≤ |psi| := by
  refine (C12_psi_contraction p isE o 0 psi hb0).trans ?_
  rw [abs_zero, mul_zero, add_zero]
  exact mul_le_of_le_one_left (abs_nonneg _) hb1

theorem coef_dissipative (exp : K → K) (hpos : ∀ x, 0 < exp x) (hle : ∀ x, x ≤ 0 → exp x ≤ 1)
    (dt eps0 sigma kappa alpha : K) (hdt : 0 ≤ dt) (he : 0 < eps0) (hs : 0 ≤ sigma) (hk : 0 < kappa) (ha : 0 ≤ alpha) :
    0 < coefB exp dt eps0 sigma kappa alpha ∧ coefB exp dt eps0 sigma kappa alpha ≤ 1 ∧
      coefA id (coefB exp dt eps0 sigma kappa alpha) sigma kappa alpha ≤ 0 :=
  have hb := C12_b_range exp hpos hle dt eps0 sigma kappa alpha hdt he hs hk ha
  ⟨hb.1, hb.2, C12_a_nonpos _ _ _ _ hb.2 hs hk ha⟩

/-- **C12_absorbs_partial**.
FULL STATEMENT (NOT proved — not an algebraic fact; evaluated on the real code by the scenario oracle of the check):
  "with layers of ≥ 8 cells on every face and a zero-net-charge pulsed source, the energy left in the domain after the
   pulse has left is < 1e-6 of its peak, and the interior record differs from that of a much larger reference domain by
   < 1e-4 in relative energy, for every polarisation and face".
PROVED PART: every coefficient `place_on_grid` computes for a layer whose graded σ, κ, α are sign-correct
(σ ≥ 0, κ > 0, α ≥ 0 at every sample depth) is dissipative: `0 < b ≤ 1` and `a ≤ 0` for the E and for the H arrays, so
each ψ recursion is a contraction (`C12_psi_contraction`) driven with a non-positive gain. What is missing is the
reflection analysis of the graded discrete layer (all angles, evanescent waves, corner regions). -/
theorem C12_absorbs_partial (exp : K → K) (pow : K → K → K) (hpos : ∀ x, 0 < exp x) (hle : ∀ x, x ≤ 0 → exp x ≤ 1)
    (g : Grading K) (dt eps0 : K) (hdt : 0 ≤ dt) (he : 0 < eps0) (dp : (Nat → K) × (Nat → K) × K)
    (hs : ∀ d, 0 ≤ profile pow g.sigS g.sigE g.sigO dp.2.2 d) (hk : ∀ d, 0 < profile pow g.kapS g.kapE g.kapO dp.2.2 d)
    (ha : ∀ d, 0 ≤ profile pow g.alS g.alE g.alO dp.2.2 d) (i : Nat) :
    let c := coefArrays exp pow id g dt eps0 dp
    (0 < c.2.1 i ∧ c.2.1 i ≤ 1 ∧ c.1 i ≤ 0) ∧ (0 < c.2.2.2.2.1 i ∧ c.2.2.2.2.1 i ≤ 1 ∧ c.2.2.2.1 i ≤ 0) :=
  ⟨coef_dissipative exp hpos hle dt eps0 _ _ _ hdt he (hs (dp.1 i)) (hk (dp.1 i)) (ha (dp.1 i)),
   coef_dissipative exp hpos hle dt eps0 _ _ _ hdt he (hs (dp.2.1 i)) (hk (dp.2.1 i)) (ha (dp.2.1 i))⟩

end ordered

/-! ### non-vacuity -/

/-- the sign hypotheses of `C12_b_range` / `C12_a_nonpos` are met by concrete numbers, with `exp x = 1 / (1 - x)` on
`x ≤ 0` standing in for a function with `0 < exp x ≤ 1` there -/
example : 0 < coefB (fun x : ℚ => if x ≤ 0 then 1 / (1 - x) else 1) 1 2 3 1 (1 / 2)
    ∧ coefB (fun x : ℚ => if x ≤ 0 then 1 / (1 - x) else 1) 1 2 3 1 (1 / 2) ≤ 1 := by
  decide +kernel

example : coefA id (4 / 11 : ℚ) 3 1 (1 / 2) ≤ 0 ∧ coefA id (4 / 11 : ℚ) 3 1 (1 / 2) ≠ 0 := by
  decide +kernel

/-- default-grading arrays of a 3-cell "-" layer on a uniform grid: clean inner face (offset 2) -/
def exArrays : (Nat → ℚ) × (Nat → ℚ) × (Nat → ℚ) × (Nat → ℚ) × (Nat → ℚ) × (Nat → ℚ) :=
  coefArrays (fun x : ℚ => 1 / (1 - x)) (fun x _ => x * x * x) id ⟨0, 5, 3, 1, 1, 3, 1 / 100, 0, 1⟩ 1 2
    (depthsUniform (fun n => (n : ℚ)) (1 / 2) false 3)

example : exArrays.1 2 = 0 ∧ exArrays.2.2.1 2 = 1 ∧ exArrays.2.2.2.1 2 = 0 ∧ exArrays.2.2.2.2.2 2 = 1
    ∧ exArrays.1 0 ≠ 0 := by
  decide +kernel

end Fdtdx.C12
