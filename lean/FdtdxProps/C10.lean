/-
C10 — Fields are linear in sources and initial state.

About the shared Yee model (`FdtdxModel/Yee.lean`) over ANY field `K` (ℝ, ℚ, ℂ …), for EVERY grid shape, halo rule (zero /
periodic / Bloch ghost multipliers), PEC/PMC walls, metric (non-uniform widths), isotropic or diagonal ε⁻¹, μ⁻¹, with or
without electric and magnetic conductivity (no side condition: the lossy update divides by a field-independent divisor),
any source terms. One step (`C10_affine`) and n steps with step-indexed sources (`C10_affine_steps`) map
a•(sources, state)₁ + b•(sources, state)₂ to the same combination of the results; a common factor, superposed sources from
zero fields and superposed initial states are its special cases. One cell of the CPML update is linear (`C10_cpml_linear`).
Volume-mean and phasor records are linear functionals of what they observe, the energy density and E×H are homogeneous
of degree 2; hence the records of a run combine, resp. scale with a².

How: every operation of the model is a composite of sums, differences, products with and quotients by field-independent
coefficients, and zeroing. `lin_add … lin_ite` carry "is the combination a·(run 1) + b·(run 2)" through such a composite,
so the proof of each `…_lin` lemma is the term with the shape of the definition it is about. The lemmas on `dFwd`, `dBwd`,
`updEwith`, `updHwith` (the pieces `Cpml.forwardP` shares with `Yee.forward`) also serve `C10Pml`.
-/
import FdtdxProps.C02
import FdtdxModel.C10
import Mathlib.Tactic.Ring

namespace Fdtdx.C10
open Fdtdx Fdtdx.Yee Fdtdx.C02 Fdtdx.Cpml

section
variable {K : Type} [Field K]

@[simp] theorem linV_x (a b : K) (A B : V3 K) (i j k : Nat) : (linV a b A B).x i j k = a * A.x i j k + b * B.x i j k := rfl
@[simp] theorem linV_y (a b : K) (A B : V3 K) (i j k : Nat) : (linV a b A B).y i j k = a * A.y i j k + b * B.y i j k := rfl
@[simp] theorem linV_z (a b : K) (A B : V3 K) (i j k : Nat) : (linV a b A B).z i j k = a * A.z i j k + b * B.z i j k := rfl

/-! ### combinations of scalars

Every operation of the step is built from sums, differences, products with a field-independent coefficient and
zeroing; `hp`, `hq` say that `p`, `q` are already the combinations of their two runs. -/
section
variable {a b p p1 p2 q q1 q2 : K}

theorem lin_add (hp : p = a * p1 + b * p2) (hq : q = a * q1 + b * q2) : p + q = a * (p1 + q1) + b * (p2 + q2) := by
  rw [hp, hq]; ring

theorem lin_sub (hp : p = a * p1 + b * p2) (hq : q = a * q1 + b * q2) : p - q = a * (p1 - q1) + b * (p2 - q2) := by
  rw [hp, hq]; ring

theorem lin_mul (hp : p = a * p1 + b * p2) (s : K) : p * s = a * (p1 * s) + b * (p2 * s) := by
  rw [hp, add_mul, mul_assoc, mul_assoc]

theorem lin_lmul (s : K) (hp : p = a * p1 + b * p2) : s * p = a * (s * p1) + b * (s * p2) := by
  rw [hp, mul_add, mul_left_comm, mul_left_comm s b]

theorem lin_div (hp : p = a * p1 + b * p2) (s : K) : p / s = a * (p1 / s) + b * (p2 / s) := by
  rw [hp, add_div, mul_div_assoc, mul_div_assoc]

theorem lin_zero : (0 : K) = a * 0 + b * 0 := by
  rw [mul_zero, mul_zero, add_zero]

theorem lin_ite (c : Prop) [Decidable c] (hp : p = a * p1 + b * p2) (hq : q = a * q1 + b * q2) :
    (if c then p else q) = a * (if c then p1 else q1) + b * (if c then p2 else q2) := by
  split_ifs
  · exact hp
  · exact hq

/-- a cell of `update_E` / `update_H`: the material update `p` plus the source term, zeroed on a wall -/
theorem lin_cell (msk : Bool) (hp : p = a * p1 + b * p2) (j1 j2 : K) :
    (if msk then 0 else p + (a * j1 + b * j2)) = a * (if msk then 0 else p1 + j1) + b * (if msk then 0 else p2 + j2) :=
  lin_ite _ lin_zero (lin_add hp rfl)

end

section
variable {a b : K} (cf : Cfg K) (m : Mat K)

/-! ### halo, differences, curls -/

theorem next1_lin (n : Nat) (bc : AxisBC K) (f g : Nat → K) (t : Nat) :
    next1 n bc (fun u => a * f u + b * g u) t = a * next1 n bc f t + b * next1 n bc g t :=
  lin_ite _ rfl (lin_ite _ (lin_mul rfl _) lin_zero)

theorem prev1_lin (n : Nat) (bc : AxisBC K) (f g : Nat → K) (t : Nat) :
    prev1 n bc (fun u => a * f u + b * g u) t = a * prev1 n bc f t + b * prev1 n bc g t :=
  lin_ite _ (lin_ite _ (lin_mul rfl _) lin_zero) rfl

theorem dFwd_lin (ax : Nat) (f g : F3 K) (i j k : Nat) :
    dFwd cf ax (linF a b f g) i j k = a * dFwd cf ax f i j k + b * dFwd cf ax g i j k := by
  rcases ax with _ | _ | ax <;> exact lin_mul (lin_sub (next1_lin ..) rfl) _

theorem dBwd_lin (ax : Nat) (f g : F3 K) (i j k : Nat) :
    dBwd cf ax (linF a b f g) i j k = a * dBwd cf ax f i j k + b * dBwd cf ax g i j k := by
  rcases ax with _ | _ | ax <;> exact lin_mul (lin_sub rfl (prev1_lin ..)) _

/-- each curl component is a difference of two directional differences -/
theorem curlE_lin (A B : V3 K) : curlE cf (linV a b A B) = linV a b (curlE cf A) (curlE cf B) := by
  apply V3.ext' <;> intro i j k <;>
    exact lin_sub (lin_mul (lin_sub (next1_lin ..) rfl) _) (lin_mul (lin_sub (next1_lin ..) rfl) _)

theorem curlH_lin (A B : V3 K) : curlH cf (linV a b A B) = linV a b (curlH cf A) (curlH cf B) := by
  apply V3.ext' <;> intro i j k <;>
    exact lin_sub (lin_mul (lin_sub rfl (prev1_lin ..)) _) (lin_mul (lin_sub rfl (prev1_lin ..)) _)

/-! ### the material update -/

/-- the (possibly lossy) cell update is linear in (field, curl): the divisor does not depend on the fields -/
theorem updE1_lin (c eta0 e1 e2 cu1 cu2 ie : K) (sig : Option K) :
    updE1 c eta0 (a * e1 + b * e2) (a * cu1 + b * cu2) ie sig
      = a * updE1 c eta0 e1 cu1 ie sig + b * updE1 c eta0 e2 cu2 ie sig := by
  cases sig with
  | none => exact lin_add rfl (lin_mul (lin_lmul c rfl) ie)
  | some s => exact lin_div (lin_add (lin_lmul _ rfl) (lin_mul (lin_lmul c rfl) ie)) _

theorem updH1_lin (c eta0 h1 h2 cu1 cu2 im : K) (sig : Option K) :
    updH1 c eta0 (a * h1 + b * h2) (a * cu1 + b * cu2) im sig
      = a * updH1 c eta0 h1 cu1 im sig + b * updH1 c eta0 h2 cu2 im sig := by
  cases sig with
  | none => exact lin_sub rfl (lin_mul (lin_lmul c rfl) im)
  | some s => exact lin_div (lin_sub (lin_lmul _ rfl) (lin_mul (lin_lmul c rfl) im)) _

theorem updEwith_lin (jE1 jE2 cu1 cu2 E1 E2 : V3 K) :
    updEwith cf m (linV a b jE1 jE2) (linV a b cu1 cu2) (linV a b E1 E2)
      = linV a b (updEwith cf m jE1 cu1 E1) (updEwith cf m jE2 cu2 E2) := by
  apply V3.ext' <;> intro i j k <;> exact lin_cell _ (updE1_lin ..) _ _

theorem updHwith_lin (jH1 jH2 cu1 cu2 H1 H2 : V3 K) :
    updHwith cf m (linV a b jH1 jH2) (linV a b cu1 cu2) (linV a b H1 H2)
      = linV a b (updHwith cf m jH1 cu1 H1) (updHwith cf m jH2 cu2 H2) := by
  apply V3.ext' <;> intro i j k <;> exact lin_cell _ (updH1_lin ..) _ _

/-- `stepE` is `updEwith` fed with the plain curl of `H` -/
theorem stepE_lin (jE1 jE2 E1 E2 H1 H2 : V3 K) :
    stepE cf m (linV a b jE1 jE2) (linV a b E1 E2) (linV a b H1 H2)
      = linV a b (stepE cf m jE1 E1 H1) (stepE cf m jE2 E2 H2) :=
  (congrArg (updEwith cf m _ · _) (curlH_lin cf H1 H2)).trans (updEwith_lin ..)

theorem stepH_lin (jH1 jH2 E1 E2 H1 H2 : V3 K) :
    stepH cf m (linV a b jH1 jH2) (linV a b E1 E2) (linV a b H1 H2)
      = linV a b (stepH cf m jH1 E1 H1) (stepH cf m jH2 E2 H2) :=
  (congrArg (updHwith cf m _ · _) (curlE_lin cf E1 E2)).trans (updHwith_lin ..)

end

/-- **C10_affine**: one time step maps a linear combination of (sources, state) to the same combination of the
results — any shape, halo, walls, metric, diagonal materials, conductivities; any scalars `a b`. -/
theorem C10_affine (cf : Cfg K) (m : Mat K) (a b : K) (jE1 jE2 jH1 jH2 E1 E2 H1 H2 : V3 K) :
    forward cf m (linV a b jE1 jE2) (linV a b jH1 jH2) (linV a b E1 E2) (linV a b H1 H2)
      = (linV a b (forward cf m jE1 jH1 E1 H1).1 (forward cf m jE2 jH2 E2 H2).1,
         linV a b (forward cf m jE1 jH1 E1 H1).2 (forward cf m jE2 jH2 E2 H2).2) := by
  simp only [forward]
  rw [stepE_lin, stepH_lin]

/-- **C10_affine_steps**: n steps, source terms indexed by the time step (any temporal profile and on/off switch) -/
theorem C10_affine_steps (cf : Cfg K) (m : Mat K) (a b : K) (jE1 jE2 jH1 jH2 : Nat → V3 K) (t n : Nat)
    (E1 E2 H1 H2 : V3 K) :
    fwdN cf m (fun s => linV a b (jE1 s) (jE2 s)) (fun s => linV a b (jH1 s) (jH2 s)) t n
        (linV a b E1 E2, linV a b H1 H2)
      = (linV a b (fwdN cf m jE1 jH1 t n (E1, H1)).1 (fwdN cf m jE2 jH2 t n (E2, H2)).1,
         linV a b (fwdN cf m jE1 jH1 t n (E1, H1)).2 (fwdN cf m jE2 jH2 t n (E2, H2)).2) := by
  induction n with
  | zero => rfl
  | succ n ih =>
    simp only [fwdN]
    rw [ih]
    exact C10_affine cf m a b _ _ _ _ _ _ _ _

def zeroV : V3 K := constV 0

theorem linV_zero_right (a : K) (A B : V3 K) : linV a 0 A B = smulV a A := by
  apply V3.ext' <;> intro i j k <;> exact (congrArg (_ + ·) (zero_mul _)).trans (add_zero _)

theorem linV_one_one (A B : V3 K) : linV 1 1 A B = addV A B := by
  apply V3.ext' <;> intro i j k <;> exact congrArg₂ (· + ·) (one_mul _) (one_mul _)

theorem linV_zeroV (a b : K) : linV a b (zeroV : V3 K) zeroV = zeroV := by
  apply V3.ext' <;> intro i j k <;> exact lin_zero.symm

/-- **C10_scale**: a common factor on every source term and on the initial state is a factor on the result. -/
theorem C10_scale (cf : Cfg K) (m : Mat K) (a : K) (jE jH : Nat → V3 K) (t n : Nat) (E H : V3 K) :
    fwdN cf m (fun s => smulV a (jE s)) (fun s => smulV a (jH s)) t n (smulV a E, smulV a H)
      = (smulV a (fwdN cf m jE jH t n (E, H)).1, smulV a (fwdN cf m jE jH t n (E, H)).2) := by
  have h := C10_affine_steps cf m a 0 jE jE jH jH t n E E H H
  simpa only [linV_zero_right] using h

/-- **C10_sources_superpose**: starting from zero fields, a run with two sources whose unit terms are `u₁, u₂`
and whose amplitude factors are `f₁, f₂` equals `f₁•(run with u₁ alone) + f₂•(run with u₂ alone)`. -/
theorem C10_sources_superpose (cf : Cfg K) (m : Mat K) (f1 f2 : K) (uE1 uE2 uH1 uH2 : Nat → V3 K) (t n : Nat) :
    fwdN cf m (fun s => linV f1 f2 (uE1 s) (uE2 s)) (fun s => linV f1 f2 (uH1 s) (uH2 s)) t n (zeroV, zeroV)
      = (linV f1 f2 (fwdN cf m uE1 uH1 t n (zeroV, zeroV)).1 (fwdN cf m uE2 uH2 t n (zeroV, zeroV)).1,
         linV f1 f2 (fwdN cf m uE1 uH1 t n (zeroV, zeroV)).2 (fwdN cf m uE2 uH2 t n (zeroV, zeroV)).2) := by
  have h := C10_affine_steps cf m f1 f2 uE1 uE2 uH1 uH2 t n zeroV zeroV zeroV zeroV
  simpa only [linV_zeroV] using h

/-- **C10_initial_superpose**: without sources the n-step map is linear in the initial state. -/
theorem C10_initial_superpose (cf : Cfg K) (m : Mat K) (a b : K) (t n : Nat) (E1 E2 H1 H2 : V3 K) :
    fwdN cf m (fun _ => zeroV) (fun _ => zeroV) t n (linV a b E1 E2, linV a b H1 H2)
      = (linV a b (fwdN cf m (fun _ => zeroV) (fun _ => zeroV) t n (E1, H1)).1
            (fwdN cf m (fun _ => zeroV) (fun _ => zeroV) t n (E2, H2)).1,
         linV a b (fwdN cf m (fun _ => zeroV) (fun _ => zeroV) t n (E1, H1)).2
            (fwdN cf m (fun _ => zeroV) (fun _ => zeroV) t n (E2, H2)).2) := by
  have h := C10_affine_steps cf m a b (fun _ => zeroV) (fun _ => zeroV) (fun _ => zeroV) (fun _ => zeroV) t n E1 E2 H1 H2
  simpa only [linV_zeroV] using h

/-- **C10_cpml_linear**: the CPML auxiliary update and its curl correction (`step_cpml`) are linear in
(psi, derivative) — the absorbing layers do not break superposition. -/
theorem C10_cpml_linear (a b ik x y psi1 psi2 d1 d2 : K) (sim kappaOne : Bool) :
    cpmlStep a b ik (x * psi1 + y * psi2) (x * d1 + y * d2) sim kappaOne
      = (x * (cpmlStep a b ik psi1 d1 sim kappaOne).1 + y * (cpmlStep a b ik psi2 d2 sim kappaOne).1,
         x * (cpmlStep a b ik psi1 d1 sim kappaOne).2 + y * (cpmlStep a b ik psi2 d2 sim kappaOne).2) := by
  have hN : (cpmlStep a b ik (x * psi1 + y * psi2) (x * d1 + y * d2) sim kappaOne).2
      = x * (cpmlStep a b ik psi1 d1 sim kappaOne).2 + y * (cpmlStep a b ik psi2 d2 sim kappaOne).2 :=
    lin_ite _ (lin_add (lin_lmul b rfl) (lin_lmul a rfl)) rfl
  exact Prod.ext (lin_ite _ hN (lin_add (lin_lmul _ rfl) hN)) hN

/-! ### records -/

theorem sumTo_lin (n : Nat) (a b : K) (f g : Nat → K) :
    sumTo n (fun t => a * f t + b * g t) = a * sumTo n f + b * sumTo n g := by
  induction n with
  | zero => exact lin_zero
  | succ n ih => exact lin_add ih rfl

/-- **C10_phasor_linear**: the phasor accumulator is linear in the observed time series -/
theorem C10_phasor_linear (ph o1 o2 : Nat → K) (a b : K) (n : Nat) :
    phasorAcc ph (fun t => a * o1 t + b * o2 t) n = a * phasorAcc ph o1 n + b * phasorAcc ph o2 n :=
  (congrArg (sumTo n) (funext fun _ => lin_mul rfl _)).trans (sumTo_lin n a b _ _)

/-- **C10_wmean_linear**: the volume-weighted mean of a reduced FieldDetector is linear in the cell values: it is a
weighted sum like the phasor, divided by the total weight -/
theorem C10_wmean_linear (n : Nat) (w v1 v2 : Nat → K) (a b : K) :
    wmean n w (fun t => a * v1 t + b * v2 t) = a * wmean n w v1 + b * wmean n w v2 :=
  lin_div (C10_phasor_linear w v1 v2 a b n) _

/-- **C10_field_record_linear**: what a FieldDetector stores at step `t+n` (any component, any cell) for the
combined run is the combination of what it stores for the two runs. -/
theorem C10_field_record_linear (cf : Cfg K) (m : Mat K) (a b : K) (jE1 jE2 jH1 jH2 : Nat → V3 K) (t n : Nat)
    (E1 E2 H1 H2 : V3 K) (i j k : Nat) :
    let S := fwdN cf m (fun s => linV a b (jE1 s) (jE2 s)) (fun s => linV a b (jH1 s) (jH2 s)) t n
        (linV a b E1 E2, linV a b H1 H2)
    let S1 := fwdN cf m jE1 jH1 t n (E1, H1)
    let S2 := fwdN cf m jE2 jH2 t n (E2, H2)
    S.1.x i j k = a * S1.1.x i j k + b * S2.1.x i j k ∧ S.1.y i j k = a * S1.1.y i j k + b * S2.1.y i j k
    ∧ S.1.z i j k = a * S1.1.z i j k + b * S2.1.z i j k ∧ S.2.x i j k = a * S1.2.x i j k + b * S2.2.x i j k
    ∧ S.2.y i j k = a * S1.2.y i j k + b * S2.2.y i j k ∧ S.2.z i j k = a * S1.2.z i j k + b * S2.2.z i j k := by
  intro S S1 S2
  have h : S = _ := C10_affine_steps cf m a b jE1 jE2 jH1 jH2 t n E1 E2 H1 H2
  rw [h]
  exact ⟨rfl, rfl, rfl, rfl, rfl, rfl⟩

/-- the phasor of any linear observation `obs` of the state (a component of E or H at a cell, a weighted mean over cells),
accumulated over `n` steps of the combined run counted from step `t`, is the combination of the two runs' phasors -/
theorem phasor_of_observation_linear (cf : Cfg K) (m : Mat K) (a b : K) (jE1 jE2 jH1 jH2 : Nat → V3 K)
    (E1 E2 H1 H2 : V3 K) (ph : Nat → K) (obs : V3 K × V3 K → K)
    (hobs : ∀ S1 S2, obs (linV a b S1.1 S2.1, linV a b S1.2 S2.2) = a * obs S1 + b * obs S2) (t n : Nat) :
    phasorAcc ph (fun s => obs (fwdN cf m (fun s => linV a b (jE1 s) (jE2 s)) (fun s => linV a b (jH1 s) (jH2 s)) t (s + 1)
        (linV a b E1 E2, linV a b H1 H2))) n
      = a * phasorAcc ph (fun s => obs (fwdN cf m jE1 jH1 t (s + 1) (E1, H1))) n
        + b * phasorAcc ph (fun s => obs (fwdN cf m jE2 jH2 t (s + 1) (E2, H2))) n := by
  rw [← C10_phasor_linear]
  congr 1
  funext s
  rw [C10_affine_steps]
  exact hobs _ _

/-- **C10_phasor_record_linear**: the phasor of E_x at a cell, accumulated over the first `n` steps of the combined run,
is the combination of the two runs' phasors. -/
theorem C10_phasor_record_linear (cf : Cfg K) (m : Mat K) (a b : K) (jE1 jE2 jH1 jH2 : Nat → V3 K)
    (E1 E2 H1 H2 : V3 K) (ph : Nat → K) (i j k n : Nat) :
    phasorAcc ph (fun s => (fwdN cf m (fun s => linV a b (jE1 s) (jE2 s)) (fun s => linV a b (jH1 s) (jH2 s)) 0 (s + 1)
        (linV a b E1 E2, linV a b H1 H2)).1.x i j k) n
      = a * phasorAcc ph (fun s => (fwdN cf m jE1 jH1 0 (s + 1) (E1, H1)).1.x i j k) n
        + b * phasorAcc ph (fun s => (fwdN cf m jE2 jH2 0 (s + 1) (E2, H2)).1.x i j k) n :=
  phasor_of_observation_linear cf m a b jE1 jE2 jH1 jH2 E1 E2 H1 H2 ph (fun S => S.1.x i j k) (fun _ _ => rfl) 0 n

/-- **C10_energy_quadratic**: the energy density of the EnergyDetector is homogeneous of degree 2 -/
theorem C10_energy_quadratic (a : K) (ie im E H : V3 K) (i j k : Nat) :
    detEnergy ie im (smulV a E) (smulV a H) i j k = a ^ 2 * detEnergy ie im E H i j k := by
  have h (c e : K) : c * (a * e * (a * e)) = a ^ 2 * (c * (e * e)) := by ring
  simp only [detEnergy, smulV, h, ← mul_add]

/-- **C10_poynting_quadratic**: E × H is homogeneous of degree 2 -/
theorem C10_poynting_quadratic (a : K) (E H : V3 K) :
    poynting (smulV a E) (smulV a H) = smulV (a ^ 2) (poynting E H) := by
  have h (e1 h1 e2 h2 : K) : a * e1 * (a * h1) - a * e2 * (a * h2) = a ^ 2 * (e1 * h1 - e2 * h2) := by ring
  apply V3.ext' <;> intro i j k <;> exact h ..

/-- **C10_energy_record_scales**: with a common factor `a` on all sources and the initial state the energy
record at every step and cell is multiplied by `a²`. -/
theorem C10_energy_record_scales (cf : Cfg K) (m : Mat K) (a : K) (jE jH : Nat → V3 K) (t n : Nat) (E H : V3 K)
    (ie im : V3 K) (i j k : Nat) :
    detEnergy ie im (fwdN cf m (fun s => smulV a (jE s)) (fun s => smulV a (jH s)) t n (smulV a E, smulV a H)).1
        (fwdN cf m (fun s => smulV a (jE s)) (fun s => smulV a (jH s)) t n (smulV a E, smulV a H)).2 i j k
      = a ^ 2 * detEnergy ie im (fwdN cf m jE jH t n (E, H)).1 (fwdN cf m jE jH t n (E, H)).2 i j k := by
  rw [C10_scale]
  exact C10_energy_quadratic a ie im _ _ i j k

theorem C10_poynting_record_scales (cf : Cfg K) (m : Mat K) (a : K) (jE jH : Nat → V3 K) (t n : Nat) (E H : V3 K) :
    poynting (fwdN cf m (fun s => smulV a (jE s)) (fun s => smulV a (jH s)) t n (smulV a E, smulV a H)).1
        (fwdN cf m (fun s => smulV a (jE s)) (fun s => smulV a (jH s)) t n (smulV a E, smulV a H)).2
      = smulV (a ^ 2) (poynting (fwdN cf m jE jH t n (E, H)).1 (fwdN cf m jE jH t n (E, H)).2) := by
  rw [C10_scale]
  exact C10_poynting_quadratic a _ _

end

/-! ### non-vacuity: the statements have no hypotheses; a concrete lossy, walled, periodic instance over ℚ shows
that the step is not the zero map (the identities are not 0 = 0). -/
open Fdtdx.C01 in
example : (forward exCfg ⟨constV 2, constV 1, some (constV (1 / 3)), none⟩ (constV 0) (constV 0) exE exH).1.x 1 1 1 ≠ 0 := by
  decide +kernel

end Fdtdx.C10
