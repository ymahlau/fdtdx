/-
C09 — periodic / Bloch supercells, any-tier step (`FdtdxModel/YeeAniso.lean`, in particular full 3×3 tensors).

Same setting as `FdtdxProps/C09.lean` (x is a wrap axis of n ≥ 1 cells without walls, per-copy factors `w` compatible with
the ghost multipliers: `AxisOK`, `PhaseOK`), materials of any tier tiled along x, lossy or lossless: the neighbour averages
(uniform and spacing-weighted; two-axis halo access incl. corner ghosts) of a tiled array are the tiled averages
(`C09_aniso_avg_tile`), forwardA(supercell, tile s) = tile(forwardA(base, s)) on every cell of the supercell
(`C09_aniso_tile_step`, `C09_aniso_tile_steps`), Bloch instance `C09_aniso_tile_bloch`.

The lemmas continue the relational layer of `FdtdxProps/C09.lean`: averages, rows of the update matrices, the full-tensor half
steps, the tier dispatch.  For the spacing-weighted averages the x widths of the supercell are the tiled widths and
`WidthsTileOK` asks that their edge-replicated predecessor is tiled too, which holds for seam-symmetric widths
(`widthsTileOK_of_seam`) — `get_anisotropic_averaging_widths` pads w[-1] := w[0] instead of wrapping, the same as-found
convention as `_metric_scale` (known finding of C09); witness `AsFound.wPrev_not_tiled`.
-/
import FdtdxModel.C09Aniso
import FdtdxProps.C09
import FdtdxProps.C02Aniso
import Mathlib.Tactic.Ring
import Mathlib.Tactic.NormNum

namespace Fdtdx.C09
open Fdtdx Fdtdx.Yee Fdtdx.YeeAniso Fdtdx.C02
set_option linter.unusedSectionVars false

section
variable {K : Type} [Field K] {cf : Cfg K} {m : Nat} {w : Nat → K} {P Q : K}

/-- the edge-replicated predecessor of the tiled x widths is the tiled predecessor -/
def WidthsTileOK (n : Nat) (aw : Option (AW K)) : Prop :=
  ∀ wv, aw = some wv → ∀ i, wPrev (fun t => wv.wx (t % n)) i = wPrev wv.wx (i % n)

/-- a uniform grid has no averaging widths -/
theorem widthsTileOK_none (n : Nat) : WidthsTileOK (K := K) n none := fun _ h => by cases h

/-- seam-symmetric x widths (first = last) tile together with their predecessor -/
theorem widthsTileOK_of_seam (n : Nat) (hn : 0 < n) (wv : AW K) (hs : wv.wx 0 = wv.wx (n - 1)) : WidthsTileOK n (some wv) := by
  intro wv' h i
  cases h
  unfold wPrev
  rcases i with _ | i
  · simp
  · simp only [Nat.succ_ne_zero, if_false, Nat.add_sub_cancel]
    by_cases h1 : i % n + 1 < n
    · rw [(succ_inner h1).1, if_neg (Nat.succ_ne_zero _), Nat.add_sub_cancel]
    · have hl : i % n + 1 = n := Nat.le_antisymm (Nat.mod_lt i hn) (Nat.le_of_not_lt h1)
      rw [(succ_seam hl).1, if_pos rfl, Nat.eq_sub_of_add_eq hl]
      exact hs.symm

theorem awAx_tile (n : Nat) (wv : AW K) (ax i j k : Nat) :
    (tileAWX n wv).ax ax (idxAx ax i j k) = wv.ax ax (idxAx ax (i % n) j k) := by
  match ax with
  | 0 => rfl
  | 1 => rfl
  | _ + 2 => rfl

theorem wPrev_tile (n : Nat) (wv : AW K) (h : ∀ i, wPrev (fun t => wv.wx (t % n)) i = wPrev wv.wx (i % n)) (ax i j k : Nat) :
    wPrev ((tileAWX n wv).ax ax) (idxAx ax i j k) = wPrev (wv.ax ax) (idxAx ax (i % n) j k) := by
  match ax with
  | 0 => exact h i
  | 1 => rfl
  | _ + 2 => rfl

/-! ### averages -/

theorem half_rel {N n : Nat} {fT f : F3 K → F3 K}
    (hf : ∀ {A S}, AgreeF N A (tileF n w S) → AgreeF N (fT A) (tileF n w (f S))) {A S : F3 K} (h : AgreeF N A (tileF n w S)) :
    AgreeF N (fun i j k => (1 / 2 : K) * (A i j k + fT A i j k)) (tileF n w (fun i j k => (1 / 2 : K) * (S i j k + f S i j k))) := by
  intro i j k hi
  simp only [h i j k hi, hf h i j k hi, tileF]
  ring

/-- the uniform four-point mean over two shifts (the corner is the composition of both) -/
theorem mean4_rel {N n : Nat} {fT f gT g : F3 K → F3 K}
    (hf : ∀ {A S}, AgreeF N A (tileF n w S) → AgreeF N (fT A) (tileF n w (f S)))
    (hg : ∀ {A S}, AgreeF N A (tileF n w S) → AgreeF N (gT A) (tileF n w (g S))) {A S : F3 K} (h : AgreeF N A (tileF n w S)) :
    AgreeF N (fun i j k => (((A i j k + fT A i j k) + gT A i j k) + fT (gT A) i j k) / 4)
      (tileF n w (fun i j k => (((S i j k + f S i j k) + g S i j k) + f (g S) i j k) / 4)) := by
  intro i j k hi
  simp only [h i j k hi, hf h i j k hi, hg h i j k hi, hf (hg h) i j k hi, tileF]
  ring

/-! ### rows of the update matrices, tier dispatch -/

theorem rowsApply_rel {avgT avg : Nat → Nat → F3 K → F3 K} {N n : Nat}
    (havg : ∀ c l {A S}, AgreeF N A (tileF n w S) → AgreeF N (avgT c l A) (tileF n w (avg c l S)))
    {TT T : F3 (M3 K)} (hT : ∀ i j k, TT i j k = T (i % n) j k) {A V : V3 K} (h : AgreeX N A (tileX n w V)) :
    AgreeX N (rowsApply avgT TT A) (tileX n w (rowsApply avg T V)) := by
  obtain ⟨hx, hy, hz⟩ := (agreeX_iff N A _).1 h
  intro i j k hi
  simp only [rowsApply, tileX, hT, havg 1 0 hy i j k hi, havg 2 0 hz i j k hi, havg 0 1 hx i j k hi, havg 2 1 hz i j k hi,
    havg 0 2 hx i j k hi, havg 1 2 hy i j k hi, hx i j k hi, hy i j k hi, hz i j k hi, tileF]
  exact ⟨by ring, by ring, by ring⟩

theorem subV_rel {N n : Nat} {A B V U : V3 K} (h1 : AgreeX N A (tileX n w V)) (h2 : AgreeX N B (tileX n w U)) :
    AgreeX N (subV A B) (tileX n w (subV V U)) := by
  intro i j k hi
  simp only [subV, h1 i j k hi, h2 i j k hi, tileX, sub_mul, and_self]

theorem sigAt_tile (n : Nat) (sig : Option (F3 (M3 K))) (i j k : Nat) :
    sigAt (sig.map (retileT n)) i j k = sigAt sig (i % n) j k := by
  cases sig <;> rfl

theorem tileTens_isFull (n : Nat) (t : Tens K) : (tileTens n t).isFull = t.isFull := by cases t <;> rfl
theorem tileTens_expand (n : Nat) (t : Tens K) : (tileTens n t).expand = retileT n t.expand := by cases t <;> rfl
theorem tileTens_toV3 (n : Nat) (t : Tens K) : (tileTens n t).toV3 = retileX n t.toV3 := by cases t <;> rfl

theorem tileMatAX_full (n : Nat) (mt : MatA K) : (tileMatAX n mt).fullE = mt.fullE ∧ (tileMatAX n mt).fullH = mt.fullH := by
  obtain ⟨ie, im, sE, sH⟩ := mt
  constructor
  · cases sE <;> simp [MatA.fullE, tileMatAX, optFull, tileTens_isFull]
  · cases sH <;> simp [MatA.fullH, tileMatAX, optFull, tileTens_isFull]

theorem tileMatAX_diagMat (n : Nat) (mt : MatA K) : (tileMatAX n mt).diagMat = tileMatX n mt.diagMat := by
  obtain ⟨ie, im, sE, sH⟩ := mt
  cases sE <;> cases sH <;> simp [MatA.diagMat, tileMatAX, tileMatX, tileTens_toV3]

theorem optExpand_tile (n : Nat) (s : Option (Tens K)) :
    (s.map (tileTens n)).map Tens.expand = (s.map Tens.expand).map (retileT n) := by
  cases s with
  | none => rfl
  | some t => simp [tileTens_expand]

section
variable (hax : AxisOK cf) (hp : PhaseOK m w cf.bx.pp cf.bx.pm P Q)
include hax hp

/-- the spacing-weighted mean of an array and its left neighbour along `ax` -/
theorem wmean_rel (wv : AW K) (hW : ∀ i, wPrev (fun t => wv.wx (t % cf.nx)) i = wPrev wv.wx (i % cf.nx)) (ax : Nat)
    {A S : F3 K} (h : AgreeF (m * cf.nx) A (tileF cf.nx w S)) :
    AgreeF (m * cf.nx)
      (fun i j k => (A i j k * wPrev ((tileAWX cf.nx wv).ax ax) (idxAx ax i j k)
          + prevAx (tileCfgX m P Q cf) ax A i j k * (tileAWX cf.nx wv).ax ax (idxAx ax i j k))
        / ((tileAWX cf.nx wv).ax ax (idxAx ax i j k) + wPrev ((tileAWX cf.nx wv).ax ax) (idxAx ax i j k)))
      (tileF cf.nx w (fun i j k => (S i j k * wPrev (wv.ax ax) (idxAx ax i j k) + prevAx cf ax S i j k * wv.ax ax (idxAx ax i j k))
        / (wv.ax ax (idxAx ax i j k) + wPrev (wv.ax ax) (idxAx ax i j k)))) := by
  intro i j k hi
  simp only [h i j k hi, prevAx_rel hax hp ax h i j k hi, awAx_tile cf.nx wv ax i j k, wPrev_tile cf.nx wv hW ax i j k, tileF]
  ring

variable (aw : Option (AW K)) (hW : WidthsTileOK cf.nx aw)
include hW

/-- **C09_aniso_avg_tile** (E-type average): the four-point mean, or the weighted mean along `c` of the half sums along `l` -/
theorem avgE_rel (c l : Nat) {A S : F3 K} (h : AgreeF (m * cf.nx) A (tileF cf.nx w S)) :
    AgreeF (m * cf.nx) (avgE (tileCfgX m P Q cf) (aw.map (tileAWX cf.nx)) c l A) (tileF cf.nx w (avgE cf aw c l S)) := by
  cases aw with
  | none => exact mean4_rel (nextAx_rel hax hp l) (prevAx_rel hax hp c) h
  | some wv => exact wmean_rel hax hp wv (hW wv rfl) c (half_rel (nextAx_rel hax hp l) h)

/-- **C09_aniso_avg_tile** (H-type average): the same two operations in the other order -/
theorem avgH_rel (c l : Nat) {A S : F3 K} (h : AgreeF (m * cf.nx) A (tileF cf.nx w S)) :
    AgreeF (m * cf.nx) (avgH (tileCfgX m P Q cf) (aw.map (tileAWX cf.nx)) c l A) (tileF cf.nx w (avgH cf aw c l S)) := by
  cases aw with
  | none => exact mean4_rel (prevAx_rel hax hp l) (nextAx_rel hax hp c) h
  | some wv => exact half_rel (nextAx_rel hax hp c) (wmean_rel hax hp wv (hW wv rfl) l h)

/-! ### the half steps -/

theorem stepEFull_rel (inv : F3 (M3 K)) (sig : Option (F3 (M3 K))) (jE : V3 K) {ET HT E H : V3 K}
    (hE : AgreeX (m * cf.nx) ET (tileX cf.nx w E)) (hH : AgreeX (m * cf.nx) HT (tileX cf.nx w H)) :
    AgreeX (m * cf.nx)
      (stepEFull (tileCfgX m P Q cf) (aw.map (tileAWX cf.nx)) (retileT cf.nx inv) (sig.map (retileT cf.nx)) (tileX cf.nx w jE) ET HT)
      (tileX cf.nx w (stepEFull cf aw inv sig jE E H)) := by
  refine maskV_rel (pecMask_tile hax) (addV_rel (addV_rel (rowsApply_rel (avgE_rel hax hp aw hW) ?_ hE)
    (rowsApply_rel (avgE_rel hax hp aw hW) ?_ (curlH_rel hax hp hH))) (agreeX_refl _ _))
  -- the update matrices are computed cell by cell from (inv, sig), both tiled without factor
  all_goals intro i j k; simp only [retileT, sigAt_tile]; rfl

theorem stepHFull_rel (inv : F3 (M3 K)) (sig : Option (F3 (M3 K))) (jH : V3 K) {ET HT E H : V3 K}
    (hE : AgreeX (m * cf.nx) ET (tileX cf.nx w E)) (hH : AgreeX (m * cf.nx) HT (tileX cf.nx w H)) :
    AgreeX (m * cf.nx)
      (stepHFull (tileCfgX m P Q cf) (aw.map (tileAWX cf.nx)) (retileT cf.nx inv) (sig.map (retileT cf.nx)) (tileX cf.nx w jH) ET HT)
      (tileX cf.nx w (stepHFull cf aw inv sig jH E H)) := by
  refine maskV_rel (pmcMask_tile hax) (addV_rel (subV_rel (rowsApply_rel (avgH_rel hax hp aw hW) ?_ hH)
    (rowsApply_rel (avgH_rel hax hp aw hW) ?_ (curlE_rel hax hp hE))) (agreeX_refl _ _))
  all_goals intro i j k; simp only [retileT, sigAt_tile]; rfl

theorem stepEA_rel (mt : MatA K) (jE : V3 K) {ET HT E H : V3 K}
    (hE : AgreeX (m * cf.nx) ET (tileX cf.nx w E)) (hH : AgreeX (m * cf.nx) HT (tileX cf.nx w H)) :
    AgreeX (m * cf.nx)
      (stepEA (tileCfgX m P Q cf) (aw.map (tileAWX cf.nx)) (tileMatAX cf.nx mt) (tileX cf.nx w jE) ET HT)
      (tileX cf.nx w (stepEA cf aw mt jE E H)) := by
  unfold stepEA
  rw [(tileMatAX_full cf.nx mt).1, tileMatAX_diagMat]
  cases mt.fullE
  · exact stepE_rel hax hp mt.diagMat jE hE hH
  · simp only [if_true, tileMatAX, tileTens_expand, optExpand_tile]
    exact stepEFull_rel hax hp aw hW _ _ jE hE hH

theorem stepHA_rel (mt : MatA K) (jH : V3 K) {ET HT E H : V3 K}
    (hE : AgreeX (m * cf.nx) ET (tileX cf.nx w E)) (hH : AgreeX (m * cf.nx) HT (tileX cf.nx w H)) :
    AgreeX (m * cf.nx)
      (stepHA (tileCfgX m P Q cf) (aw.map (tileAWX cf.nx)) (tileMatAX cf.nx mt) (tileX cf.nx w jH) ET HT)
      (tileX cf.nx w (stepHA cf aw mt jH E H)) := by
  unfold stepHA
  rw [(tileMatAX_full cf.nx mt).2, tileMatAX_diagMat]
  cases mt.fullH
  · exact stepH_rel hax hp mt.diagMat jH hE hH
  · simp only [if_true, tileMatAX, tileTens_expand, optExpand_tile]
    exact stepHFull_rel hax hp aw hW _ _ jH hE hH

theorem forwardA_rel (mt : MatA K) (jE jH : V3 K) {ET HT E H : V3 K}
    (hE : AgreeX (m * cf.nx) ET (tileX cf.nx w E)) (hH : AgreeX (m * cf.nx) HT (tileX cf.nx w H)) :
    AgreeX (m * cf.nx)
        (forwardA (tileCfgX m P Q cf) (aw.map (tileAWX cf.nx)) (tileMatAX cf.nx mt) (tileX cf.nx w jE) (tileX cf.nx w jH) ET HT).1
        (tileX cf.nx w (forwardA cf aw mt jE jH E H).1)
    ∧ AgreeX (m * cf.nx)
        (forwardA (tileCfgX m P Q cf) (aw.map (tileAWX cf.nx)) (tileMatAX cf.nx mt) (tileX cf.nx w jE) (tileX cf.nx w jH) ET HT).2
        (tileX cf.nx w (forwardA cf aw mt jE jH E H).2) :=
  have h1 := stepEA_rel hax hp aw hW mt jE hE hH
  ⟨h1, stepHA_rel hax hp aw hW mt jH h1 hH⟩

end
end

section
variable {K : Type} [Field K] (cf : Cfg K) (m : Nat) (w : Nat → K) (P Q : K)

/-- **C09_aniso_tile_step**: one any-tier time step of the supercell started from the tiled state (tiled materials of any
tier incl. full 3×3 tensors and conductivities, tiled sources, per-copy factors `w`) is the tiled time step of the base
cell, on every cell of the supercell. -/
theorem C09_aniso_tile_step (hax : AxisOK cf) (hp : PhaseOK m w cf.bx.pp cf.bx.pm P Q) (hm : 0 < m) (aw : Option (AW K))
    (hW : WidthsTileOK cf.nx aw) (mt : MatA K) (jE jH E H : V3 K) :
    AgreeX (m * cf.nx)
        (forwardA (tileCfgX m P Q cf) (aw.map (tileAWX cf.nx)) (tileMatAX cf.nx mt) (tileX cf.nx w jE) (tileX cf.nx w jH)
          (tileX cf.nx w E) (tileX cf.nx w H)).1
        (tileX cf.nx w (forwardA cf aw mt jE jH E H).1)
    ∧ AgreeX (m * cf.nx)
        (forwardA (tileCfgX m P Q cf) (aw.map (tileAWX cf.nx)) (tileMatAX cf.nx mt) (tileX cf.nx w jE) (tileX cf.nx w jH)
          (tileX cf.nx w E) (tileX cf.nx w H)).2
        (tileX cf.nx w (forwardA cf aw mt jE jH E H).2) :=
  forwardA_rel hax hp aw hW mt jE jH (agreeX_refl _ _) (agreeX_refl _ _)

/-- **C09_aniso_tile_steps**: any number of steps (step-indexed tiled sources) -/
theorem C09_aniso_tile_steps (hax : AxisOK cf) (hp : PhaseOK m w cf.bx.pp cf.bx.pm P Q) (hm : 0 < m) (aw : Option (AW K))
    (hW : WidthsTileOK cf.nx aw) (mt : MatA K) (jE jH : Nat → V3 K) (t s : Nat) (E H : V3 K) :
    AgreeX (m * cf.nx)
        (fwdNA (tileCfgX m P Q cf) (aw.map (tileAWX cf.nx)) (tileMatAX cf.nx mt) (fun u => tileX cf.nx w (jE u))
          (fun u => tileX cf.nx w (jH u)) t s (tileX cf.nx w E, tileX cf.nx w H)).1
        (tileX cf.nx w (fwdNA cf aw mt jE jH t s (E, H)).1)
    ∧ AgreeX (m * cf.nx)
        (fwdNA (tileCfgX m P Q cf) (aw.map (tileAWX cf.nx)) (tileMatAX cf.nx mt) (fun u => tileX cf.nx w (jE u))
          (fun u => tileX cf.nx w (jH u)) t s (tileX cf.nx w E, tileX cf.nx w H)).2
        (tileX cf.nx w (fwdNA cf aw mt jE jH t s (E, H)).2) := by
  induction s with
  | zero => exact ⟨agreeX_refl _ _, agreeX_refl _ _⟩
  | succ s ih => exact forwardA_rel hax hp aw hW mt (jE (t + s)) (jH (t + s)) ih.1 ih.2

/-- **C09_aniso_tile_bloch**: the Bloch instance (phase `u` per period, supercell multipliers u^m, (u^m)⁻¹) -/
theorem C09_aniso_tile_bloch (hax : AxisOK cf) (u : K) (hu : u ≠ 0) (hpp : cf.bx.pp = u) (hpm : cf.bx.pm = u⁻¹) (hm : 0 < m)
    (aw : Option (AW K)) (hW : WidthsTileOK cf.nx aw) (mt : MatA K) (jE jH : Nat → V3 K) (t s : Nat) (E H : V3 K) :
    let ph : Nat → K := fun q => u ^ q
    AgreeX (m * cf.nx)
        (fwdNA (tileCfgX m (u ^ m) (u ^ m)⁻¹ cf) (aw.map (tileAWX cf.nx)) (tileMatAX cf.nx mt) (fun v => tileX cf.nx ph (jE v))
          (fun v => tileX cf.nx ph (jH v)) t s (tileX cf.nx ph E, tileX cf.nx ph H)).1
        (tileX cf.nx ph (fwdNA cf aw mt jE jH t s (E, H)).1)
    ∧ AgreeX (m * cf.nx)
        (fwdNA (tileCfgX m (u ^ m) (u ^ m)⁻¹ cf) (aw.map (tileAWX cf.nx)) (tileMatAX cf.nx mt) (fun v => tileX cf.nx ph (jE v))
          (fun v => tileX cf.nx ph (jH v)) t s (tileX cf.nx ph E, tileX cf.nx ph H)).2
        (tileX cf.nx ph (fwdNA cf aw mt jE jH t s (E, H)).2) := by
  intro ph
  have hp : PhaseOK m ph cf.bx.pp cf.bx.pm (u ^ m) (u ^ m)⁻¹ := by rw [hpp, hpm]; exact phaseOK_bloch m hm u hu
  exact C09_aniso_tile_steps cf m ph _ _ hax hp hm aw hW mt jE jH t s E H

/-- **C09_aniso_avg_tile**: the averages of a tiled array are the tiled averages, on every cell of the supercell -/
theorem C09_aniso_avg_tile (hax : AxisOK cf) (hp : PhaseOK m w cf.bx.pp cf.bx.pm P Q) (hm : 0 < m) (aw : Option (AW K))
    (hW : WidthsTileOK cf.nx aw) (c l : Nat) (S : F3 K) :
    AgreeF (m * cf.nx) (avgE (tileCfgX m P Q cf) (aw.map (tileAWX cf.nx)) c l (tileF cf.nx w S)) (tileF cf.nx w (avgE cf aw c l S))
    ∧ AgreeF (m * cf.nx) (avgH (tileCfgX m P Q cf) (aw.map (tileAWX cf.nx)) c l (tileF cf.nx w S)) (tileF cf.nx w (avgH cf aw c l S)) :=
  ⟨avgE_rel hax hp aw hW c l fun _ _ _ _ => rfl, avgH_rel hax hp aw hW c l fun _ _ _ _ => rfl⟩

end

/-! ### as found: the edge-replicated predecessor of tiled non-symmetric widths is not tiled -/
namespace AsFound
/-- base x widths (1, 2) tiled twice = (1, 2, 1, 2): at the seam cell 2 the predecessor is 2, but the base cell 0 uses
`w[-1] := w[0] = 1` (`get_anisotropic_averaging_widths` pads by edge replication) -/
theorem wPrev_not_tiled :
    wPrev (fun t => (fun i => if i = 0 then (1 : ℚ) else 2) (t % 2)) 2 ≠ wPrev (fun i => if i = 0 then (1 : ℚ) else 2) (2 % 2) := by
  norm_num [wPrev]
end AsFound

/-! ### non-vacuity -/
example : WidthsTileOK (K := ℚ) 3 (some ⟨fun i => if i = 1 then 2 else 1, fun _ => 1, fun _ => 1⟩) :=
  widthsTileOK_of_seam 3 (by decide) _ (by norm_num)
example : AxisOK C01.exCfg := ⟨by decide, rfl, rfl, rfl, rfl, rfl⟩

end Fdtdx.C09
