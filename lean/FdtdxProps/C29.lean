/-
C29 — Sources and detectors see the device materials after parameters are applied.

Theorems about `FdtdxModel/C29.lean`, for boxes with integer coordinates, any number of objects and devices, any
state type, any `apply`.  The predicate: `check_overlap a b` ⇔ the closed index ranges intersect on every axis
(touching counts, as the unit tests fix); it is symmetric; boxes that share a grid cell overlap, and boxes accepted
without a common cell touch.  The loops: place_objects defers, and apply_params re-applies, exactly the objects for
which `check_overlap` holds with some Device of the list, whatever their kind (`C29_decision`, `C29_loops_partition`,
`C29_reapplied`, `C29_untouched_elsewhere`); so after both, EVERY object carries `apply post obj`, provided `apply`
reads the arrays only inside the object's box and the parameters change them only inside device boxes
(`C29_all_objects_current`).

Refutation of the full statement for the tree as found (before the `fix:` commit): the `AsFound` examples at the end.
-/
import FdtdxModel.C29
import Mathlib.Tactic.ByContra

namespace Fdtdx.C29

/-! ### the predicate -/

/-- the closed index ranges `[a.1, a.2]` and `[b.1, b.2]` have a common point -/
def closedMeet (a b : Iv) : Prop := ∃ t : Int, a.1 ≤ t ∧ t ≤ a.2 ∧ b.1 ≤ t ∧ t ≤ b.2

/-- a point of the closed box -/
def inClosedBox (p : Int × Int × Int) (b : Box) : Prop :=
  b.x.1 ≤ p.1 ∧ p.1 ≤ b.x.2 ∧ b.y.1 ≤ p.2.1 ∧ p.2.1 ≤ b.y.2 ∧ b.z.1 ≤ p.2.2 ∧ p.2.2 ≤ b.z.2

/-- a grid cell of the box (`grid_slice` = `slice(start, end)` on each axis) -/
def inBox (c : Int × Int × Int) (b : Box) : Prop :=
  b.x.1 ≤ c.1 ∧ c.1 < b.x.2 ∧ b.y.1 ≤ c.2.1 ∧ c.2.1 < b.y.2 ∧ b.z.1 ≤ c.2.2 ∧ c.2.2 < b.z.2

/-- the two boxes have a grid cell in common -/
def sharesCell (a b : Box) : Prop := ∃ c, inBox c a ∧ inBox c b

/-- what `place_on_grid` guarantees: `start < end` on every axis (it raises otherwise) -/
def Box.wf (b : Box) : Prop := b.x.1 < b.x.2 ∧ b.y.1 < b.y.2 ∧ b.z.1 < b.z.2

instance (c : Int × Int × Int) (b : Box) : Decidable (inBox c b) := by unfold inBox; infer_instance
instance (b : Box) : Decidable b.wf := by unfold Box.wf; infer_instance

/-! One axis at a time: everything about boxes is three instances of a fact about two integer ranges. -/

theorem meetAxis_iff_le (a b : Iv) : meetAxis a b = true ↔ a.1 ≤ b.2 ∧ b.1 ≤ a.2 := by
  simp only [meetAxis, Bool.not_eq_true', Bool.or_eq_false_iff, decide_eq_false_iff_not]
  omega

theorem meetAxis_iff (a b : Iv) (ha : a.1 ≤ a.2) (hb : b.1 ≤ b.2) : meetAxis a b = true ↔ closedMeet a b := by
  rw [meetAxis_iff_le]
  constructor
  · rintro ⟨h1, h2⟩
    by_cases h : a.1 ≤ b.1
    · exact ⟨b.1, h, h2, Int.le_refl _, hb⟩
    · exact ⟨a.1, Int.le_refl _, ha, by omega, h1⟩
  · rintro ⟨t, h1, h2, h3, h4⟩
    omega

theorem meetAxis_comm (a b : Iv) : meetAxis a b = meetAxis b a := by
  rw [meetAxis, meetAxis, Bool.or_comm]

/-- ranges with a common cell meet -/
theorem meetAxis_of_cell {a b : Iv} {c : Int} (h1 : a.1 ≤ c) (h2 : c < a.2) (g1 : b.1 ≤ c) (g2 : c < b.2) :
    meetAxis a b = true :=
  (meetAxis_iff_le a b).mpr ⟨by omega, by omega⟩

/-- non-empty ranges that meet and do not merely touch have the cell `max a.1 b.1` in common -/
theorem cell_of_meetAxis {a b : Iv} (ha : a.1 < a.2) (hb : b.1 < b.2) (h : meetAxis a b = true)
    (n1 : a.2 ≠ b.1) (n2 : b.2 ≠ a.1) :
    (a.1 ≤ max a.1 b.1 ∧ max a.1 b.1 < a.2) ∧ (b.1 ≤ max a.1 b.1 ∧ max a.1 b.1 < b.2) := by
  rw [meetAxis_iff_le] at h
  omega

theorem checkOverlap_iff (a b : Box) :
    checkOverlap a b = true ↔ meetAxis a.x b.x = true ∧ meetAxis a.y b.y = true ∧ meetAxis a.z b.z = true := by
  rw [checkOverlap, Bool.and_eq_true, Bool.and_eq_true, and_assoc]

/-- **C29 (predicate)**: for placed boxes, `check_overlap` holds exactly when the closed index ranges intersect
on every axis. -/
theorem C29_checkOverlap_iff (a b : Box) (ha : a.wf) (hb : b.wf) :
    checkOverlap a b = true ↔ closedMeet a.x b.x ∧ closedMeet a.y b.y ∧ closedMeet a.z b.z := by
  rw [checkOverlap_iff, meetAxis_iff _ _ (Int.le_of_lt ha.1) (Int.le_of_lt hb.1),
    meetAxis_iff _ _ (Int.le_of_lt ha.2.1) (Int.le_of_lt hb.2.1),
    meetAxis_iff _ _ (Int.le_of_lt ha.2.2) (Int.le_of_lt hb.2.2)]

/-- the same as one statement about boxes: the closed boxes have a common point -/
theorem C29_checkOverlap_iff_common_point (a b : Box) (ha : a.wf) (hb : b.wf) :
    checkOverlap a b = true ↔ ∃ p, inClosedBox p a ∧ inClosedBox p b := by
  rw [C29_checkOverlap_iff a b ha hb]
  constructor
  · rintro ⟨⟨tx, hx⟩, ⟨ty, hy⟩, ⟨tz, hz⟩⟩
    exact ⟨(tx, ty, tz), ⟨hx.1, hx.2.1, hy.1, hy.2.1, hz.1, hz.2.1⟩, ⟨hx.2.2.1, hx.2.2.2, hy.2.2.1, hy.2.2.2, hz.2.2.1, hz.2.2.2⟩⟩
  · rintro ⟨p, ⟨h1, h2, h3, h4, h5, h6⟩, ⟨g1, g2, g3, g4, g5, g6⟩⟩
    exact ⟨⟨p.1, h1, h2, g1, g2⟩, ⟨p.2.1, h3, h4, g3, g4⟩, ⟨p.2.2, h5, h6, g5, g6⟩⟩

/-- **C29 (symmetry)** -/
theorem C29_checkOverlap_symm (a b : Box) : checkOverlap a b = checkOverlap b a := by
  rw [checkOverlap, checkOverlap, meetAxis_comm a.x, meetAxis_comm a.y, meetAxis_comm a.z]

/-- **C29 (no miss)**: boxes that share a grid cell overlap — whatever their relation on each axis
(containment in either direction, partial overlap, equality). -/
theorem C29_sharesCell_overlap (a b : Box) (h : sharesCell a b) : checkOverlap a b = true := by
  obtain ⟨c, ⟨h1, h2, h3, h4, h5, h6⟩, ⟨g1, g2, g3, g4, g5, g6⟩⟩ := h
  exact (checkOverlap_iff a b).mpr ⟨meetAxis_of_cell h1 h2 g1 g2, meetAxis_of_cell h3 h4 g3 g4, meetAxis_of_cell h5 h6 g5 g6⟩

/-- the only boxes accepted without a common cell are those that touch: on some axis one ends exactly where
the other starts -/
theorem overlap_without_cell_touches (a b : Box) (ha : a.wf) (hb : b.wf)
    (h : checkOverlap a b = true) (hn : ¬ sharesCell a b) :
    a.x.2 = b.x.1 ∨ b.x.2 = a.x.1 ∨ a.y.2 = b.y.1 ∨ b.y.2 = a.y.1 ∨ a.z.2 = b.z.1 ∨ b.z.2 = a.z.1 := by
  by_contra hc
  simp only [not_or] at hc
  obtain ⟨n1, n2, n3, n4, n5, n6⟩ := hc
  obtain ⟨hx, hy, hz⟩ := (checkOverlap_iff a b).mp h
  obtain ⟨⟨x1, x2⟩, x3, x4⟩ := cell_of_meetAxis ha.1 hb.1 hx n1 n2
  obtain ⟨⟨y1, y2⟩, y3, y4⟩ := cell_of_meetAxis ha.2.1 hb.2.1 hy n3 n4
  obtain ⟨⟨z1, z2⟩, z3, z4⟩ := cell_of_meetAxis ha.2.2 hb.2.2 hz n5 n6
  exact hn ⟨(_, _, _), ⟨x1, x2, y1, y2, z1, z2⟩, ⟨x3, x4, y3, y4, z3, z4⟩⟩

/-! ### the two object loops -/

section loops
variable {σ A : Type}

theorem overlapsDeviceWith_eq_any (ov : Box → Box → Bool) (objs : List (Obj σ)) (o : Obj σ) :
    overlapsDeviceWith ov objs o = objs.any (fun d => d.isDevice && ov d.box o.box) := by
  simp [overlapsDeviceWith, List.any_filter]

theorem overlapsDeviceWith_true_iff (ov : Box → Box → Bool) (objs : List (Obj σ)) (o : Obj σ) :
    overlapsDeviceWith ov objs o = true ↔ ∃ d ∈ objs, d.isDevice = true ∧ ov d.box o.box = true := by
  simp [overlapsDeviceWith_eq_any, List.any_eq_true]

/-- the device test looks at the box of the object only -/
theorem overlapsDeviceWith_st (ov : Box → Box → Bool) (objs : List (Obj σ)) (o : Obj σ) (s : σ) :
    overlapsDeviceWith ov objs { o with st := s } = overlapsDeviceWith ov objs o := rfl

/-- the placement loop changes states only, so the device test reads the same before and after it -/
theorem overlapsDeviceWith_placeLoop (ov : Box → Box → Bool) (apply : A → Obj σ → σ) (arr : A)
    (objs : List (Obj σ)) (o : Obj σ) :
    overlapsDeviceWith ov (placeLoopWith ov apply arr objs) o = overlapsDeviceWith ov objs o := by
  rw [overlapsDeviceWith_eq_any, overlapsDeviceWith_eq_any, placeLoopWith, List.any_map]
  congr 1
  funext d
  dsimp only [Function.comp]
  split <;> rfl

@[simp] theorem placeLoopWith_length (ov) (apply : A → Obj σ → σ) (arr : A) (objs : List (Obj σ)) :
    (placeLoopWith ov apply arr objs).length = objs.length := by simp [placeLoopWith]

@[simp] theorem paramsLoopWith_length (ov) (apply : A → Obj σ → σ) (arr : A) (objs : List (Obj σ)) :
    (paramsLoopWith ov apply arr objs).length = objs.length := by simp [paramsLoopWith]

/-- after both loops an object carries the state given by `apply_params` if it overlaps a device, and the one
given at placement otherwise -/
theorem st_after_both_loops (ov) (ap ap' : A → Obj σ → σ) (pre post : A) (objs : List (Obj σ)) (i : Nat)
    (hi : i < objs.length) :
    ((paramsLoopWith ov ap' post (placeLoopWith ov ap pre objs))[i]'(by simpa using hi)).st
      = if overlapsDeviceWith ov objs objs[i] then ap' post objs[i] else ap pre objs[i] := by
  simp only [paramsLoopWith, List.getElem_map, overlapsDeviceWith_placeLoop]
  simp only [placeLoopWith, List.getElem_map]
  by_cases h : overlapsDeviceWith ov objs objs[i] = true
  · simp [h]
  · simp [h, overlapsDeviceWith_st]

/-- **C29 (corollary, apply_params)**: an object that shares a grid cell with some device of the scene is
re-applied against the arrays handed to the loop (the post-device materials); it keeps its box. -/
theorem C29_reapplied (apply : A → Obj σ → σ) (post : A) (objs : List (Obj σ)) (i : Nat) (hi : i < objs.length)
    (d : Obj σ) (hd : d ∈ objs) (hdev : d.isDevice = true) (hshare : sharesCell d.box objs[i].box) :
    ((paramsLoop apply post objs)[i]'(by simpa [paramsLoop] using hi)).st = apply post objs[i]
      ∧ ((paramsLoop apply post objs)[i]'(by simpa [paramsLoop] using hi)).box = objs[i].box := by
  have hov : overlapsDeviceWith checkOverlap objs objs[i] = true :=
    (overlapsDeviceWith_true_iff _ _ _).mpr ⟨d, hd, hdev, C29_sharesCell_overlap _ _ hshare⟩
  simp [paramsLoop, paramsLoopWith, hov]

/-- objects rejected for every device pass through `apply_params` untouched -/
theorem C29_untouched_elsewhere (apply : A → Obj σ → σ) (post : A) (objs : List (Obj σ)) (i : Nat)
    (hi : i < objs.length) (hno : ∀ d ∈ objs, d.isDevice = true → checkOverlap d.box objs[i].box = false) :
    (paramsLoop apply post objs)[i]'(by simpa [paramsLoop] using hi) = objs[i] := by
  have hov : overlapsDeviceWith checkOverlap objs objs[i] = false := by
    rw [Bool.eq_false_iff]
    intro h
    obtain ⟨d, hd, hdev, ho⟩ := (overlapsDeviceWith_true_iff _ _ _).mp h
    rw [hno d hd hdev] at ho
    exact Bool.noConfusion ho
  simp [paramsLoop, paramsLoopWith, hov]

/-- each object is applied by exactly one of the two loops (tagging the two `apply`s) -/
theorem C29_loops_partition (objs : List (Obj Bool)) (i : Nat) (hi : i < objs.length) :
    ((paramsLoop (fun (_ : Unit) _ => true) () (placeLoop (fun (_ : Unit) _ => false) () objs))[i]'(by
        simpa [paramsLoop, placeLoop] using hi)).st = overlapsDevice objs objs[i] := by
  refine (st_after_both_loops checkOverlap _ _ () () objs i hi).trans ?_
  rw [overlapsDevice]
  cases overlapsDeviceWith checkOverlap objs objs[i] <;> rfl

/-- **C29 (decision, every object of the list, whatever its kind)**: an object is deferred by `place_objects` and
re-applied by `apply_params` exactly when `check_overlap` holds for it and some Device of the list; otherwise it is
applied at placement and left alone afterwards.  `Obj` has no kind field: sources, detectors (incl. mode-overlap
detectors), the volume, static objects and the devices themselves all obey the same rule. -/
theorem C29_decision (objs : List (Obj Bool)) (i : Nat) (hi : i < objs.length) :
    ((paramsLoop (fun (_ : Unit) _ => true) () (placeLoop (fun (_ : Unit) _ => false) () objs))[i]'(by
        simpa [paramsLoop, placeLoop] using hi)).st = true ↔
      ∃ d ∈ objs, d.isDevice = true ∧ checkOverlap d.box objs[i].box = true := by
  rw [C29_loops_partition objs i hi, overlapsDevice, overlapsDeviceWith_true_iff]

/-- the decision reads nothing but the box of the object: two list entries with the same box (a source and a
detector, say) get the same decision, whatever their state or class -/
theorem C29_decision_box_only (objs : List (Obj σ)) (o o' : Obj σ) (h : o.box = o'.box) :
    overlapsDevice objs o = overlapsDevice objs o' := by
  simp only [overlapsDevice, overlapsDeviceWith, h]

/-- **C29 (whole pipeline)**: arrays are functions of the grid cell.  If `apply` reads the arrays only inside
the object's own box and the parameters change the arrays only
inside device boxes, then after `place_objects` (arrays `pre`) and `apply_params` (arrays `post`) EVERY object
— inside a device, partially overlapping, touching, or far away — carries the state it would get from being set
up against the post-device materials. -/
theorem C29_all_objects_current {V : Type} (apply : (Int × Int × Int → V) → Obj σ → σ)
    (pre post : Int × Int × Int → V) (objs : List (Obj σ))
    (hlocal : ∀ (o : Obj σ) (a a' : Int × Int × Int → V), (∀ c, inBox c o.box → a c = a' c) → apply a o = apply a' o)
    (hdev : ∀ c, (∀ d ∈ objs, d.isDevice = true → ¬ inBox c d.box) → post c = pre c)
    (i : Nat) (hi : i < objs.length) :
    ((paramsLoop apply post (placeLoop apply pre objs))[i]'(by simpa [paramsLoop, placeLoop] using hi)).st
      = apply post objs[i] := by
  refine (st_after_both_loops checkOverlap apply apply pre post objs i hi).trans ?_
  split
  · rfl
  · -- not re-applied: the state is `apply pre o`, and `post` agrees with `pre` on the object's cells
    rename_i h
    refine hlocal _ _ _ fun c hc => (hdev c fun d hd hdd hcd => h ?_).symm
    exact (overlapsDeviceWith_true_iff _ _ _).mpr ⟨d, hd, hdd, C29_sharesCell_overlap _ _ ⟨c, hcd, hc⟩⟩

end loops

/-! ### non-vacuity: concrete boxes meeting the hypotheses -/

def dev : Box := ⟨(1, 7), (1, 7), (1, 7)⟩
def inner : Box := ⟨(3, 4), (3, 4), (3, 4)⟩
def touching : Box := ⟨(7, 8), (0, 8), (0, 8)⟩
def apart : Box := ⟨(0, 1), (2, 3), (5, 6)⟩
def far : Box := ⟨(9, 10), (2, 3), (2, 3)⟩

example : dev.wf ∧ inner.wf ∧ touching.wf := by decide
example : sharesCell dev inner := ⟨(3, 3, 3), by decide, by decide⟩
example : checkOverlap dev inner = true ∧ checkOverlap inner dev = true := by decide
-- touching is accepted (as `test_touching_objects_reported_as_overlapping` demands) although no cell is shared
example : checkOverlap dev touching = true := by decide
example : ¬ sharesCell dev touching := by
  rintro ⟨c, ⟨_, h2, _⟩, ⟨g1, _⟩⟩
  simp only [dev, touching] at h2 g1
  omega
example : checkOverlap dev far = false := by decide
-- the unit tests of the repository
example : checkOverlap ⟨(0, 10), (0, 10), (0, 10)⟩ ⟨(5, 15), (5, 15), (5, 15)⟩ = true
    ∧ checkOverlap ⟨(0, 5), (0, 5), (0, 5)⟩ ⟨(10, 15), (10, 15), (10, 15)⟩ = false
    ∧ checkOverlap ⟨(0, 5), (0, 5), (0, 5)⟩ ⟨(5, 10), (0, 5), (0, 5)⟩ = true := by decide
-- hypotheses of C29_all_objects_current are satisfiable: apply = value of the array at the object's low corner,
-- pre = 1 everywhere, post = 4 inside the device
example :
    let apply := fun (a : Int × Int × Int → Nat) (o : Obj Nat) => a (o.box.x.1, o.box.y.1, o.box.z.1)
    let post := fun (c : Int × Int × Int) => if 1 ≤ c.1 ∧ c.1 < 7 ∧ 1 ≤ c.2.1 ∧ c.2.1 < 7 ∧ 1 ≤ c.2.2 ∧ c.2.2 < 7 then 4 else 1
    ((paramsLoop apply post (placeLoop apply (fun _ => 1) [⟨dev, true, 0⟩, ⟨inner, false, 0⟩, ⟨far, false, 0⟩])).map (·.st))
      = [4, 4, 1] := by decide

/-! ### refutation of the full statement for the tree as found (before the `fix:` commit) -/

/-- as found: a source strictly inside the device on all three axes is not seen by the device … -/
example : AsFound.checkOverlap dev inner = false ∧ sharesCell dev inner :=
  ⟨by decide, ⟨(3, 3, 3), by decide, by decide⟩⟩
/-- … the predicate is not symmetric … -/
example : AsFound.checkOverlap inner dev = true ∧ AsFound.checkOverlap dev inner = false := by decide
/-- … it accepts boxes that are disjoint (one common axis range suffices) … -/
example : AsFound.checkOverlap dev ⟨(20, 30), (0, 9), (40, 50)⟩ = true := by decide
/-- … and the source keeps the state computed from the pre-device materials (1) instead of the post-device
ones (4): the pipeline of `C29_all_objects_current`, with the as-found predicate. -/
example :
    let apply := fun (a : Int × Int × Int → Nat) (o : Obj Nat) => a (o.box.x.1, o.box.y.1, o.box.z.1)
    let post := fun (c : Int × Int × Int) => if 1 ≤ c.1 ∧ c.1 < 7 ∧ 1 ≤ c.2.1 ∧ c.2.1 < 7 ∧ 1 ≤ c.2.2 ∧ c.2.2 < 7 then 4 else 1
    ((paramsLoopWith AsFound.checkOverlap apply post
        (placeLoopWith AsFound.checkOverlap apply (fun _ => 1) [⟨dev, true, 0⟩, ⟨inner, false, 0⟩])).map (·.st))
      = [4, 1] := by decide

end Fdtdx.C29
