/-
C34 — Symmetric placement keeps the upper half and clips objects consistently.

Theorems about `FdtdxModel/C34.lean`; sizes and coordinates are arbitrary integers.

One axis: a symmetric axis is accepted iff its cell count is even and ≥ 2; the plane sits at v0 + n/2 and the kept
cells are the upper half [v0 + n/2, v1); an object's clipped slice is its intersection with the upper half, the object
is dropped iff that is empty (touching the plane from below is dropped, starting on it is kept whole), and its recorded
extent is the full slice shifted by the plane index.  `C34_reduce_spec`: `reduceSlices` assembles these per axis.
Walls: one on axis a iff sym[a] = -1, one cell thick at the reduced min edge, under a name that is not in use (the
decimal suffix rendering is proved injective).
Explicit non-uniform grids (`RectilinearGrid.reduce_symmetric`, any scalars / any ordered field): the kept edges are
the upper-half ones, the cell count is accepted exactly when `planeIndex` accepts it, the widths must be mirror-symmetric
within rtol, and mirroring the reduced widths reproduces the full ones (exactly for rtol = 0, within rtol otherwise).
-/
import FdtdxModel.C34
import Mathlib.Tactic.Linarith
import Mathlib.Tactic.Ring
import Mathlib.Data.List.Nodup
import Mathlib.Data.List.Perm.Subperm
import Mathlib.Algebra.Order.Field.Basic
import Mathlib.Algebra.Order.AbsoluteValue.Basic

namespace Fdtdx.C34

/-! ### the per-axis definitions on a symmetric axis -/

theorem badCells_iff (n : Int) : badCells n = true ↔ n < 2 ∨ n % 2 ≠ 0 := by
  simp [badCells]

section
variable {sym : Int} (hs : sym ≠ 0)
include hs

theorem planeIndex_sym (vol : Sl) :
    planeIndex sym vol =
      if badCells (vol.2 - vol.1) then none else some (vol.1 + (vol.2 - vol.1) / 2) := if_pos hs

theorem reducedVol_sym (vol : Sl) (m : Int) : reducedVol sym vol m = (0, vol.2 - m) := if_pos hs

theorem volUnreduced_sym (vol : Sl) (m : Int) : volUnreduced sym vol m = (vol.1 - m, vol.2 - m) := if_pos hs

theorem clipAxis_sym (volHi m : Int) (s : Sl) :
    clipAxis sym volHi m s = (max s.1 m - m, min s.2 volHi - m) := if_pos hs

theorem unclippedAxis_sym (m : Int) (s : Sl) : unclippedAxis sym m s = (s.1 - m, s.2 - m) := if_pos hs

theorem dropAxis_sym (volHi m : Int) (s : Sl) :
    dropAxis sym volHi m s = decide (min s.2 volHi - m ≤ max s.1 m - m) := by
  simp only [dropAxis, clipAxis_sym hs, ne_eq, hs, not_false_eq_true, decide_true, Bool.true_and]

end

theorem C34_even_required (sym : Int) (hs : sym ≠ 0) (vol : Sl) :
    planeIndex sym vol = none ↔ (vol.2 - vol.1 < 2 ∨ (vol.2 - vol.1) % 2 ≠ 0) := by
  rw [planeIndex_sym hs, ← badCells_iff]
  cases badCells (vol.2 - vol.1) <;> simp

theorem C34_nonsym_untouched (vol s : Sl) (m volHi : Int) :
    planeIndex 0 vol = some vol.1 ∧ reducedVol 0 vol m = vol ∧ volUnreduced 0 vol m = vol ∧
    clipAxis 0 volHi m s = s ∧ unclippedAxis 0 m s = s ∧ dropAxis 0 volHi m s = false :=
  ⟨rfl, rfl, rfl, rfl, rfl, rfl⟩

theorem C34_kept_upper_half (sym : Int) (hs : sym ≠ 0) (vol : Sl) (m : Int)
    (h : planeIndex sym vol = some m) :
    let n := vol.2 - vol.1
    n % 2 = 0 ∧ 2 ≤ n ∧ m = vol.1 + n / 2 ∧
    reducedVol sym vol m = (0, n / 2) ∧ 2 * (n / 2) = n ∧
    volUnreduced sym vol m = (-(n / 2), n / 2) ∧
    (∀ x : Int, (0 ≤ x ∧ x < (reducedVol sym vol m).2) ↔ (vol.1 + n / 2 ≤ x + m ∧ x + m < vol.2)) := by
  have hne := (C34_even_required sym hs vol).not.mp (by rw [h]; nofun)
  rw [planeIndex_sym hs, if_neg (mt (badCells_iff _).mp hne), Option.some.injEq] at h
  simp only [reducedVol_sym hs, volUnreduced_sym hs, Prod.mk.injEq, true_and]
  refine ⟨by omega, by omega, h.symm, by omega, by omega, by omega, fun x => by omega⟩

example : planeIndex (-1) (0, 6) = some 3 ∧ reducedVol (-1) (0, 6) 3 = (0, 3) := by decide
example : planeIndex 1 (0, 5) = none ∧ planeIndex 1 (0, 0) = none ∧ planeIndex 1 (4, 6) = some 5 := by decide

/-- cell `x` of the full domain (reduced index `x - m`). -/
theorem C34_clip_cells (sym : Int) (hs : sym ≠ 0) (volHi m : Int) (s : Sl) (x : Int) :
    ((clipAxis sym volHi m s).1 ≤ x - m ∧ x - m < (clipAxis sym volHi m s).2) ↔
      ((s.1 ≤ x ∧ x < s.2) ∧ (m ≤ x ∧ x < volHi)) := by
  simp only [clipAxis_sym hs, sub_le_sub_iff_right, sub_lt_sub_iff_right, max_le_iff, lt_min_iff]
  exact and_and_and_comm

theorem C34_drop_iff (sym : Int) (hs : sym ≠ 0) (volHi m : Int) (s : Sl) :
    (dropAxis sym volHi m s = true ↔ ¬ ∃ x : Int, (s.1 ≤ x ∧ x < s.2) ∧ (m ≤ x ∧ x < volHi)) ∧
    (s.1 < s.2 → s.2 ≤ volHi → m < volHi → (dropAxis sym volHi m s = true ↔ s.2 ≤ m)) := by
  simp only [dropAxis_sym hs, decide_eq_true_eq]
  refine ⟨⟨fun h ⟨x, hx⟩ => by omega, fun h => ?_⟩, fun h1 h2 h3 => by omega⟩
  -- the first cell of the clipped slice would be a witness
  by_contra hc
  exact h ⟨max s.1 m, by omega⟩

/-- touching the plane from below is dropped, starting on the plane is kept whole and does not straddle -/
example : dropAxis (-1) 6 3 (1, 3) = true ∧ dropAxis (-1) 6 3 (3, 5) = false ∧
    clipAxis (-1) 6 3 (3, 5) = (0, 2) ∧ straddles (unclippedAxis (-1) 3 (3, 5)).1 = false ∧
    clipAxis 1 6 3 (1, 5) = (0, 2) ∧ unclippedAxis 1 3 (1, 5) = (-2, 2) := by decide

theorem C34_kept_inside (sym : Int) (hs : sym ≠ 0) (volHi m : Int) (s : Sl)
    (hk : dropAxis sym volHi m s = false) :
    0 ≤ (clipAxis sym volHi m s).1 ∧ (clipAxis sym volHi m s).1 < (clipAxis sym volHi m s).2 ∧
    (clipAxis sym volHi m s).2 ≤ volHi - m := by
  simp only [dropAxis_sym hs, decide_eq_false_iff_not] at hk
  simp only [clipAxis_sym hs]
  omega

theorem C34_unclipped_shift (sym : Int) (hs : sym ≠ 0) (volHi m : Int) (s : Sl) :
    unclippedAxis sym m s = (s.1 - m, s.2 - m) ∧
    (unclippedAxis sym m s).1 ≤ (clipAxis sym volHi m s).1 ∧
    (s.2 ≤ volHi → (clipAxis sym volHi m s).2 = (unclippedAxis sym m s).2) ∧
    (straddles (unclippedAxis sym m s).1 = true ↔ s.1 < m) ∧
    (s.1 ≥ m → s.2 ≤ volHi → clipAxis sym volHi m s = unclippedAxis sym m s) := by
  simp only [unclippedAxis_sym hs, clipAxis_sym hs, straddles, decide_eq_true_eq, Prod.mk.injEq, true_and]
  omega

/-- a box symmetric about the plane (no warning branch) keeps half of its extent. -/
theorem C34_symmetric_half (sym : Int) (hs : sym ≠ 0) (volHi m : Int) (s : Sl)
    (hsym : s.1 + s.2 = 2 * m) (hlt : s.1 < s.2) (hin : s.2 ≤ volHi) :
    2 * ((clipAxis sym volHi m s).2 - (clipAxis sym volHi m s).1) = s.2 - s.1 ∧
    (clipAxis sym volHi m s).1 = 0 := by
  simp only [clipAxis_sym hs]
  omega

/-! ### the assembled function -/

private theorem range3 : List.range 3 = [0, 1, 2] := rfl

theorem reduceSlices_eq_none (sym : List Int) (vol : List Sl) (objs : List (List Sl)) :
    reduceSlices sym vol objs = none ↔
      (List.range 3).mapM (fun a => planeIndex (sym.getD a 0) (vol.getD a (0, 0))) = none := by
  unfold reduceSlices
  cases List.mapM (m := Option) _ (List.range 3)
  · exact iff_of_true rfl rfl
  · exact ⟨nofun, nofun⟩

theorem C34_reduce_spec (s0 s1 s2 : Int) (v0 v1 v2 : Sl) (objs : List (List Sl)) :
    (reduceSlices [s0, s1, s2] [v0, v1, v2] objs = none ↔
      (planeIndex s0 v0 = none ∨ planeIndex s1 v1 = none ∨ planeIndex s2 v2 = none)) ∧
    ∀ m0 m1 m2, planeIndex s0 v0 = some m0 → planeIndex s1 v1 = some m1 → planeIndex s2 v2 = some m2 →
      ∃ r, reduceSlices [s0, s1, s2] [v0, v1, v2] objs = some r ∧
        r.vol = [reducedVol s0 v0 m0, reducedVol s1 v1 m1, reducedVol s2 v2 m2] ∧
        r.volUn = [volUnreduced s0 v0 m0, volUnreduced s1 v1 m1, volUnreduced s2 v2 m2] ∧
        r.objs = objs.map (fun o =>
          if dropAxis s0 v0.2 m0 (o.getD 0 (0, 0)) || (dropAxis s1 v1.2 m1 (o.getD 1 (0, 0)) ||
              dropAxis s2 v2.2 m2 (o.getD 2 (0, 0))) then none
          else some ([clipAxis s0 v0.2 m0 (o.getD 0 (0, 0)), clipAxis s1 v1.2 m1 (o.getD 1 (0, 0)),
                      clipAxis s2 v2.2 m2 (o.getD 2 (0, 0))],
                     [unclippedAxis s0 m0 (o.getD 0 (0, 0)), unclippedAxis s1 m1 (o.getD 1 (0, 0)),
                      unclippedAxis s2 m2 (o.getD 2 (0, 0))])) := by
  -- the plane indices of the three axes
  have hm : (List.range 3).mapM (fun a => planeIndex ([s0, s1, s2].getD a 0) ([v0, v1, v2].getD a (0, 0))) =
      (planeIndex s0 v0).bind fun a => (planeIndex s1 v1).bind fun b => (planeIndex s2 v2).bind fun c =>
        some [a, b, c] := by
    rw [range3]
    simp only [List.mapM_cons, List.mapM_nil, bind_assoc, pure_bind]
    rfl
  constructor
  · rw [reduceSlices_eq_none, hm]
    cases planeIndex s0 v0 <;> cases planeIndex s1 v1 <;> cases planeIndex s2 v2 <;> simp
  · intro m0 m1 m2 h0 h1 h2
    rw [h0, h1, h2] at hm
    unfold reduceSlices
    rw [hm]
    -- the `List.range 3` traversals evaluate; only `any` leaves a trailing `|| false`
    refine ⟨_, rfl, rfl, rfl, List.map_congr_left fun o _ => ?_⟩
    rw [range3]
    simp only [List.any_cons, List.any_nil, Bool.or_false]
    rfl

/-! ### walls -/

theorem C34_walls_electric (s0 s1 s2 : Int) (a : Nat) :
    a ∈ wallAxes [s0, s1, s2] ↔ (a < 3 ∧ [s0, s1, s2].getD a 0 = -1) := by
  simp only [wallAxes, List.mem_filter, List.mem_range, beq_iff_eq]

theorem C34_no_wall_for_magnetic (s0 s1 s2 : Int) (a : Nat) (h : [s0, s1, s2].getD a 0 = 1 ∨ [s0, s1, s2].getD a 0 = 0) :
    a ∉ wallAxes [s0, s1, s2] := by
  rw [C34_walls_electric]; rintro ⟨_, h'⟩; omega

theorem wallSlice_getD (shape : List Int) (a b : Nat) (hb : b < 3) (d : Sl) :
    (wallSlice shape a).getD b d = if b = a then (0, 1) else (0, shape.getD b 0) := by
  rw [wallSlice, List.getD_eq_getElem?_getD, List.getElem?_map, List.getElem?_range hb]
  rfl

theorem C34_wall_slice (n0 n1 n2 : Int) (a : Nat) (ha : a < 3) :
    (wallSlice [n0, n1, n2] a).getD a (7, 7) = (0, 1) ∧
    ∀ b, b < 3 → b ≠ a → (wallSlice [n0, n1, n2] a).getD b (7, 7) = (0, [n0, n1, n2].getD b 0) :=
  ⟨by rw [wallSlice_getD _ _ _ ha, if_pos rfl], fun b hb hne => by rw [wallSlice_getD _ _ _ hb, if_neg hne]⟩

example : wallAxes [-1, 1, -1] = [0, 2] ∧ wallAxes [1, 0, 1] = [] := by decide

theorem natToString_inj (i j : Nat) (h : toString i = toString j) : i = j := by
  have h' : i.repr = j.repr := by simpa [Nat.toString_eq_repr] using h
  have h2 : Nat.toDigits 10 i = Nat.toDigits 10 j := by
    rw [← Nat.toList_repr, ← Nat.toList_repr, h']
  have := congrArg (fun l => Nat.ofDigitChars 10 l 0) h2
  simpa [Nat.ofDigitChars_ten_toDigits] using this

/-- the candidate names `_sym_wall_x`, `_sym_wall_x_1`, `_sym_wall_x_2`, … are pairwise distinct -/
theorem wallCandidate_injective (a i j : Nat) (h : wallCandidate a i = wallCandidate a j) : i = j := by
  have h' := (String.append_right_inj _).mp h
  have hne (k : Nat) : "" ≠ "_" ++ toString k := fun hk => by
    have := congrArg String.toList hk
    simp [String.toList_append] at this
  by_cases hi : i = 0 <;> by_cases hj : j = 0 <;> simp only [hi, hj, if_true, if_false] at h'
  · rw [hi, hj]
  · exact (hne j h').elim
  · exact (hne i h'.symm).elim
  · exact natToString_inj i j ((String.append_right_inj _).mp h')

/-- the name chosen by the `while name in used` loop is never in use. -/
theorem C34_wall_name_fresh (used : List String) (a : Nat) : wallName used a ∉ used := by
  unfold wallName
  split
  · next k hk => simpa using List.find?_some hk
  · next hnone =>
    -- pigeonhole: used.length + 1 distinct candidates cannot all be in `used`
    have hsub : (List.range (used.length + 1)).map (wallCandidate a) ⊆ used := by
      intro x hx
      obtain ⟨k, hk, rfl⟩ := List.mem_map.mp hx
      simpa using List.find?_eq_none.mp hnone k hk
    have hnodup := List.Nodup.map (fun i j h => wallCandidate_injective a i j h)
      (List.nodup_range (n := used.length + 1))
    have := (List.subperm_of_subset hnodup hsub).length_le
    simp at this

example : wallNames ["vol", "_sym_wall_x", "_sym_wall_x_1"] [0, 2] = ["_sym_wall_x_2", "_sym_wall_z"] := by decide

/-! ### explicit non-uniform grids -/
theorem C34_grid_nonsym {α : Type} [Sub α] [Mul α] [Neg α] [OfNat α 0] (le : α → α → Bool) (rtol : α)
    (e : List α) : reduceEdges le rtol 0 e = .ok e := rfl

/-- the outcomes on a symmetric axis; the cell count is tested before the widths -/
theorem reduceEdges_sym {α : Type} [Sub α] [Mul α] [Neg α] [OfNat α 0] (le : α → α → Bool) (rtol : α)
    {sym : Int} (hs : sym ≠ 0) (e r : List α) :
    (reduceEdges le rtol sym e = .ok r ↔
      badCells ((e.length : Int) - 1) = false ∧ mirrorSymmetric le rtol (widths e) = true ∧
        e.drop ((e.length - 1) / 2) = r) ∧
    (reduceEdges le rtol sym e = .error .cells ↔ badCells ((e.length : Int) - 1) = true) := by
  rw [reduceEdges, if_neg hs]
  dsimp only
  cases badCells ((e.length : Int) - 1) <;> cases mirrorSymmetric le rtol (widths e) <;> simp

theorem C34_grid_kept_edges {α : Type} [Sub α] [Mul α] [Neg α] [OfNat α 0] (le : α → α → Bool) (rtol : α)
    (sym : Int) (hs : sym ≠ 0) (e r : List α) (h : reduceEdges le rtol sym e = .ok r) :
    (e.length - 1) % 2 = 0 ∧ 2 ≤ e.length - 1 ∧ r = e.drop ((e.length - 1) / 2) ∧
    r.length = (e.length - 1) / 2 + 1 ∧ ∀ i, r[i]? = e[(e.length - 1) / 2 + i]? := by
  obtain ⟨hb, -, rfl⟩ := (reduceEdges_sym le rtol hs e r).1.mp h
  have hb' : (e.length - 1) % 2 = 0 ∧ 2 ≤ e.length - 1 := by
    have := mt (badCells_iff _).mpr (ne_true_of_eq_false hb)
    omega
  refine ⟨hb'.1, hb'.2, rfl, ?_, fun i => List.getElem?_drop⟩
  rw [List.length_drop]
  omega

/-- same acceptance of the cell count and same reduced cell count as the integer-slice
    reduction of a volume `[0, n)` on this axis. -/
theorem C34_grid_cells_agree {α : Type} [Sub α] [Mul α] [Neg α] [OfNat α 0] (le : α → α → Bool) (rtol : α)
    (sym : Int) (hs : sym ≠ 0) (e : List α) (he : 1 ≤ e.length) :
    let n : Int := (e.length : Int) - 1
    (reduceEdges le rtol sym e = .error .cells ↔ planeIndex sym (0, n) = none) ∧
    ∀ r, reduceEdges le rtol sym e = .ok r →
      planeIndex sym (0, n) = some (n / 2) ∧
      ((r.length : Int) - 1) = (reducedVol sym (0, n) (n / 2)).2 - (reducedVol sym (0, n) (n / 2)).1 := by
  intro n
  have hp : planeIndex sym (0, n) = if badCells n then none else some (n / 2) := by
    rw [planeIndex_sym hs]
    simp only [sub_zero, zero_add]
  refine ⟨?_, fun r hr => ?_⟩
  · rw [(reduceEdges_sym le rtol hs e e).2, hp]
    cases badCells n <;> simp
  · obtain ⟨h1, -, -, hl, -⟩ := C34_grid_kept_edges le rtol sym hs e r hr
    rw [hp, ((reduceEdges_sym le rtol hs e r).1.mp hr).1, reducedVol_sym hs, hl]
    have hn : n = (e.length : Int) - 1 := rfl
    clear_value n
    exact ⟨rfl, by omega⟩

section RoundTrip
variable {α : Type}

theorem widths_drop [Sub α] (e : List α) (k : Nat) : widths (e.drop k) = (widths e).drop k := by
  unfold widths
  rw [List.drop_zipWith, List.drop_drop, List.drop_drop, Nat.add_comm]

theorem widths_length [Sub α] (e : List α) : (widths e).length = e.length - 1 := by
  unfold widths; simp

theorem mirrorWidths_drop (w : List α) (m : Nat) (hl : w.length = 2 * m) :
    mirrorWidths (w.drop m) = w.reverse.take m ++ w.drop m := by
  rw [mirrorWidths, List.reverse_drop, hl, show 2 * m - m = m by omega]

theorem mirrorWidths_drop_getElem? (w : List α) (m : Nat) (hl : w.length = 2 * m) (i : Nat) :
    (mirrorWidths (w.drop m))[i]? = if i < m then w[w.length - 1 - i]? else w[i]? := by
  have hm : (w.reverse.take m).length = m := by rw [List.length_take, List.length_reverse]; omega
  rw [mirrorWidths_drop w m hl, List.getElem?_append, hm]
  split
  · next h => rw [List.getElem?_take_of_lt h, List.getElem?_reverse (by omega)]
  · next h => rw [List.getElem?_drop, Nat.add_sub_cancel' (not_lt.mp h)]

theorem C34_grid_roundtrip [Sub α] [Mul α] [Neg α] [OfNat α 0] (le : α → α → Bool) (rtol : α)
    (sym : Int) (hs : sym ≠ 0) (e r : List α) (h : reduceEdges le rtol sym e = .ok r)
    (hp : (widths e).reverse = widths e) :
    mirrorWidths (widths r) = widths e := by
  obtain ⟨h1, h2, rfl, -, -⟩ := C34_grid_kept_edges le rtol sym hs e r h
  rw [widths_drop, mirrorWidths_drop _ _ (by rw [widths_length]; omega), hp, List.take_append_drop]

end RoundTrip

section GridField
variable {K : Type} [Field K] [LinearOrder K] [IsStrictOrderedRing K]

/-- the comparison used in the theorems -/
def leK (a b : K) : Bool := decide (a ≤ b)

theorem absv_leK (x : K) : absv leK x = |x| := by
  unfold absv leK
  split
  · next h => exact (abs_of_nonneg (of_decide_eq_true h)).symm
  · next h => exact (abs_of_neg (not_le.mp fun h' => h (decide_eq_true h'))).symm

theorem closeTo_leK (rtol a b : K) : closeTo leK rtol a b = true ↔ |a - b| ≤ rtol * |b| := by
  unfold closeTo
  rw [absv_leK, absv_leK]
  exact decide_eq_true_iff

/-- what `allclose(w, w[::-1], rtol, 0)` requires -/
theorem mirrorSymmetric_iff (rtol : K) (w : List K) :
    mirrorSymmetric leK rtol w = true ↔
      ∀ i (hi : i < w.length), |w[i] - w[w.length - 1 - i]| ≤ rtol * |w[w.length - 1 - i]| := by
  rw [mirrorSymmetric, List.all_eq_true, List.forall_mem_iff_forall_getElem]
  simp only [List.length_zipWith, List.length_reverse, min_self, List.getElem_zipWith, List.getElem_reverse, id,
    closeTo_leK]

theorem C34_grid_accept_spec (rtol : K) (sym : Int) (hs : sym ≠ 0) (e : List K) :
    (∃ r, reduceEdges leK rtol sym e = .ok r) ↔
      (¬ badCells ((e.length : Int) - 1) = true ∧
        ∀ i (hi : i < (widths e).length),
          |(widths e)[i] - (widths e)[(widths e).length - 1 - i]| ≤ rtol * |(widths e)[(widths e).length - 1 - i]|) := by
  simp only [(reduceEdges_sym leK rtol hs e _).1, exists_and_left, exists_eq', and_true, Bool.not_eq_true,
    mirrorSymmetric_iff]

theorem palindrome_of_rtol_zero (w : List K) (h : mirrorSymmetric leK 0 w = true) : w.reverse = w := by
  rw [mirrorSymmetric_iff] at h
  refine List.ext_getElem List.length_reverse fun i _ h2 => ?_
  have h0 := h i h2
  rw [zero_mul, abs_nonpos_iff, sub_eq_zero] at h0
  rw [List.getElem_reverse, ← h0]

theorem C34_grid_roundtrip_rtol0 (sym : Int) (hs : sym ≠ 0) (e r : List K)
    (h : reduceEdges leK 0 sym e = .ok r) : mirrorWidths (widths r) = widths e :=
  C34_grid_roundtrip leK 0 sym hs e r h
    (palindrome_of_rtol_zero _ ((reduceEdges_sym leK 0 hs e r).1.mp h).2.1)

/-- for an accepted grid every reconstructed width is within `rtol` (relative) of the
    original width at the same position (and equal to it in the kept half). -/
theorem C34_grid_roundtrip_tol (rtol : K) (sym : Int) (hs : sym ≠ 0) (e r : List K)
    (h : reduceEdges leK rtol sym e = .ok r) (i : Nat) (hi : i < (widths e).length) :
    ∃ x, (mirrorWidths (widths r))[i]? = some x ∧
      (|x - (widths e)[i]| ≤ rtol * |(widths e)[i]| ∨ x = (widths e)[i]) := by
  obtain ⟨h1, h2, rfl, -, -⟩ := C34_grid_kept_edges leK rtol sym hs e r h
  have hacc := ((C34_grid_accept_spec rtol sym hs e).mp ⟨_, h⟩).2
  have hwl := widths_length e
  rw [widths_drop, mirrorWidths_drop_getElem? (widths e) ((e.length - 1) / 2) (by omega) i]
  split
  · -- below the centre the entry is the mirror partner `j` of `i`, and `i` is the partner of `j`
    have hj : (widths e).length - 1 - i < (widths e).length := by omega
    have key := hacc _ hj
    simp only [show (widths e).length - 1 - ((widths e).length - 1 - i) = i by omega] at key
    exact ⟨_, List.getElem?_eq_getElem hj, Or.inl key⟩
  · exact ⟨_, List.getElem?_eq_getElem hi, Or.inr rfl⟩

/-- non-vacuity: edges 0,1,3,5,6 (widths 1,2,2,1) over ℚ are accepted, keep 3,5,6 and round-trip -/
example : reduceEdges (leK (K := ℚ)) 0 (-1) [0, 1, 3, 5, 6] = .ok [3, 5, 6] ∧
    mirrorWidths (widths ([3, 5, 6] : List ℚ)) = widths [0, 1, 3, 5, 6] := by
  constructor <;> decide +kernel
/-- … 0,1,3,4 (three cells) is rejected for its cell count, 0,1,3,6,7 for its widths -/
example : reduceEdges (leK (K := ℚ)) 0 1 [0, 1, 3, 4] = .error .cells ∧
    reduceEdges (leK (K := ℚ)) (1 / 10000) 1 [0, 1, 3, 6, 7] = .error .widths := by
  constructor <;> decide +kernel

end GridField

end Fdtdx.C34
