/-
C37 — the CFL theorems of `FdtdxProps/C37.lean` take the square root as a parameter with `SqrtSpec`; here the one
instance that matters, so that only this file needs the real numbers.
-/
import FdtdxProps.C37
import Mathlib.Analysis.Real.Sqrt

namespace Fdtdx.C37

/-- the square-root hypothesis is met by the real square root -/
example : SqrtSpec Real.sqrt := fun x hx => ⟨Real.sqrt_nonneg x, Real.mul_self_sqrt hx⟩

end Fdtdx.C37
