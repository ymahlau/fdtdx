/-
C19 — Discretization picks the nearest allowed material.

Theorems about `FdtdxModel/C19.lean` for every number of materials n ≥ 1, every input value in a linearly ordered
field, every table, every shape.  Default branch: ANY nearest-integer rounding followed by the clip gives a nearest
index in range (the clip lies between the rounded value and every index in range, and the distance to `x` does not
decrease away from a nearest integer); the model's round-half-to-even is such a rounding.  Inverse branch: `argmin`
returns the first minimiser, hence the material nearest in inverse permittivity.  Then shape preservation and the
straight-through estimator (dual numbers).

Refutation witnesses for the pinned tree before the fix: the `AsFound` examples at the end.
-/
import FdtdxModel.C19
import FdtdxLemmas.FirstMin
import Mathlib.Tactic.Ring
import Mathlib.Tactic.Linarith
import Mathlib.Algebra.Order.Field.Basic
import Mathlib.Algebra.Order.Floor.Ring
import Mathlib.Algebra.Order.AbsoluteValue.Basic
import Mathlib.Tactic.Abel

namespace Fdtdx.C19
set_option linter.unusedSectionVars false

variable {K : Type} [Field K] [LinearOrder K] [IsStrictOrderedRing K]

/-! ### default branch: clip ∘ round -/

theorem clipI_cases (r : ℤ) (n : ℕ) (hn : 0 < n) :
    (r < 0 ∧ clipI r n = 0) ∨ ((n : ℤ) - 1 < r ∧ clipI r n = n - 1) ∨
      (0 ≤ r ∧ r ≤ (n : ℤ) - 1 ∧ clipI r n = r) := by
  unfold clipI; omega

theorem clipI_range (r : ℤ) (n : ℕ) (hn : 0 < n) : 0 ≤ clipI r n ∧ clipI r n < n := by
  rcases clipI_cases r n hn with ⟨_, e⟩ | ⟨_, e⟩ | ⟨_, _, e⟩ <;> rw [e] <;> omega

theorem clipI_between (r : ℤ) (n : ℕ) (k : ℤ) (hk0 : 0 ≤ k) (hk : k < n) :
    (r ≤ clipI r n ∧ clipI r n ≤ k) ∨ (k ≤ clipI r n ∧ clipI r n ≤ r) := by
  rcases clipI_cases r n (by omega) with ⟨_, e⟩ | ⟨_, e⟩ | ⟨_, _, e⟩ <;> rw [e] <;> omega

/-- if `r` is an integer nearest to `x`, the distance to `x` does not decrease along the integers away from `r` -/
theorem abs_sub_le_of_between (x : K) (r a b : ℤ) (hr : |(r : K) - x| ≤ 1 / 2)
    (h : (r ≤ a ∧ a ≤ b) ∨ (b ≤ a ∧ a ≤ r)) : |(a : K) - x| ≤ |(b : K) - x| := by
  obtain ⟨h1, h2⟩ := abs_le.mp hr
  rcases eq_or_ne a b with rfl | hne
  · exact le_rfl
  rcases h with ⟨hra, hab⟩ | ⟨hba, har⟩
  · have ha : (r : K) ≤ a := Int.cast_le.mpr hra
    have hb : (a : K) + 1 ≤ b := by exact_mod_cast Int.add_one_le_iff.mpr (lt_of_le_of_ne hab hne)
    exact abs_le_abs (by linarith only [hb]) (by linarith only [h1, ha, hb])
  · have ha : (a : K) ≤ r := Int.cast_le.mpr har
    have hb : (b : K) + 1 ≤ a := by exact_mod_cast Int.add_one_le_iff.mpr (lt_of_le_of_ne hba (Ne.symm hne))
    rw [abs_sub_comm _ x, abs_sub_comm _ x]
    exact abs_le_abs (by linarith only [hb]) (by linarith only [h2, ha, hb])

/-- any nearest-integer rounding followed by the clip gives a nearest index in `0 … n-1` -/
theorem C19_round_clip_minimises (x : K) (r : ℤ) (n : ℕ) (hn : 0 < n) (hr : |(r : K) - x| ≤ 1 / 2)
    (k : ℤ) (hk0 : 0 ≤ k) (hk : k < n) :
    (0 ≤ clipI r n ∧ clipI r n < n) ∧ |((clipI r n : ℤ) : K) - x| ≤ |(k : K) - x| :=
  ⟨clipI_range r n hn, abs_sub_le_of_between x r _ k hr (clipI_between r n k hk0 hk)⟩

example : |((1 : ℤ) : ℚ) - 3 / 2| ≤ 1 / 2 ∧ (0 : ℤ) ≤ 2 ∧ (2 : ℤ) < (3 : ℕ) := by
  decide +kernel

theorem roundHalfEven_cases (floorI : K → ℤ) (cast : ℤ → K) (x : K) :
    (roundHalfEven floorI cast x = floorI x ∧ x - cast (floorI x) ≤ 1 / 2) ∨
    (roundHalfEven floorI cast x = floorI x + 1 ∧ 1 / 2 ≤ x - cast (floorI x)) := by
  unfold roundHalfEven
  simp only []
  split_ifs with ha hb hc
  · exact .inl ⟨rfl, ha.le⟩
  · exact .inr ⟨rfl, hb.le⟩
  · exact .inl ⟨rfl, not_lt.mp hb⟩
  · exact .inr ⟨rfl, not_lt.mp ha⟩

section floor
variable [FloorRing K]

/-- the model's `jnp.round`: within 1/2 of the input -/
theorem C19_roundHalfEven_nearest (x : K) :
    |((roundHalfEven (fun y : K => ⌊y⌋) (fun i : ℤ => (i : K)) x : ℤ) : K) - x| ≤ 1 / 2 := by
  have h1 := Int.floor_le x
  have h2 := Int.lt_floor_add_one x
  rcases roundHalfEven_cases (fun y : K => ⌊y⌋) (fun i : ℤ => (i : K)) x with ⟨e, h⟩ | ⟨e, h⟩
  · rw [e, abs_sub_comm, abs_of_nonneg (sub_nonneg.mpr h1)]
    exact h
  · rw [e, Int.cast_add, Int.cast_one, abs_of_nonneg (sub_nonneg.mpr h2.le)]
    linarith only [h]

/-- … and even when the input is exactly half-way between two integers -/
theorem roundHalfEven_tie_even (x : K) (h : x - (⌊x⌋ : K) = 1 / 2) :
    roundHalfEven (fun y : K => ⌊y⌋) (fun i : ℤ => (i : K)) x % 2 = 0 := by
  unfold roundHalfEven
  simp only []
  rw [h]
  simp only [lt_irrefl, if_false]
  split_ifs with hc
  · exact hc
  · omega

/-- default branch of `ClosestIndex`: the returned index is in range and nearest -/
theorem C19_closestRound_nearest (x : K) (n : ℕ) (hn : 0 < n) (k : ℤ) (hk0 : 0 ≤ k) (hk : k < n) :
    let c := closestRound (fun y : K => ⌊y⌋) (fun i : ℤ => (i : K)) n x
    (0 ≤ c ∧ c < n) ∧ |(c : K) - x| ≤ |(k : K) - x| :=
  C19_round_clip_minimises x _ n hn (C19_roundHalfEven_nearest x) k hk0 hk

end floor

/-! ### argmin: facts about a linear order -/

section argmin
variable {T : Type} [LinearOrder T]

/-- `argmin` returns a minimiser, the first one -/
theorem C19_argmin_spec (L : List T) (hne : L ≠ []) :
    ∃ (h : argmin L < L.length),
      (∀ j (hj : j < L.length), L[argmin L] ≤ L[j]) ∧
      (∀ j (hj : j < L.length), j < argmin L → L[argmin L] < L[j]) :=
  FirstMinOn.exists_getElem (am := argmin) (go := argminGo) (g := id) ⟨fun _ _ => rfl, fun _ _ _ => rfl, fun _ _ _ _ _ => rfl⟩ L hne

/-- the same for the list of values `g` takes on a list `l` -/
theorem argmin_map_spec {β : Type} (l : List β) (hne : l ≠ []) (g : β → T) :
    ∃ (h : argmin (l.map g) < l.length),
      (∀ j (hj : j < l.length), g l[argmin (l.map g)] ≤ g l[j]) ∧
      (∀ j (hj : j < l.length), j < argmin (l.map g) → g l[argmin (l.map g)] < g l[j]) :=
  FirstMinOn.exists_getElem (am := fun l => argmin (l.map g)) (go := fun xs => argminGo (xs.map g)) (g := g)
    ⟨fun _ _ => rfl, fun _ _ _ => rfl, fun _ _ _ _ _ => rfl⟩ l hne

end argmin

/-! ### inverse-permittivity branch -/

theorem absDiff_eq (a b : K) : absDiff a b = |a - b| := by
  unfold absDiff
  simp only []
  split_ifs with h
  · exact (abs_of_neg h).symm
  · exact (abs_of_nonneg (not_lt.mp h)).symm

theorem dist_eq (row : List K) (x : K) : dist row x = (row.map (fun c => |x - c|)).sum := by
  rw [List.sum_eq_foldl, List.foldl_map]
  exact congrArg (fun f => row.foldl f 0) (funext fun a => funext fun c => congrArg (a + ·) (absDiff_eq x c))

/-- distance of `x` to material `row` (permittivity components): Σ_c |x − 1/ε_c| -/
def invDist (row : List K) (x : K) : K := (row.map (fun e => |x - 1 / e|)).sum

theorem closestInv_eq (eps : List (List K)) (x : K) :
    closestInv eps x = argmin (eps.map (fun row => invDist row x)) := by
  unfold closestInv invTable invDist
  congr 1
  simp only [List.map_map]
  apply List.map_congr_left
  intro row _
  simp [dist_eq, List.map_map, Function.comp_def]

/-- inverse branch, any component count: the returned material minimises the summed distance, first on ties -/
theorem C19_closestInv_minimises (eps : List (List K)) (hne : eps ≠ []) (x : K) :
    ∃ (h : closestInv eps x < eps.length),
      (∀ j (hj : j < eps.length), invDist eps[closestInv eps x] x ≤ invDist eps[j] x) ∧
      (∀ j (hj : j < eps.length), j < closestInv eps x →
        invDist eps[closestInv eps x] x < invDist eps[j] x) := by
  simp only [closestInv_eq]
  exact argmin_map_spec eps hne _

/-- isotropic set with permittivities `es` (ordered as the code orders them; `_hnz` is the code's precondition for forming `1/ε`, the
argument below does not use it):
the returned index is in range, its inverse permittivity is nearest to `x`, and it is the first such index -/
theorem C19_closestInv_iso_nearest (es : List K) (hne : es ≠ []) (_hnz : ∀ e ∈ es, e ≠ 0) (x : K) :
    ∃ (h : closestInv (es.map fun e => [e]) x < es.length),
      (∀ j (hj : j < es.length),
        |x - 1 / es[closestInv (es.map fun e => [e]) x]| ≤ |x - 1 / es[j]|) ∧
      (∀ j (hj : j < es.length), j < closestInv (es.map fun e => [e]) x →
        |x - 1 / es[closestInv (es.map fun e => [e]) x]| < |x - 1 / es[j]|) := by
  have e : closestInv (es.map fun e => [e]) x = argmin (es.map fun e => |x - 1 / e|) := by
    rw [closestInv_eq, List.map_map]
    congr 1
    simp [invDist, Function.comp_def]
  simp only [e]
  exact argmin_map_spec es hne _

example : ([1, 2, 4] : List ℚ) ≠ [] ∧ ∀ e ∈ ([1, 2, 4] : List ℚ), e ≠ 0 := by
  decide +kernel

/-! ### shape -/

/-- both branches keep the shape and act voxel-wise -/
theorem C19_shape_preserved (n : ℕ) (eps : List (List K)) (floorI : K → ℤ) (cast : ℤ → K) (a : Arr K) :
    (transformRound floorI cast n a).shape = a.shape ∧
    (transformRound floorI cast n a).data.length = a.data.length ∧
    (transformRound floorI cast n a).wf = a.wf ∧
    (∀ i (hi : i < a.data.length),
      (transformRound floorI cast n a).data[i]'(by simpa [transformRound] using hi)
        = closestRound floorI cast n a.data[i]) ∧
    (transformInv eps a).shape = a.shape ∧
    (transformInv eps a).data.length = a.data.length ∧
    (transformInv eps a).wf = a.wf ∧
    (∀ i (hi : i < a.data.length),
      (transformInv eps a).data[i]'(by simpa [transformInv] using hi) = closestInv eps a.data[i]) := by
  simp [transformRound, transformInv, Arr.wf]

/-! ### straight-through estimator -/

/-- forward pass (`stop_gradient` is the identity on values): the discrete value -/
theorem C19_ste_forward {R : Type} [AddCommGroup R] (x y : R) : ste id x y = y := by
  simp [ste]

/-- derivative: the tangent of the output is the tangent of `x`, whatever `y` depends on; the value is `y` -/
theorem C19_ste_derivative {R : Type} [AddCommGroup R] (x dx y dy : R) :
    ste Dual.sg (⟨x, dx⟩ : Dual R) ⟨y, dy⟩ = ⟨y, dx⟩ := by
  show (⟨x - x + y, dx - 0 + 0⟩ : Dual R) = ⟨y, dx⟩
  congr 1 <;> simp

/-! ### the pinned tree before the fix: machine-checked refutation witnesses -/

/-- two isotropic materials ε = 1, 2 (inverse 1, 1/2), input `[1/10, 9/10]`: the nearest materials are
`[1, 0]`; the pinned tree returned `[0, 0]` (argmin over an axis of length one). -/
example : (transformInv ([[1], [2]] : List (List ℚ)) ⟨[2], [1 / 10, 9 / 10]⟩).data = [1, 0] ∧
    (AsFound.closestInvIso 2 [2]).map (·.data) = some [0, 0] := by
  constructor
  · decide +kernel
  · decide

/-- depth 1: the pinned tree changed the shape `(3,1)` into `(3,2)` -/
example : (AsFound.closestInvIso 2 [3, 1]).map (·.shape) = some [3, 2] := by decide

/-- depth 3 with two materials: the pinned tree raised -/
example : AsFound.closestInvIso 2 [2, 3] = none := by decide

end Fdtdx.C19
