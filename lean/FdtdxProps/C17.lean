/-
C17 — Phasor detectors compute the windowed discrete Fourier transform.

About `FdtdxModel/C17.lean` (the on-mask and its index maps `rank`, `idxFrom`, `numOn` are those of C14, with their
lemmas from `FdtdxProps/C14.lean`), for every step count, on-mask, window, history and phasor sequence (`K` any commutative
ring of real scalars, `V` any `K`-module of phasor values, e.g. ℂ over ℝ or pairs over ℚ):
  fold       after n gated updates the state is init ± scale • Σ_{t<n, kept t} (w t · x t) • ph t; with the placed window
             array the sum runs over the recorded steps with the apodization weights, whose sum is what the continuous
             scale 2/Σw divides by (pulse: scale = stride); a constant history at zero frequency reproduces 2·c
  thinning   stride thinning keeps the active steps whose rank is a multiple of the stride, ⌈active / stride⌉ of them
  closed surface   after the fix a face accumulates the same windowed DFT; `asFound_closed_surface_ignores_window`
             refutes it for the tree as found
  flux       the stored Poynting vector is Re(E × conj H); plane flux = (½ in continuous mode) · (± by direction)
             Σ area · Re(E × conj H)_axis; closed surface = signed sum of the face sums, inward negated, the two
             faces of a size-one axis cancel
-/
import FdtdxModel.C17
import FdtdxProps.C14
import Mathlib.Algebra.BigOperators.Intervals
import Mathlib.Algebra.Module.BigOperators
import Mathlib.Tactic.Ring
import Mathlib.Tactic.Abel
import Mathlib.Tactic.LinearCombination
import Mathlib.Tactic.FieldSimp
import Mathlib.Tactic.Linarith

namespace Fdtdx.C17
open Finset

/-! ### the fold invariant -/
section fold
variable {K V : Type} [CommRing K] [AddCommGroup V] [Module K V]

/-- the module scalar action as the model's explicit `smul` argument -/
abbrev act : K → V → V := fun r v => r • v

theorem phContrib_eq (x : K) (ph : V) (scale w : K) :
    phContrib (act (K := K) (V := V)) x ph scale w = scale • ((w * x) • ph) := by
  simp only [phContrib, act, smul_smul]
  congr 1; ring

/-- the windowed DFT sum over the kept steps below `n` -/
def dftSum (on : Nat → Bool) (w x : Nat → K) (ph : Nat → V) (n : Nat) : V :=
  ∑ t ∈ range n, if on t then (w t * x t) • ph t else 0

theorem phStep_eq (inv : Bool) (on : Nat → Bool) (w x : Nat → K) (ph : Nat → V) (scale : K) (st : V) (t : Nat) :
    phStep (act (K := K) (V := V)) inv on x ph scale w st t
      = st + (if inv then -scale else scale) • (if on t then (w t * x t) • ph t else 0) := by
  cases inv <;> cases h : on t <;> simp [phStep, h, phContrib_eq, sub_eq_add_neg]

theorem phRun_eq (inv : Bool) (on : Nat → Bool) (w x : Nat → K) (ph : Nat → V) (scale : K) (init : V) (n : Nat) :
    phRun (act (K := K) (V := V)) inv on x ph scale w init n
      = init + (if inv then -scale else scale) • dftSum on w x ph n := by
  induction n with
  | zero => simp [phRun, dftSum]
  | succ n ih =>
    rw [phRun, ih, phStep_eq]
    simp only [dftSum, sum_range_succ, smul_add, add_assoc]

/-- after the first `n` steps the accumulator is the initial value plus
    `scale • Σ_{t<n, kept t} (w t · x t) • ph t`, for every on-mask, window, history and phasor sequence. -/
theorem C17_fold (on : Nat → Bool) (w x : Nat → K) (ph : Nat → V) (scale : K) (init : V) (n : Nat) :
    phRun (act (K := K) (V := V)) false on x ph scale w init n = init + scale • dftSum on w x ph n :=
  phRun_eq false on w x ph scale init n

/-- inverse recording (`Detector.inverse`): the same sum is subtracted -/
theorem C17_fold_inverse (on : Nat → Bool) (w x : Nat → K) (ph : Nat → V) (scale : K) (init : V) (n : Nat) :
    phRun (act (K := K) (V := V)) true on x ph scale w init n = init - scale • dftSum on w x ph n := by
  rw [phRun_eq, if_pos rfl, neg_smul, sub_eq_add_neg]

theorem sumTo_eq_sum {M : Type} [AddCommMonoid M] (f : Nat → M) (n : Nat) : sumTo f n = ∑ t ∈ range n, f t := by
  induction n with
  | zero => simp [sumTo]
  | succ n ih => rw [sumTo, ih, sum_range_succ]

/-- the apodization weight of step `t` (1 without apodization) -/
def apodAt (apod : Option (K → K)) (cast : Nat → K) (dt : K) (t : Nat) : K :=
  match apod with
  | none => 1
  | some f => f (cast t * dt)

theorem windowArr_eq (apod : Option (K → K)) (cast : Nat → K) (dt : K) (on : Nat → Bool) (t : Nat) :
    windowArr apod cast dt on t = if on t then apodAt apod cast dt t else 0 := by
  cases apod <;> by_cases h : on t = true <;> simp [windowArr, apodAt, h]

/-- with the window array built at placement (apodization · kept-mask) the accumulated value is
    `scale • Σ_{t<n, kept t} (apod(t·dt) · x t) • ph t` — the windowed DFT over the recorded steps. -/
theorem C17_fold_window (apod : Option (K → K)) (cast : Nat → K) (dt : K) (on : Nat → Bool) (x : Nat → K)
    (ph : Nat → V) (scale : K) (init : V) (n : Nat) :
    phRun (act (K := K) (V := V)) false on x ph scale (windowArr apod cast dt on) init n
      = init + scale • ∑ t ∈ range n, if on t then (apodAt apod cast dt t * x t) • ph t else 0 := by
  rw [C17_fold, dftSum]
  congr 2
  apply sum_congr rfl
  intro t _
  by_cases h : on t = true <;> simp [windowArr_eq, h]

/-- the window sum the continuous scale divides by is the sum of the apodization weights over the recorded steps. -/
theorem C17_window_sum (apod : Option (K → K)) (cast : Nat → K) (dt : K) (on : Nat → Bool) (T : Nat) :
    sumTo (windowArr apod cast dt on) T = ∑ t ∈ range T, if on t then apodAt apod cast dt t else 0 := by
  rw [sumTo_eq_sum]
  exact sum_congr rfl (fun t _ => windowArr_eq apod cast dt on t)

end fold

section field
variable {K V : Type} [Field K] [AddCommGroup V] [Module K V]

theorem C17_scale_pulse (cast : Nat → K) (ws : K) (stride : Nat) :
    staticScale cast .pulse ws stride = cast stride := rfl

/-- continuous mode scales by `2 / Σw` (placement guarantees `Σw ≠ 0`). -/
theorem C17_scale_continuous (cast : Nat → K) (ws : K) (stride : Nat) (h : ws ≠ 0) :
    staticScale cast .continuous ws stride * ws = 2 := by
  simp only [staticScale]
  field_simp

/-- in continuous mode a constant history `c` against a constant phasor `v` (zero frequency)
    accumulates exactly `2c • v`, whatever the window, stride thinning and schedule. -/
theorem C17_constant_signal (apod : Option (K → K)) (cast : Nat → K) (dt : K) (on : Nat → Bool) (c : K) (v : V)
    (T stride : Nat) (hws : sumTo (windowArr apod cast dt on) T ≠ 0) :
    phRun (act (K := K) (V := V)) false on (fun _ => c) (fun _ => v)
      (staticScale cast .continuous (sumTo (windowArr apod cast dt on) T) stride) (windowArr apod cast dt on) 0 T
      = (2 * c) • v := by
  have hw : ∀ t, (if on t = true then (windowArr apod cast dt on t * c) • v else 0)
      = (windowArr apod cast dt on t * c) • v := by
    intro t
    rw [windowArr_eq]
    split <;> simp
  rw [C17_fold, dftSum, zero_add]
  simp only [hw]
  rw [← sum_smul, ← sum_mul, ← sumTo_eq_sum, smul_smul, ← mul_assoc, C17_scale_continuous cast _ stride hws]

end field

/-! ### stride thinning -/

/-- the thinned list reads off the counter loop of the index map: a step is kept when its index is a multiple of the
stride -/
theorem thinFrom_eq_map (s c : Nat) (l : List Bool) :
    thinFrom s c l = (C14.idxFrom c l).map (fun v => decide (0 ≤ v ∧ v.toNat % s = 0)) := by
  induction l generalizing c with
  | nil => rfl
  | cons b l ih => cases b <;> simp [thinFrom, C14.idxFrom, ih]

theorem thinFrom_get (s c : Nat) (l : List Bool) (t : Nat) (ht : t < l.length) :
    (thinFrom s c l)[t]? = some (C14.onFn l t && decide ((c + C14.rank (C14.onFn l) t) % s = 0)) := by
  rw [thinFrom_eq_map, List.getElem?_map, C14.idxFrom_get c l t ht]
  cases C14.onFn l t <;> simp [-Nat.cast_add, -Int.natCast_add]

/-- stride thinning (`active[::stride]`) keeps exactly the active steps whose rank among the active steps is a
    multiple of the stride. -/
theorem C17_thin_spec (s : Nat) (hs : 2 ≤ s) (l : List Bool) (t : Nat) (ht : t < l.length) :
    (thin s l)[t]? = some (C14.onFn l t && decide (C14.rank (C14.onFn l) t % s = 0)) := by
  unfold thin
  rw [if_neg (by omega), thinFrom_get s 0 l t ht]
  simp

theorem C17_thin_le_one (s : Nat) (hs : s ≤ 1) (l : List Bool) : thin s l = l := by
  simp [thin, hs]

theorem thinFrom_length (s c : Nat) (l : List Bool) : (thinFrom s c l).length = l.length := by
  rw [thinFrom_eq_map, List.length_map, C14.idxFrom_length]

/-- thinning never activates an inactive step -/
theorem C17_thin_sub (s : Nat) (l : List Bool) (t : Nat) (ht : t < l.length) (h : (thin s l)[t]? = some true) :
    C14.onFn l t = true := by
  by_cases hs : s ≤ 1
  · rw [C17_thin_le_one s hs] at h
    simp only [C14.onFn, List.getD_eq_getElem?_getD, h, Option.getD_some]
  · rw [C17_thin_spec s (by omega) l t ht] at h
    simp only [Option.some.injEq, Bool.and_eq_true] at h
    exact h.1

/-- `⌈(c+1)/s⌉ = ⌈c/s⌉ + [s ∣ c]` -/
private theorem ceil_step (s c : Nat) (hs : 0 < s) :
    (c + 1 + s - 1) / s = (c + s - 1) / s + (if c % s = 0 then 1 else 0) := by
  rw [show c + 1 + s - 1 = c + s - 1 + 1 by omega, Nat.succ_div, show c + s - 1 + 1 = c + s by omega]
  simp only [Nat.dvd_iff_mod_eq_zero, Nat.add_mod_right]

/-- with `c` active steps seen so far, thinning keeps as many steps as there are multiples of `s` in
`[c, c + numOn l)`: the ceilings of the two ends differ by that number -/
theorem thinFrom_count (s : Nat) (hs : 0 < s) (c : Nat) (l : List Bool) :
    C14.numOn (thinFrom s c l) + (c + s - 1) / s = (c + C14.numOn l + s - 1) / s := by
  induction l generalizing c with
  | nil => exact Nat.zero_add _
  | cons b l ih =>
    cases b
    · exact ih c
    · have h : C14.numOn (thinFrom s c (true :: l))
          = C14.numOn (thinFrom s (c + 1) l) + (if c % s = 0 then 1 else 0) := by
        by_cases hc : c % s = 0 <;> simp [thinFrom, C14.numOn, hc]
      rw [h, Nat.add_assoc, Nat.add_comm _ ((c + s - 1) / s), ← ceil_step s c hs, ih (c + 1)]
      simp only [C14.numOn, List.filter_cons_of_pos, id, List.length_cons, Nat.add_assoc, Nat.add_comm 1]

/-- the number of recorded steps after stride thinning is ⌈(number of active steps) / stride⌉. -/
theorem C17_thin_count (s : Nat) (hs : 1 ≤ s) (l : List Bool) :
    C14.numOn (thin s l) = (C14.numOn l + s - 1) / s := by
  unfold thin
  split
  · rw [show s = 1 by omega, Nat.add_sub_cancel, Nat.div_one]
  · rw [← Nat.zero_add (C14.numOn l), ← thinFrom_count s hs 0 l, Nat.zero_add, Nat.div_eq_of_lt (Nat.sub_lt hs Nat.one_pos),
      Nat.add_zero]

/-! ### the closed-surface detector -/
section closed
variable {K V : Type} [CommRing K] [AddCommGroup V] [Module K V]

/-- each stored face cell accumulates the same windowed DFT as a `PhasorDetector` on that cell. -/
theorem C17_closed_face_fold (apod : Option (K → K)) (cast : Nat → K) (dt : K) (on : Nat → Bool) (xFace : Nat → K)
    (ph : Nat → V) (scale : K) (n : Nat) :
    phRun (act (K := K) (V := V)) false on xFace ph scale (windowArr apod cast dt on) 0 n
      = scale • ∑ t ∈ range n, if on t then (apodAt apod cast dt t * xFace t) • ph t else 0 := by
  rw [C17_fold_window, zero_add]

end closed

/-- Refutation witness for the tree as found: window weights (1, 3) over two recorded steps, unit history and phasor,
    scale `2/Σw` represented by 1: the closed-surface accumulator holds 2, the windowed DFT is 4. -/
example :
    AsFound.csRun (fun (r v : Int) => r * v) (fun _ => true) (fun _ => 1) (fun _ => 1) 1
        (fun t => if t = 0 then 1 else 3) 0 2 = 2
    ∧ phRun (fun (r v : Int) => r * v) false (fun _ => true) (fun _ => 1) (fun _ => 1) 1
        (fun t => if t = 0 then 1 else 3) 0 2 = 4 := by decide

theorem asFound_closed_surface_ignores_window :
    ∃ (on : Nat → Bool) (x ph w : Nat → Int) (scale : Int) (n : Nat),
      AsFound.csRun (fun (r v : Int) => r * v) on x ph scale w 0 n
        ≠ phRun (fun (r v : Int) => r * v) false on x ph scale w 0 n :=
  ⟨fun _ => true, fun _ => 1, fun _ => 1, fun t => if t = 0 then 1 else 3, 1, 2, by decide⟩

/-! ### phasor Poynting flux -/
section poynting
variable {K : Type} [CommRing K]

omit [CommRing K] in
theorem Cx.ext' {a b : Cx K} (h1 : a.re = b.re) (h2 : a.im = b.im) : a = b := by
  cases a; cases b; simp_all

theorem Cx.sub_re (a b : Cx K) : (a - b).re = a.re - b.re := rfl

/-- `reMulConj a b` is the real part of `a · conj b` -/
theorem C17_reMulConj (a b : Cx K) : (a * Cx.conj b).re = reMulConj a b := by
  show a.re * b.re - a.im * (-b.im) = a.re * b.re + a.im * b.im
  ring

/-- the stored Poynting vector is `Re(E × conj H)`, component by component. -/
theorem C17_poynting_components (e h : Fin 3 → Cx K) :
    poyntingRe e h 0 = (e 1 * Cx.conj (h 2) - e 2 * Cx.conj (h 1)).re
    ∧ poyntingRe e h 1 = (e 2 * Cx.conj (h 0) - e 0 * Cx.conj (h 2)).re
    ∧ poyntingRe e h 2 = (e 0 * Cx.conj (h 1) - e 1 * Cx.conj (h 0)).re := by
  refine ⟨?_, ?_, ?_⟩ <;> simp only [poyntingRe, Cx.sub_re, C17_reMulConj] <;> rfl

theorem faceSum_eq_sum (a : Fin 3) (cells : List (Cell K)) :
    faceSum a cells = (cells.map (fun c => poyntingRe c.e c.h a * c.area)).sum := by
  induction cells with
  | nil => rfl
  | cons c l ih => simp [faceSum, ih]

/-- plane flux = area-weighted sum of the normal component of `Re(E × conj H)`, halved in continuous mode,
    negated for direction "-". -/
theorem C17_plane_flux_pulse (half : K) (a : Fin 3) (cells : List (Cell K)) :
    planeFlux half .pulse false a cells = (cells.map (fun c => poyntingRe c.e c.h a * c.area)).sum := by
  simp [planeFlux, faceSum_eq_sum]

theorem C17_plane_flux_continuous (half : K) (neg : Bool) (a : Fin 3) (cells : List (Cell K)) :
    planeFlux half .continuous neg a cells = half * planeFlux half .pulse neg a cells := by
  cases neg <;> simp [planeFlux]

theorem C17_plane_flux_direction (half : K) (mode : Mode) (a : Fin 3) (cells : List (Cell K)) :
    planeFlux half mode true a cells = - planeFlux half mode false a cells := by
  cases mode <;> simp [planeFlux]

/-- signed face contribution -/
def faceTerm (f : Face K) : K := if f.isMax then faceSum f.axis f.cells else - faceSum f.axis f.cells

theorem netRaw_eq (faces : List (Face K)) (acc : K) :
    faces.foldl (fun acc f => if f.isMax then acc + faceSum f.axis f.cells else acc - faceSum f.axis f.cells) acc
      = acc + (faces.map faceTerm).sum := by
  induction faces generalizing acc with
  | nil => simp
  | cons f l ih =>
    rw [List.foldl_cons, ih, List.map_cons, List.sum_cons]
    by_cases h : f.isMax = true
    · simp only [h, if_true, faceTerm]; ring
    · have h' : f.isMax = false := by simpa using h
      simp only [h', Bool.false_eq_true, if_false, faceTerm]; ring

/-- the closed-surface flux is the signed sum of the face integrals (max faces +, min faces −), halved in
    continuous mode, negated for `orientation = "inward"`. -/
theorem C17_net_flux_pulse (half : K) (faces : List (Face K)) :
    netFlux half .pulse false faces = (faces.map faceTerm).sum := by
  simp [netFlux, netRaw_eq]

theorem C17_net_flux_continuous (half : K) (inward : Bool) (faces : List (Face K)) :
    netFlux half .continuous inward faces = half * netFlux half .pulse inward faces := by
  cases inward <;> simp [netFlux]

theorem C17_net_flux_inward (half : K) (mode : Mode) (faces : List (Face K)) :
    netFlux half mode true faces = - netFlux half mode false faces := by
  cases mode <;> simp [netFlux]

/-- on an axis of size one the max and the min face are the same cells and cancel. -/
theorem C17_net_flux_pair_cancels (half : K) (mode : Mode) (inward : Bool) (a : Fin 3) (cells : List (Cell K))
    (rest : List (Face K)) :
    netFlux half mode inward (⟨a, true, cells⟩ :: ⟨a, false, cells⟩ :: rest) = netFlux half mode inward rest := by
  have h : (0 : K) + faceSum a cells - faceSum a cells = 0 := by ring
  simp only [netFlux, List.foldl_cons, if_true, Bool.false_eq_true, if_false, h]

end poynting

/-! ### non-vacuity -/

-- a thinned schedule: stride 2 keeps the 1st and 3rd active steps
example : thin 2 [false, true, true, false, true, true] = [false, true, false, false, true, false] := by decide
example : thin 1 [false, true, true] = [false, true, true] := by decide
example : thin 3 [true, true, true, true, true, true, true] = [true, false, false, true, false, false, true] := by decide
example : resolveStride 0 = 1 ∧ resolveStride (-3) = 1 ∧ resolveStride 4 = 4 := by decide
-- the fold on concrete integer data with a non-rectangular window, gaps in the mask, non-constant phasor
example : phRun (fun (r v : Int) => r * v) false (fun t => t % 2 = 0) (fun t => (t : Int) + 1) (fun t => (t : Int) - 2) 3
    (fun t => if t = 0 then 1 else 2) 0 5 = 3 * (1 * 1 * (-2) + 2 * 3 * 0 + 2 * 5 * 2) := by decide
-- hypotheses of C17_constant_signal are satisfiable (ℚ-like: here the window sum 4 ≠ 0 over Int)
example : sumTo (windowArr (some fun (x : Int) => x + 1) (fun n => (n : Int)) 1 (fun t => t % 2 = 0)) 3 ≠ 0 := by decide
-- Poynting: E = (0, 1+i, 0), H = (0, 0, 2+i): S_x = Re((1+i)(2−i)) = 3
example : poyntingRe (fun i => if i = 1 then (⟨1, 1⟩ : Cx Int) else ⟨0, 0⟩)
    (fun i => if i = 2 then (⟨2, 1⟩ : Cx Int) else ⟨0, 0⟩) 0 = 3 := by decide

end Fdtdx.C17
