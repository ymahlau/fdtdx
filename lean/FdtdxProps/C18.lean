/-
C18 — Device parameters map to materials exactly as documented.

Theorems about `FdtdxModel/C18.lean` for any grid, any number of devices in any arrangement (overlapping or not), any
tables, any parameter values, any history length; scalars in an arbitrary field, ordered where a range is claimed.
In order: what the device loop does to a cell outside every slice and to a cell of a device (painter's order,
`expand_matrix` index law); the per-cell formulas of the three device modes and their ranges; independence of the
history (only an etched device reads the current value, and then the backup has been restored: `applyLoop_congr`);
the `jnp.repeat` index law; the 9-component `_invert_property` as a matrix inverse.
-/
import FdtdxModel.C18
import Mathlib.Tactic.Ring
import Mathlib.Tactic.Linarith
import Mathlib.Tactic.FieldSimp
import Mathlib.Algebra.Order.Field.Basic
import Mathlib.Tactic.IntervalCases

namespace Fdtdx.C18
set_option linter.unusedSectionVars false

variable {K : Type} [Field K]

/-! ### structure of the loop -/

theorem applyLoop_init (C : ℕ) : ∀ (devs : List (Dev K)) X (s : State K),
    (applyLoop C devs X s).init = s.init := by
  intro devs
  induction devs with
  | nil => intro X s; rfl
  | cons d ds ih => intro X s; simp only [applyLoop]; rw [ih]; rfl

theorem resetInv_some {s : State K} {I : Fld K} (h : s.init = some I) : resetInv s = { s with inv := I } := by
  unfold resetInv; rw [h]

theorem resetInv_none {s : State K} (h : s.init = none) : resetInv s = s := by
  unfold resetInv; rw [h]

theorem resetInv_init (s : State K) : (resetInv s).init = s.init := by
  unfold resetInv; split <;> rfl

theorem resetInv_coef (s : State K) : (resetInv s).coef = s.coef := by
  unfold resetInv; split <;> rfl

theorem applyParams_init (C : ℕ) (devs : List (Dev K)) X (s : State K) :
    (applyParams C devs X s).init = s.init := by
  unfold applyParams; rw [applyLoop_init, resetInv_init]

theorem applyLoop_outside (C : ℕ) : ∀ (devs : List (Dev K)) X (s : State K) (i j k : ℕ),
    (∀ d ∈ devs, inSlice d i j k = false) →
    (∀ c, (applyLoop C devs X s).inv c i j k = s.inv c i j k) ∧
    (∀ q, (applyLoop C devs X s).coef q i j k = s.coef q i j k) := by
  intro devs
  induction devs with
  | nil => intro X s i j k _; exact ⟨fun _ => rfl, fun _ => rfl⟩
  | cons d ds ih =>
    intro X s i j k h
    obtain ⟨hd, hds⟩ := List.forall_mem_cons.mp h
    obtain ⟨h1, h2⟩ := ih (fun n => X (n + 1)) (applyDevice C d (X 0) s) i j k hds
    simp only [applyLoop]
    constructor
    · intro c; rw [h1]; simp [applyDevice, hd]
    · intro q; rw [h2]; simp [applyDevice, hd]

theorem applyLoop_append (C : ℕ) : ∀ (pre post : List (Dev K)) X (s : State K),
    applyLoop C (pre ++ post) X s
      = applyLoop C post (fun n => X (n + pre.length)) (applyLoop C pre X s) := by
  intro pre
  induction pre with
  | nil => intro post X s; simp [applyLoop]
  | cons d ds ih =>
    intro post X s
    simp only [List.cons_append, applyLoop, List.length_cons]
    rw [ih]
    congr 1

/-! ### cells outside every device -/

/-- cells outside every device slice: inverse permittivity = the reset array (backup if present, else the
current array), dispersive coefficients unchanged -/
theorem C18_outside_unchanged (C : ℕ) (devs : List (Dev K)) X (s : State K) (i j k : ℕ)
    (hout : ∀ d ∈ devs, inSlice d i j k = false) :
    (∀ c, (applyParams C devs X s).inv c i j k = (resetInv s).inv c i j k) ∧
    (∀ q, (applyParams C devs X s).coef q i j k = s.coef q i j k) ∧
    (s.init = none → ∀ c, (applyParams C devs X s).inv c i j k = s.inv c i j k) ∧
    (∀ I, s.init = some I → ∀ c, (applyParams C devs X s).inv c i j k = I c i j k) := by
  obtain ⟨h1, h2⟩ := applyLoop_outside C devs X (resetInv s) i j k hout
  refine ⟨h1, ?_, ?_, ?_⟩
  · intro q; unfold applyParams; rw [h2, resetInv_coef]
  · intro hn c; unfold applyParams; rw [h1, resetInv_none hn]
  · intro I hI c; unfold applyParams; rw [h1, resetInv_some hI]

/-- the invariant under which "reset to the backup" does not change cells outside devices: the current array
agrees with the backup there.  It holds after place_objects (backup = copy) and after every applyParams. -/
def BackupInv (devs : List (Dev K)) (s : State K) : Prop :=
  ∀ I, s.init = some I → ∀ c i j k, (∀ d ∈ devs, inSlice d i j k = false) → s.inv c i j k = I c i j k

theorem C18_backup_invariant (C : ℕ) (devs : List (Dev K)) X (s : State K) :
    BackupInv devs (applyParams C devs X s) ∧
    (BackupInv devs s → ∀ c i j k, (∀ d ∈ devs, inSlice d i j k = false) →
      (applyParams C devs X s).inv c i j k = s.inv c i j k) := by
  constructor
  · intro I hI c i j k hout
    rw [applyParams_init] at hI
    exact (C18_outside_unchanged C devs X s i j k hout).2.2.2 I hI c
  · intro hinv c i j k hout
    obtain ⟨_, _, hnone, hsome⟩ := C18_outside_unchanged C devs X s i j k hout
    cases h : s.init with
    | none => exact hnone h c
    | some I => rw [hsome I h c, hinv I h c i j k hout]

/-! ### cells of a device -/

/-- painter's order + index law: a cell in the slice of `d` that no later device covers -/
theorem C18_device_cell (C : ℕ) (pre post : List (Dev K)) (d : Dev K) X (s : State K) (i j k : ℕ)
    (hin : inSlice d i j k = true) (hpost : ∀ d' ∈ post, inSlice d' i j k = false) :
    (∀ c, (applyParams C (pre ++ d :: post) X s).inv c i j k
        = cellInv d C (fun c' => (applyLoop C pre X (resetInv s)).inv c' i j k)
            (designVal d (X pre.length) i j k).1 (designVal d (X pre.length) i j k).2 c) ∧
    (∀ q, (applyParams C (pre ++ d :: post) X s).coef q i j k
        = cellCoef d (designVal d (X pre.length) i j k).1 (designVal d (X pre.length) i j k).2 q) := by
  unfold applyParams
  rw [applyLoop_append]
  simp only [applyLoop]
  obtain ⟨h1, h2⟩ := applyLoop_outside C post (fun n => X (n + 1 + pre.length))
    (applyDevice C d (X (0 + pre.length)) (applyLoop C pre X (resetInv s))) i j k hpost
  constructor
  · intro c; rw [h1]; simp [applyDevice, hin]
  · intro q; rw [h2]; simp [applyDevice, hin]

/-- `designVal` is the index law of `expand_matrix`: simulation cell (i,j,k) reads design cell ((i−lo)/v, …) -/
theorem designVal_eq {β : Type} (d : Dev K) (X : ℕ → ℕ → ℕ → β) (i j k : ℕ) :
    designVal d X i j k = X ((i - d.lo.1) / d.v.1) ((j - d.lo.2.1) / d.v.2.1) ((k - d.lo.2.2) / d.v.2.2) := rfl

/-- continuous device, 1 or 3 components -/
theorem C18_continuous_formula (C : ℕ) (hC : C ≠ 9) (d : Dev K) (hm : d.mode = Mode.cont)
    (cur : ℕ → K) (x : K) (m c : ℕ) :
    cellInv d C cur x m c = 1 / (entry d.perm 0 c + x * (entry d.perm 1 c - entry d.perm 0 c)) := by
  simp [cellInv, hm, invProp, hC]

/-- etched device, 1 or 3 components: blend between the existing material and the etch material -/
theorem C18_etch_formula (C : ℕ) (hC : C ≠ 9) (d : Dev K) (hm : d.mode = Mode.etch)
    (cur : ℕ → K) (x : K) (m c : ℕ) :
    cellInv d C cur x m c = 1 / (1 / cur c + x * (entry d.perm 0 c - 1 / cur c)) := by
  simp [cellInv, hm, invProp, hC]

/-- discrete device: ONE material index `m` for every component and every coefficient channel -/
theorem C18_discrete_material (C : ℕ) (hC : C ≠ 9) (d : Dev K) (hm : d.mode = Mode.disc)
    (cur : ℕ → K) (x : K) (m : ℕ) :
    (∀ c, cellInv d C cur x m c = 1 / entry d.perm m c) ∧ (∀ q, cellCoef d x m q = entry d.coef m q) := by
  constructor
  · intro c; simp [cellInv, hm, invProp, hC, C19.ste]
  · intro q; simp [cellCoef, hm]

/-- full tensors, discrete: the inverse of the selected material's tensor -/
theorem C18_discrete_material_full (d : Dev K) (hm : d.mode = Mode.disc) (cur : ℕ → K) (x : K) (m c : ℕ) :
    cellInv d 9 cur x m c = inv3 (fun c' => entry d.perm m c') c := by
  simp [cellInv, hm, invProp, C19.ste]

/-- the material index produced by the `ClosestIndex` chain is a valid row of the table -/
theorem C18_discrete_index_range {α : Type} [Sub α] [Div α] [LT α] [DecidableLT α] [OfNat α 1] [OfNat α 2]
    (floorI : α → ℤ) (cast : ℤ → α) (n : ℕ) (hn : 0 < n) (x : α) :
    (chainOut floorI cast (Chain.closest n) x).2 < n := by
  simp only [chainOut, C19.closestRound, C19.clipI]
  omega

/-- continuous coefficients: the linear blend of the two materials' coefficient rows -/
theorem C18_continuous_coef (d : Dev K) (hm : d.mode ≠ Mode.disc) (x : K) (m q : ℕ) :
    cellCoef d x m q = (1 - x) * entry d.coef 0 q + x * entry d.coef 1 q := by
  cases h : d.mode <;> simp_all [cellCoef]

section ordered
variable [LinearOrder K] [IsStrictOrderedRing K]

theorem blend_mem {a b x : K} (hab : a ≤ b) (hx0 : 0 ≤ x) (hx1 : x ≤ 1) :
    a ≤ a + x * (b - a) ∧ a + x * (b - a) ≤ b := by
  have hd : 0 ≤ b - a := sub_nonneg.mpr hab
  exact ⟨le_add_of_nonneg_right (mul_nonneg hx0 hd), le_sub_iff_add_le'.mp (mul_le_of_le_one_left hd hx1)⟩

/-- the inverse of a convex combination of two positive numbers lies between their inverses -/
theorem C18_continuous_range (e0 e1 x : K) (h0 : 0 < e0) (h1 : 0 < e1) (hx0 : 0 ≤ x) (hx1 : x ≤ 1) :
    min (1 / e0) (1 / e1) ≤ 1 / (e0 + x * (e1 - e0)) ∧ 1 / (e0 + x * (e1 - e0)) ≤ max (1 / e0) (1 / e1) := by
  -- the blend from `e1` towards `e0` by `1 - x` is the same number
  wlog h : e0 ≤ e1 generalizing e0 e1 x
  · have := this e1 e0 (1 - x) h1 h0 (sub_nonneg.mpr hx1) (sub_le_self 1 hx0) (le_of_not_ge h)
    rwa [min_comm, max_comm, show e1 + (1 - x) * (e0 - e1) = e0 + x * (e1 - e0) by ring] at this
  obtain ⟨hb0, hb1⟩ := blend_mem h hx0 hx1
  exact ⟨(min_le_right _ _).trans (one_div_le_one_div_of_le (h0.trans_le hb0) hb1),
    (one_div_le_one_div_of_le h0 hb0).trans (le_max_left _ _)⟩

example : (0 : ℚ) < 2 ∧ (0 : ℚ) < 5 ∧ (0 : ℚ) ≤ 1 / 3 ∧ (1 / 3 : ℚ) ≤ 1 := by norm_num

/-- etched cell: x = 0 leaves the cell as it is, x = 1 gives the etch material, otherwise in between -/
theorem C18_etch_endpoints (cur e0 x : K) (hc : 0 < cur) (h0 : 0 < e0) :
    1 / (1 / cur + 0 * (e0 - 1 / cur)) = cur ∧
    1 / (1 / cur + 1 * (e0 - 1 / cur)) = 1 / e0 ∧
    (0 ≤ x → x ≤ 1 →
      min cur (1 / e0) ≤ 1 / (1 / cur + x * (e0 - 1 / cur)) ∧
      1 / (1 / cur + x * (e0 - 1 / cur)) ≤ max cur (1 / e0)) := by
  refine ⟨by rw [zero_mul, add_zero, one_div_one_div], by congr 1; ring, ?_⟩
  intro hx0 hx1
  have hpos : 0 < 1 / cur := one_div_pos.mpr hc
  have := C18_continuous_range (1 / cur) e0 x hpos h0 hx0 hx1
  rwa [one_div_one_div] at this

end ordered

/-! ### history independence -/

/-- only an etched device reads the current value of its cells -/
theorem cellInv_congr (d : Dev K) (C : ℕ) {cur cur' : ℕ → K} (h : d.mode = Mode.etch → cur = cur') (x : K) (m : ℕ) :
    cellInv d C cur x m = cellInv d C cur' x m := by
  cases hm : d.mode with
  | cont => simp only [cellInv, hm]
  | etch => rw [h hm]
  | disc => simp only [cellInv, hm]

/-- at each cell the loop result depends only on the coefficients there if no device covers the cell, and on the inverse
permittivities there if no device or an etched device covers it -/
theorem applyLoop_congr (C i j k : ℕ) : ∀ (devs : List (Dev K)) X (s s' : State K),
    ((∀ d ∈ devs, inSlice d i j k = false) ∨ (∃ d ∈ devs, inSlice d i j k = true ∧ d.mode = Mode.etch) →
      ∀ c, s.inv c i j k = s'.inv c i j k) →
    ((∀ d ∈ devs, inSlice d i j k = false) → ∀ q, s.coef q i j k = s'.coef q i j k) →
    (∀ c, (applyLoop C devs X s).inv c i j k = (applyLoop C devs X s').inv c i j k) ∧
    (∀ q, (applyLoop C devs X s).coef q i j k = (applyLoop C devs X s').coef q i j k) := by
  intro devs
  induction devs with
  | nil => exact fun X s s' hi hc => ⟨hi (.inl (by simp)), hc (by simp)⟩
  | cons d ds ih =>
    intro X s s' hi hc
    simp only [applyLoop]
    by_cases hd : inSlice d i j k = true
    · refine ih _ _ _ (fun _ c => ?_) (fun _ q => ?_)
      · simp only [applyDevice, hd, if_true]
        rw [cellInv_congr d C fun he => funext (hi (.inr ⟨d, List.mem_cons_self, hd, he⟩))]
      · simp only [applyDevice, hd, if_true]
    · rw [Bool.not_eq_true] at hd
      refine ih _ _ _ (fun h c => ?_) (fun h q => ?_)
      · simp only [applyDevice, hd]
        exact hi (h.imp (fun hout => List.forall_mem_cons.mpr ⟨hd, hout⟩)
          fun ⟨d', hm, hin, he⟩ => ⟨d', List.mem_cons_of_mem _ hm, hin, he⟩) c
      · simp only [applyDevice, hd]
        exact hc (List.forall_mem_cons.mpr ⟨hd, h⟩) q

theorem State.ext' (a b : State K) (h1 : a.inv = b.inv) (h2 : a.init = b.init) (h3 : a.coef = b.coef) : a = b := by
  cases a; cases b; simp_all

/-- applying a second parameter set forgets the first one: the backup makes etched devices history-free, and
without etched devices (no backup is needed) every device cell is overwritten.  `place_objects` creates the
backup exactly when some device is etched, so the hypothesis always holds for its arrays. -/
theorem C18_history (C : ℕ) (devs : List (Dev K)) X₁ X₂ (s : State K)
    (h : s.init.isSome ∨ ∀ d ∈ devs, d.mode ≠ Mode.etch) :
    applyParams C devs X₂ (applyParams C devs X₁ s) = applyParams C devs X₂ s := by
  have hinit : (applyParams C devs X₁ s).init = s.init := applyParams_init C devs X₁ s
  have key := fun i j k => applyLoop_congr C i j k devs X₂ (resetInv (applyParams C devs X₁ s)) (resetInv s)
    (fun hcell c => by
      cases hs : s.init with
      | some I => rw [resetInv_some (hinit.trans hs), resetInv_some hs]
      | none =>
        rcases hcell with hout | ⟨d, hd, _, he⟩
        · rw [resetInv_none (hinit.trans hs), resetInv_none hs]
          exact (C18_outside_unchanged C devs X₁ s i j k hout).2.2.1 hs c
        · exact absurd he (h.resolve_left (by simp [hs]) d hd))
    (fun hout q => by
      rw [resetInv_coef, resetInv_coef]
      exact (C18_outside_unchanged C devs X₁ s i j k hout).2.1 q)
  refine State.ext' _ _ ?_ (by rw [applyParams_init, applyParams_init, applyParams_init]) ?_
  · funext c i j k
    exact (key i j k).1 c
  · funext q i j k
    exact (key i j k).2 q

example : (⟨fun _ _ _ _ => (1 : ℚ), some (fun _ _ _ _ => 1), fun _ _ _ _ => 0⟩ : State ℚ).init.isSome = true := rfl

/-- a whole history of parameter sets -/
def applyHistory (C : ℕ) (devs : List (Dev K)) :
    List (ℕ → ℕ → ℕ → ℕ → K × ℕ) → State K → State K
  | [], s => s
  | X :: Xs, s => applyHistory C devs Xs (applyParams C devs X s)

/-- any non-empty history leaves the same materials as its last parameter set alone -/
theorem C18_history_any_length (C : ℕ) (devs : List (Dev K)) :
    ∀ (Xs : List (ℕ → ℕ → ℕ → ℕ → K × ℕ)) (X : ℕ → ℕ → ℕ → ℕ → K × ℕ) (s : State K),
    (s.init.isSome ∨ ∀ d ∈ devs, d.mode ≠ Mode.etch) →
    applyHistory C devs (Xs ++ [X]) s = applyParams C devs X s := by
  intro Xs
  induction Xs with
  | nil => intro X s _; simp [applyHistory]
  | cons Y Ys ih =>
    intro X s h
    simp only [List.cons_append, applyHistory]
    have h' : (applyParams C devs Y s).init.isSome ∨ ∀ d ∈ devs, d.mode ≠ Mode.etch := by
      rw [applyParams_init]; exact h
    rw [ih X _ h']
    exact C18_history C devs Y X s h

/-! ### known finding: etched devices and dispersive backgrounds

Not shown (and false for the code as found): "an etched device with x = 0 leaves its cells unmodified" for the
dispersive coefficient arrays.  The coefficient write does not look at the existing coefficients, so the etched
device replaces them by its own material's row whatever x is.  Machine-checked witness on the model (one cell,
one coefficient channel, existing coefficient 1, etch material non-dispersive = row [0], x = 0): -/

def etchWitnessDev : Dev ℚ :=
  { lo := (0, 0, 0), hi := (1, 1, 1), v := (1, 1, 1), mode := Mode.etch, chain := Chain.ident,
    perm := [[1]], coef := [[0]] }

example :
    let s : State ℚ := ⟨fun _ _ _ _ => 1 / 4, some (fun _ _ _ _ => 1 / 4), fun _ _ _ _ => 1⟩
    let s' := applyParams 1 [etchWitnessDev] (fun _ _ _ _ => (0, 0)) s
    s'.inv 0 0 0 0 = s.inv 0 0 0 0 ∧ s'.coef 0 0 0 0 = 0 ∧ s.coef 0 0 0 0 = 1 := by
  decide +kernel

/-! ### expand_matrix -/

theorem repeatList_cons {β : Type} (a : β) (l : List β) (n : ℕ) :
    repeatList (a :: l) n = List.replicate n a ++ repeatList l n := rfl

/-- `jnp.repeat(l, n)[i] = l[i // n]` -/
theorem C18_repeat_index {β : Type} (n : ℕ) (hn : 0 < n) : ∀ (l : List β) (i : ℕ),
    (repeatList l n)[i]? = l[i / n]? := by
  intro l
  induction l with
  | nil => intro i; simp [repeatList]
  | cons a l ih =>
    intro i
    rw [repeatList_cons]
    by_cases hi : i < n
    · rw [List.getElem?_append_left (by simpa using hi), Nat.div_eq_of_lt hi]
      simp [hi]
    · have hge : n ≤ i := Nat.le_of_not_lt hi
      rw [List.getElem?_append_right (by simpa using hge), List.length_replicate, ih (i - n),
        Nat.div_eq_sub_div hn hge]
      simp

theorem C18_repeat_length {β : Type} (n : ℕ) (l : List β) : (repeatList l n).length = l.length * n := by
  induction l with
  | nil => simp [repeatList]
  | cons a l ih => rw [repeatList_cons, List.length_append, ih, List.length_replicate, List.length_cons, Nat.succ_mul,
      Nat.add_comm]

/-! ### full tensors -/

/-- determinant of the row-major 3×3 matrix `f` -/
def det3 (f : ℕ → K) : K :=
  f 0 * (f 4 * f 8 - f 5 * f 7) - f 1 * (f 3 * f 8 - f 5 * f 6) + f 2 * (f 3 * f 7 - f 4 * f 6)

theorem inv3_0 (f : ℕ → K) : inv3 f 0 = (f 4 * f 8 - f 5 * f 7) / det3 f := rfl
theorem inv3_1 (f : ℕ → K) : inv3 f 1 = (f 2 * f 7 - f 1 * f 8) / det3 f := rfl
theorem inv3_2 (f : ℕ → K) : inv3 f 2 = (f 1 * f 5 - f 2 * f 4) / det3 f := rfl
theorem inv3_3 (f : ℕ → K) : inv3 f 3 = (f 5 * f 6 - f 3 * f 8) / det3 f := rfl
theorem inv3_4 (f : ℕ → K) : inv3 f 4 = (f 0 * f 8 - f 2 * f 6) / det3 f := rfl
theorem inv3_5 (f : ℕ → K) : inv3 f 5 = (f 2 * f 3 - f 0 * f 5) / det3 f := rfl
theorem inv3_6 (f : ℕ → K) : inv3 f 6 = (f 3 * f 7 - f 4 * f 6) / det3 f := rfl
theorem inv3_7 (f : ℕ → K) : inv3 f 7 = (f 1 * f 6 - f 0 * f 7) / det3 f := rfl
theorem inv3_8 (f : ℕ → K) : inv3 f 8 = (f 0 * f 4 - f 1 * f 3) / det3 f := rfl

/-- the adjugate formula is a left inverse: Σ_k inv3(f)[3r+k] · f[3k+c] = δ_rc when det ≠ 0 -/
theorem C18_inv3_left (f : ℕ → K) (hdet : det3 f ≠ 0) :
    ∀ r c, r < 3 → c < 3 →
      inv3 f (3 * r) * f c + inv3 f (3 * r + 1) * f (3 + c) + inv3 f (3 * r + 2) * f (6 + c)
        = if r = c then 1 else 0 := by
  intro r c hr hc
  -- over the common denominator: adj(f) · f = det(f) · 1, entry by entry
  interval_cases r <;> interval_cases c <;>
    simp only [Nat.reduceMul, Nat.reduceAdd, Nat.reduceEqDiff, if_true, if_false,
      inv3_0, inv3_1, inv3_2, inv3_3, inv3_4, inv3_5, inv3_6, inv3_7, inv3_8, div_mul_eq_mul_div, ← add_div] <;>
    rw [div_eq_iff hdet] <;> unfold det3 <;> ring

example : det3 (fun n => if n = 0 ∨ n = 4 ∨ n = 8 then (2 : ℚ) else 0) ≠ 0 := by
  decide +kernel

end Fdtdx.C18
