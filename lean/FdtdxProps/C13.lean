/-
C13 — Plane sources radiate only in their stated direction (partial by nature).

Over any commutative ring, for every line length, plane position, metric, media along the propagation axis, both
polarisation pairs q = ±1 and any Courant number, the TFSF injection of `FdtdxModel/C13.lean` is exact in the 1-D
reduction of the Yee step to transversally uniform fields: if the incident pair satisfies the discrete 1-D Yee equations
on the total-field side, a line that carries the incident wave there and nothing on the scattered side does so again
after every step (`tfsf_exact_side` for a plane of either sign; `C13_tfsf_exact_1d…` are the two directions), so the
field behind the source is identically zero.  `C13_sign`, `C13_inject_is_line` tie the face injection of the code to
the 1-D source terms; `C13_yee_reduces_to_line`, `C13_tfsf_exact_3d` carry the statement to the shared 3-D Yee model.

NOT proved (→ partial): the sampled analytic profile (`temporal_profile.get_amplitude` at the Yee time offsets) satisfies
the discrete equations only up to numerical dispersion; that is where the 1e-3 (and the 10 % for a Gaussian beam, which is
not transversally uniform) of the property come from. Those numbers are evaluated on the real code by the oracle of
harness/c13.py with the thresholds of the property.
-/
import FdtdxModel.C13
import Mathlib.Tactic.Ring
import Mathlib.Algebra.Field.Basic
import Mathlib.Tactic.LinearCombination
import Mathlib.Tactic.NormNum

namespace Fdtdx.C13
open Fdtdx Fdtdx.Yee

section
variable {K : Type} [CommRing K]

/-- the incident pair satisfies the discrete 1-D Yee equations (the same halo, metric and media as the line) at the cells
selected by `pe` (E equation) and `ph` (H equation) -/
structure Incident (n : Nat) (q c : K) (sf sb ie im : Nat → K) (einc hinc : Nat → Nat → K)
    (pe ph : Nat → Prop) : Prop where
  eqE : ∀ t k, pe k → einc (t + 1) k
      = lineStepE n q c sb ie (fun _ => 0) (einc t) (hinc t) k
  eqH : ∀ t k, ph k → hinc (t + 1) k
      = lineStepH n q c sf im (fun _ => 0) (einc (t + 1)) (hinc t) k

/-- state of a "+" source: total field in front of the plane, nothing behind -/
def plusState (k0 : Nat) (e h : Nat → K) : (Nat → K) × (Nat → K) :=
  (fun k => if k0 < k then e k else 0, fun k => if k0 ≤ k then h k else 0)

/-- state of a "-" source -/
def minusState (k0 : Nat) (e h : Nat → K) : (Nat → K) × (Nat → K) :=
  (fun k => if k ≤ k0 then e k else 0, fun k => if k < k0 then h k else 0)

/-- without wrap padding the halo of the line is zero -/
private theorem prev1_nowrap (n : Nat) (b : AxisBC K) (hw : b.wrap = false) (g : Nat → K) (k : Nat) :
    prev1 n b g k = if k = 0 then 0 else g (k - 1) := by
  simp [prev1, hw]

private theorem next1_nowrap (n : Nat) (b : AxisBC K) (hw : b.wrap = false) (g : Nat → K) (k : Nat) :
    next1 n b g k = if k + 1 < n then g (k + 1) else 0 := by
  simp [next1, hw]

/-! ### exactness for a plane between two sides

`pe` / `ph` are the E / H cells of the total-field side.  Both directions are the same argument: every stencil of the
line stays on one side, except that E cell `k0` and H cell `k0` lie on different sides, and the source term of sign `s`
supplies exactly the neighbour the stencil misses there. -/
section side
variable (pe ph : Nat → Prop) [DecidablePred pe] [DecidablePred ph]

private theorem prev1_side (hEH : ∀ k, pe (k + 1) ↔ ph k) (n : Nat) (h : Nat → K) (k : Nat) :
    prev1 n (zeroBC : AxisBC K) (fun k => if ph k then h k else 0) k
      = if pe k then prev1 n (zeroBC : AxisBC K) h k else 0 := by
  cases k with
  | zero => simp [prev1_nowrap (K := K) n zeroBC rfl]
  | succ k => simp [prev1_nowrap (K := K) n zeroBC rfl, hEH]

private theorem next1_side (hEH : ∀ k, pe (k + 1) ↔ ph k) (n : Nat) (e : Nat → K) (k : Nat) :
    next1 n (zeroBC : AxisBC K) (fun k => if pe k then e k else 0) k
      = if ph k then next1 n (zeroBC : AxisBC K) e k else 0 := by
  simp only [next1_nowrap (K := K) n zeroBC rfl, hEH]
  split_ifs <;> rfl

/-- E cell `k + 1` and H cell `k` are on the same side, so are E cell `k` and H cell `k` except at the plane, where
exactly one of them is on the total-field side: H for `s = 1`, E for `s = -1`.  Then, for any fields, the half step with
the source term of a state confined to the side is the source-free half step, confined again. -/
private theorem lineStepE_side (n k0 : Nat) (q s c : K) (sb ie e h : Nat → K)
    (hEH : ∀ k, pe (k + 1) ↔ ph k) (hne : ∀ k, k ≠ k0 → (pe k ↔ ph k))
    (h0 : (ph k0 ∧ ¬ pe k0 ∧ s = 1) ∨ (pe k0 ∧ ¬ ph k0 ∧ s = -1)) :
    lineStepE n q c sb ie (lineJE k0 q s c sb ie (h k0))
        (fun k => if pe k then e k else 0) (fun k => if ph k then h k else 0)
      = fun k => if pe k then lineStepE n q c sb ie (fun _ => 0) e h k else 0 := by
  funext k
  simp only [lineStepE, prev1_side pe ph hEH, lineJE]
  by_cases hk : k = k0
  · subst hk
    rcases h0 with ⟨hh, he, rfl⟩ | ⟨he, hh, rfl⟩
    · simp only [if_pos hh, if_neg he, if_true]
      ring
    · simp only [if_pos he, if_neg hh, if_true]
      ring
  · have hs := hne k hk
    by_cases he : pe k
    · simp only [if_pos he, if_pos (hs.1 he), if_neg hk]
    · simp only [if_neg he, if_neg (mt hs.2 he), if_neg hk]
      ring

private theorem lineStepH_side (n k0 : Nat) (q s c : K) (sf im e' h : Nat → K)
    (hEH : ∀ k, pe (k + 1) ↔ ph k) (hne : ∀ k, k ≠ k0 → (pe k ↔ ph k))
    (h0 : (ph k0 ∧ ¬ pe k0 ∧ s = 1) ∨ (pe k0 ∧ ¬ ph k0 ∧ s = -1)) :
    lineStepH n q c sf im (lineJH k0 q s c sf im (e' k0))
        (fun k => if pe k then e' k else 0) (fun k => if ph k then h k else 0)
      = fun k => if ph k then lineStepH n q c sf im (fun _ => 0) e' h k else 0 := by
  funext k
  simp only [lineStepH, next1_side pe ph hEH, lineJH]
  by_cases hk : k = k0
  · subst hk
    rcases h0 with ⟨hh, he, rfl⟩ | ⟨he, hh, rfl⟩
    · simp only [if_pos hh, if_neg he, if_true]
      ring
    · simp only [if_pos he, if_neg hh, if_true]
      ring
  · have hs := hne k hk
    by_cases hh : ph k
    · simp only [if_pos hh, if_pos (hs.2 hh), if_neg hk]
    · simp only [if_neg hh, if_neg (mt hs.1 hh), if_neg hk]
      ring

/-- the incident pair enters only here: on the side it turns the source-free half steps into the next incident values. -/
theorem tfsf_exact_side (n k0 : Nat) (q s c : K) (sf sb ie im : Nat → K) (einc hinc : Nat → Nat → K)
    (hEH : ∀ k, pe (k + 1) ↔ ph k) (hne : ∀ k, k ≠ k0 → (pe k ↔ ph k))
    (h0 : (ph k0 ∧ ¬ pe k0 ∧ s = 1) ∨ (pe k0 ∧ ¬ ph k0 ∧ s = -1))
    (hi : Incident n q c sf sb ie im einc hinc pe ph) (t : Nat) :
    lineStep n k0 q s c sf sb ie im (hinc t k0) (einc (t + 1) k0)
        (fun k => if pe k then einc t k else 0) (fun k => if ph k then hinc t k else 0)
      = (fun k => if pe k then einc (t + 1) k else 0, fun k => if ph k then hinc (t + 1) k else 0) := by
  have confine : ∀ (p : Nat → Prop) [DecidablePred p] (f g : Nat → K), (∀ k, p k → f k = g k) →
      (fun k => if p k then f k else 0) = fun k => if p k then g k else 0 :=
    fun p _ f g h => funext fun k => ite_congr rfl (h k) fun _ => rfl
  unfold lineStep
  simp only []
  rw [lineStepE_side pe ph n k0 q s c sb ie _ _ hEH hne h0, confine pe _ _ fun k hk => (hi.eqE t k hk).symm,
    lineStepH_side pe ph n k0 q s c sf im _ _ hEH hne h0, confine ph _ _ fun k hk => (hi.eqH t k hk).symm]

end side

theorem C13_tfsf_exact_1d (n k0 : Nat) (q c : K) (sf sb ie im : Nat → K)
    (einc hinc : Nat → Nat → K)
    (hi : Incident n q c sf sb ie im einc hinc (fun k => k0 < k) (fun k => k0 ≤ k)) (t : Nat) :
    lineStep n k0 q 1 c sf sb ie im (hinc t k0) (einc (t + 1) k0)
        (plusState k0 (einc t) (hinc t)).1 (plusState k0 (einc t) (hinc t)).2
      = plusState k0 (einc (t + 1)) (hinc (t + 1)) :=
  tfsf_exact_side (fun k => k0 < k) (fun k => k0 ≤ k) n k0 q 1 c sf sb ie im einc hinc (fun _ => Nat.lt_succ_iff) (fun k hk => by omega)
    (.inl ⟨le_refl k0, lt_irrefl k0, rfl⟩) hi t

theorem C13_tfsf_exact_1d_minus (n k0 : Nat) (q c : K) (sf sb ie im : Nat → K)
    (einc hinc : Nat → Nat → K)
    (hi : Incident n q c sf sb ie im einc hinc (fun k => k ≤ k0) (fun k => k < k0)) (t : Nat) :
    lineStep n k0 q (-1) c sf sb ie im (hinc t k0) (einc (t + 1) k0)
        (minusState k0 (einc t) (hinc t)).1 (minusState k0 (einc t) (hinc t)).2
      = minusState k0 (einc (t + 1)) (hinc (t + 1)) :=
  tfsf_exact_side (fun k => k ≤ k0) (fun k => k < k0) n k0 q (-1) c sf sb ie im einc hinc (fun _ => Nat.succ_le_iff) (fun k hk => by omega)
    (.inr ⟨le_refl k0, lt_irrefl k0, rfl⟩) hi t

/-- a run of the line: step `u` injects the incident H of the plane's cell at step `u` and the incident E at step `u+1` -/
def lineRun (n k0 : Nat) (q s c : K) (sf sb ie im : Nat → K) (einc hinc : Nat → Nat → K) :
    Nat → (Nat → K) × (Nat → K) → (Nat → K) × (Nat → K)
  | 0, st => st
  | t + 1, st =>
    let st' := lineRun n k0 q s c sf sb ie im einc hinc t st
    lineStep n k0 q s c sf sb ie im (hinc t k0) (einc (t + 1) k0) st'.1 st'.2

/-- a family of states that each step maps to its successor is what the run produces -/
theorem lineRun_eq (n k0 : Nat) (q s c : K) (sf sb ie im : Nat → K) (einc hinc : Nat → Nat → K)
    (S : Nat → (Nat → K) × (Nat → K))
    (hS : ∀ t, lineStep n k0 q s c sf sb ie im (hinc t k0) (einc (t + 1) k0) (S t).1 (S t).2 = S (t + 1)) (t : Nat) :
    lineRun n k0 q s c sf sb ie im einc hinc t (S 0) = S t := by
  induction t with
  | zero => rfl
  | succ t ih =>
    simp only [lineRun, ih]
    exact hS t

/-- after any number of steps the line carries exactly the incident wave in front of a "+"
source and NOTHING behind it. -/
theorem C13_tfsf_exact_1d_steps (n k0 : Nat) (q c : K) (sf sb ie im : Nat → K) (einc hinc : Nat → Nat → K)
    (hi : Incident n q c sf sb ie im einc hinc (fun k => k0 < k) (fun k => k0 ≤ k)) (t : Nat) :
    lineRun n k0 q 1 c sf sb ie im einc hinc t (plusState k0 (einc 0) (hinc 0)) = plusState k0 (einc t) (hinc t) :=
  lineRun_eq n k0 q 1 c sf sb ie im einc hinc (fun t => plusState k0 (einc t) (hinc t))
    (C13_tfsf_exact_1d n k0 q c sf sb ie im einc hinc hi) t

/-- the scattered-field side of a "+" source is identically zero at every step: no backward radiation -/
theorem C13_no_backward_field (n k0 : Nat) (q c : K) (sf sb ie im : Nat → K) (einc hinc : Nat → Nat → K)
    (hi : Incident n q c sf sb ie im einc hinc (fun k => k0 < k) (fun k => k0 ≤ k)) (t k : Nat) :
    (k ≤ k0 → (lineRun n k0 q 1 c sf sb ie im einc hinc t (plusState k0 (einc 0) (hinc 0))).1 k = 0)
    ∧ (k < k0 → (lineRun n k0 q 1 c sf sb ie im einc hinc t (plusState k0 (einc 0) (hinc 0))).2 k = 0) := by
  rw [C13_tfsf_exact_1d_steps n k0 q c sf sb ie im einc hinc hi t]
  exact ⟨fun h => if_neg (Nat.not_lt.2 h), fun h => if_neg (Nat.not_le.2 h)⟩

theorem C13_tfsf_exact_1d_minus_steps (n k0 : Nat) (q c : K) (sf sb ie im : Nat → K) (einc hinc : Nat → Nat → K)
    (hi : Incident n q c sf sb ie im einc hinc (fun k => k ≤ k0) (fun k => k < k0)) (t : Nat) :
    lineRun n k0 q (-1) c sf sb ie im einc hinc t (minusState k0 (einc 0) (hinc 0))
      = minusState k0 (einc t) (hinc t) :=
  lineRun_eq n k0 q (-1) c sf sb ie im einc hinc (fun t => minusState k0 (einc t) (hinc t))
    (C13_tfsf_exact_1d_minus n k0 q c sf sb ie im einc hinc hi) t

/-! ### the face injection of the code is the line injection, for every axis, direction and polarisation pair -/

/-- sign convention of `update_E/update_H` -/
theorem C13_sign (dirPlus inverse : Bool) :
    (planeSign dirPlus inverse : K) = (if dirPlus then 1 else -1) * (if inverse then -1 else 1) := by
  cases dirPlus <;> cases inverse <;> simp [planeSign]

/-- the oriented transverse axes are the cyclic successors: (y,z), (z,x), (x,y) -/
theorem C13_oriented_axes : orientedAxes 0 = (1, 2) ∧ orientedAxes 1 = (2, 0) ∧ orientedAxes 2 = (0, 1) := by decide

/-- for every normal axis the increments of `_tfsf_inject_E_face/_H_face` at a cell of the plane
are the 1-D source terms: the pair (E_a, H_b) with q = +1 and the pair (E_b, H_a) with q = −1, and nothing on the
normal component. (`c·sb`, `c·sf` are what `update_E/update_H` pass as `c`.) -/
theorem C13_inject_is_line (normal : Nat) (hn : normal < 3) (s c : K) (incE incH ampE ampH ie im : Nat → K)
    (k0 : Nat) (sf sb : Nat → K) :
    let a := (orientedAxes normal).1
    let b := (orientedAxes normal).2
    injectE normal s incH ampH ie (c * sb k0) a = lineJE k0 1 s c sb (fun _ => ie a) (incH b * ampH b) k0
    ∧ injectH normal s incE ampE im (c * sf k0) b = lineJH k0 1 s c sf (fun _ => im b) (incE a * ampE a) k0
    ∧ injectE normal s incH ampH ie (c * sb k0) b = lineJE k0 (-1) s c sb (fun _ => ie b) (incH a * ampH a) k0
    ∧ injectH normal s incE ampE im (c * sf k0) a = lineJH k0 (-1) s c sf (fun _ => im a) (incE b * ampE b) k0
    ∧ injectE normal s incH ampH ie (c * sb k0) normal = 0
    ∧ injectH normal s incE ampE im (c * sf k0) normal = 0 := by
  have h : normal = 0 ∨ normal = 1 ∨ normal = 2 := by omega
  rcases h with h | h | h <;> subst h <;>
    simp [injectE, injectH, lineJE, lineJH, orientedAxes]

end

/-! ### 3-D reduction: transversally uniform fields of the shared Yee model evolve by the line model -/
section reduction
variable {K : Type} [Field K]

/-- a vector field that is constant along x and y, with no z component -/
def lift (fx fy : Nat → K) : V3 K := ⟨fun _ _ k => fx k, fun _ _ k => fy k, fun _ _ _ => 0⟩

/-- the scene of the property, propagation along z: periodic in x and y (wrap halo, ghost multipliers 1), constant
(zero) halo along z (none / PML faces), no PEC/PMC walls -/
structure Periodic2D (cf : Cfg K) : Prop where
  xw : cf.bx.wrap = true
  xp : cf.bx.pp = 1
  xm : cf.bx.pm = 1
  yw : cf.by_.wrap = true
  yp : cf.by_.pp = 1
  ym : cf.by_.pm = 1
  zw : cf.bz.wrap = false
  x1 : cf.bx.pecLo = false
  x2 : cf.bx.pecHi = false
  x3 : cf.bx.pmcLo = false
  x4 : cf.bx.pmcHi = false
  y1 : cf.by_.pecLo = false
  y2 : cf.by_.pecHi = false
  y3 : cf.by_.pmcLo = false
  y4 : cf.by_.pmcHi = false
  z1 : cf.bz.pecLo = false
  z2 : cf.bz.pecHi = false
  z3 : cf.bz.pmcLo = false
  z4 : cf.bz.pmcHi = false

private theorem next1_const (n : Nat) (b : AxisBC K) (hw : b.wrap = true) (hp : b.pp = 1) (v : K) (i : Nat) :
    next1 n b (fun _ => v) i = v := by
  unfold next1; split_ifs <;> simp [hp]

private theorem prev1_const (n : Nat) (b : AxisBC K) (hw : b.wrap = true) (hp : b.pm = 1) (v : K) (i : Nat) :
    prev1 n b (fun _ => v) i = v := by
  unfold prev1; split_ifs <;> simp [hp]

private theorem pecMask_off (cf : Cfg K) (h : Periodic2D cf) (comp i j k : Nat) : pecMask cf comp i j k = false := by
  simp [pecMask, onWall, h.x1, h.x2, h.y1, h.y2, h.z1, h.z2]

private theorem pmcMask_off (cf : Cfg K) (h : Periodic2D cf) (comp i j k : Nat) : pmcMask cf comp i j k = false := by
  simp [pmcMask, onWall, h.x3, h.x4, h.y3, h.y4, h.z3, h.z4]

/-- the E half step: uniform fields stay uniform, the pair (E_x, H_y) evolves by the line model with q = +1, the pair
(E_y, H_x) with q = −1, E_z stays 0 -/
theorem stepE_lift (cf : Cfg K) (h : Periodic2D cf) (iex iey : Nat → K) (iez : F3 K) (invMu : V3 K)
    (jex jey ex ey hx hy : Nat → K) :
    stepE cf ⟨⟨fun _ _ k => iex k, fun _ _ k => iey k, iez⟩, invMu, none, none⟩ (lift jex jey) (lift ex ey) (lift hx hy)
      = lift (lineStepE cf.nz 1 cf.c cf.sbz iex jex ex hy) (lineStepE cf.nz (-1) cf.c cf.sbz iey jey ey hx) := by
  unfold stepE projE maskV
  simp only [pecMask_off cf h, Bool.false_eq_true, if_false, addV, lift, curlH, updE1, optAt, Option.map_none,
    prev1_const _ _ h.xw h.xm, prev1_const _ _ h.yw h.ym, lineStepE, prev1_nowrap _ _ h.zw, prev1_nowrap (K := K) _ zeroBC rfl]
  congr 1 <;> funext i j k <;> ring

theorem stepH_lift (cf : Cfg K) (h : Periodic2D cf) (invEps : V3 K) (imx imy : Nat → K) (imz : F3 K)
    (jhx jhy ex ey hx hy : Nat → K) :
    stepH cf ⟨invEps, ⟨fun _ _ k => imx k, fun _ _ k => imy k, imz⟩, none, none⟩ (lift jhx jhy) (lift ex ey) (lift hx hy)
      = lift (lineStepH cf.nz (-1) cf.c cf.sfz imx jhx ey hx) (lineStepH cf.nz 1 cf.c cf.sfz imy jhy ex hy) := by
  unfold stepH projH maskV
  simp only [pmcMask_off cf h, Bool.false_eq_true, if_false, addV, lift, curlE, updH1, optAt, Option.map_none,
    next1_const _ _ h.xw h.xp, next1_const _ _ h.yw h.yp, lineStepH, next1_nowrap _ _ h.zw, next1_nowrap (K := K) _ zeroBC rfl]
  congr 1 <;> funext i j k <;> ring

/-- in the transversally periodic scene, fields that are constant along the two transverse
axes (and have no normal component) stay so under `forward` of the shared 3-D Yee model, and their two polarisation
pairs evolve by the 1-D line model of the exactness theorem — with any media profile along the axis, any metric, any
transversally uniform source terms (in particular the TFSF terms of a uniform plane source). -/
theorem C13_yee_reduces_to_line (cf : Cfg K) (h : Periodic2D cf) (iex iey imx imy : Nat → K) (iez imz : F3 K)
    (jex jey jhx jhy ex ey hx hy : Nat → K) :
    let ex' := lineStepE cf.nz 1 cf.c cf.sbz iex jex ex hy
    let ey' := lineStepE cf.nz (-1) cf.c cf.sbz iey jey ey hx
    forward cf ⟨⟨fun _ _ k => iex k, fun _ _ k => iey k, iez⟩, ⟨fun _ _ k => imx k, fun _ _ k => imy k, imz⟩, none, none⟩
        (lift jex jey) (lift jhx jhy) (lift ex ey) (lift hx hy)
      = (lift ex' ey',
         lift (lineStepH cf.nz (-1) cf.c cf.sfz imx jhx ey' hx) (lineStepH cf.nz 1 cf.c cf.sfz imy jhy ex' hy)) := by
  intro ex' ey'
  unfold forward
  simp only []
  rw [stepE_lift cf h, stepH_lift cf h]

/-- the exactness statement on the shared 3-D Yee model itself (propagation along z, direction
"+"; the other axes follow from the C08 equivariance of the model): transversally periodic scene, both polarisation
pairs driven by the TFSF terms of the plane at cell k0. If the two incident pairs satisfy the discrete 1-D equations, one
`forward` step maps "incident wave in front of the plane, zero behind" to the same state one step later. -/
theorem C13_tfsf_exact_3d (cf : Cfg K) (h : Periodic2D cf) (k0 : Nat) (iex iey imx imy : Nat → K) (iez imz : F3 K)
    (e1 h1 e2 h2 : Nat → Nat → K)
    (hi1 : Incident cf.nz 1 cf.c cf.sfz cf.sbz iex imy e1 h1 (fun k => k0 < k) (fun k => k0 ≤ k))
    (hi2 : Incident cf.nz (-1) cf.c cf.sfz cf.sbz iey imx e2 h2 (fun k => k0 < k) (fun k => k0 ≤ k)) (t : Nat) :
    forward cf ⟨⟨fun _ _ k => iex k, fun _ _ k => iey k, iez⟩, ⟨fun _ _ k => imx k, fun _ _ k => imy k, imz⟩, none, none⟩
        (lift (lineJE k0 1 1 cf.c cf.sbz iex (h1 t k0)) (lineJE k0 (-1) 1 cf.c cf.sbz iey (h2 t k0)))
        (lift (lineJH k0 (-1) 1 cf.c cf.sfz imx (e2 (t + 1) k0)) (lineJH k0 1 1 cf.c cf.sfz imy (e1 (t + 1) k0)))
        (lift (plusState k0 (e1 t) (h1 t)).1 (plusState k0 (e2 t) (h2 t)).1)
        (lift (plusState k0 (e2 t) (h2 t)).2 (plusState k0 (e1 t) (h1 t)).2)
      = (lift (plusState k0 (e1 (t + 1)) (h1 (t + 1))).1 (plusState k0 (e2 (t + 1)) (h2 (t + 1))).1,
         lift (plusState k0 (e2 (t + 1)) (h2 (t + 1))).2 (plusState k0 (e1 (t + 1)) (h1 (t + 1))).2) := by
  obtain ⟨A1, A2⟩ := Prod.ext_iff.1 (C13_tfsf_exact_1d cf.nz k0 1 cf.c cf.sfz cf.sbz iex imy e1 h1 hi1 t)
  obtain ⟨B1, B2⟩ := Prod.ext_iff.1 (C13_tfsf_exact_1d cf.nz k0 (-1) cf.c cf.sfz cf.sbz iey imx e2 h2 hi2 t)
  simp only [lineStep] at A1 A2 B1 B2
  rw [A1] at A2
  rw [B1] at B2
  refine (C13_yee_reduces_to_line cf h iex iey imx imy iez imz _ _ _ _ _ _ _ _).trans ?_
  simp only [A1, A2, B1, B2]

/-- non-vacuity of `Periodic2D`: a 3×4×9 box, periodic in x and y, zero halo along z, non-uniform metric along z -/
example : Periodic2D (K := ℚ)
    ⟨3, 4, 9, ⟨true, 1, 1, false, false, false, false⟩, ⟨true, 1, 1, false, false, false, false⟩,
      ⟨false, 1, 1, false, false, false, false⟩, fun _ => 1, fun _ => 1, fun k => 1 / (k + 1), fun _ => 1, fun _ => 1,
      fun k => 2 / (2 * k + 1), 1 / 2, 377⟩ := by
  constructor <;> rfl

end reduction

/-! ### non-vacuity -/

/-- every initial pair generates an incident wave satisfying the discrete equations everywhere: run the source-free line -/
def genInc (n : Nat) (q c : ℚ) (sf sb ie im : Nat → ℚ) (e0 h0 : Nat → ℚ) : Nat → (Nat → ℚ) × (Nat → ℚ)
  | 0 => (e0, h0)
  | t + 1 =>
    let st := genInc n q c sf sb ie im e0 h0 t
    let e' := lineStepE n q c sb ie (fun _ => 0) st.1 st.2
    (e', lineStepH n q c sf im (fun _ => 0) e' st.2)

example (n : Nat) (q c : ℚ) (sf sb ie im e0 h0 : Nat → ℚ) (pe ph : Nat → Prop) :
    Incident n q c sf sb ie im (fun t => (genInc n q c sf sb ie im e0 h0 t).1)
      (fun t => (genInc n q c sf sb ie im e0 h0 t).2) pe ph :=
  ⟨fun _ _ _ => rfl, fun _ _ _ => rfl⟩

/-- a concrete non-zero instance: 6 cells, plane at cell 2, a pulse sitting in front of the plane moves; behind the
plane the line stays empty while in front of it the field is not zero -/
example :
    let inc := genInc 6 1 (1 / 2) (fun _ => 1) (fun _ => 1) (fun _ => 1) (fun _ => 1)
      (fun k => if k = 3 then 1 else 0) (fun k => if k = 3 then 1 else 0)
    let st := lineRun 6 2 (1 : ℚ) 1 (1 / 2) (fun _ => 1) (fun _ => 1) (fun _ => 1) (fun _ => 1)
      (fun t => (inc t).1) (fun t => (inc t).2) 3 (plusState 2 (inc 0).1 (inc 0).2)
    st.1 0 = 0 ∧ st.1 1 = 0 ∧ st.1 2 = 0 ∧ st.2 0 = 0 ∧ st.2 1 = 0 ∧ st.2 2 ≠ 0 ∧ st.1 3 ≠ 0 := by
  intro inc st
  have hst : st = plusState 2 (inc 3).1 (inc 3).2 :=
    C13_tfsf_exact_1d_steps 6 2 1 (1 / 2) _ _ _ _ _ _ ⟨fun _ _ _ => rfl, fun _ _ _ => rfl⟩ 3
  rw [hst]
  refine ⟨rfl, rfl, rfl, rfl, rfl, ?_, ?_⟩ <;> decide +kernel

end Fdtdx.C13
