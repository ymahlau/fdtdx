/-
C33 with PML objects (CPML step `forwardP` of `FdtdxModel/Cpml.lean`): the PEC-mirror parity of the full-domain fields
survives in the window around the plane that no PML box meets — in particular with PML layers of thickness `th` on the
two far faces of the symmetric axis (the faces the plane does not cut) the fields are parity-symmetric on `m - th - n`
pairs after `n` steps, whatever the PML coefficients and auxiliary fields are.

Not shown here: equality of the reduced run (which carries the far-side PML only) with the upper half of the full run;
that clause stays with the implementation-side oracle of harness/c33.py.
-/
import FdtdxLemmas.C33Cpml
namespace Fdtdx.C33
open Fdtdx Fdtdx.Yee Fdtdx.Cpml

section
variable {K : Type} [Field K]
variable {cf : Cfg K} {m : Nat}

/-- **mirror_window_step_cpml**: the CPML time step `forwardP` (PML objects with their auxiliary fields, e.g. on the two
far faces of the symmetric axis — the faces the plane does not cut) keeps the PEC-mirror parity of the fields in a
window of `r` pairs around the plane that no PML box meets, shrinking it by one pair; the PML boxes stay where they
are.  Nothing is assumed about the PML coefficients or the auxiliary fields. -/
theorem mirror_window_step_cpml (hn : cf.nx = 2 * m) (r : Nat) (hr : r ≤ m) (hpec : r = m → cf.bx.pecHi = false)
    (mt : Mat K) (hx : XInv mt) (hmet : MetricSym cf m r) (jE jH E H : V3 K) (sim : Bool) (pmls : List (PmlSt K))
    (hc : Clear pmls m r)
    (sE : SymE m r E) (sH : SymH m r H) (sJE : SymE m r jE) (sJH : SymH m r jH) :
    SymE m (r - 1) (forwardP cf mt jE jH sim pmls E H).1 ∧ SymH m (r - 1) (forwardP cf mt jE jH sim pmls E H).2.1 ∧
      Clear (forwardP cf mt jE jH sim pmls E H).2.2 m r := by
  have hs : r - 1 ≤ r := Nat.sub_le r 1
  have h := forwardP_sym hn hr hs hpec hx hmet sim hc sE sH sJE sJH fun d hd => Or.inl (Nat.add_lt_of_lt_sub hd)
  exact ⟨h.1.mono hs, h.2, hc.forwardP⟩

/-- `n` CPML steps with the same additive source terms -/
def stepsP (cf : Cfg K) (mt : Mat K) (jE jH : V3 K) (sim : Bool) :
    Nat → V3 K × V3 K × List (PmlSt K) → V3 K × V3 K × List (PmlSt K)
  | 0, s => s
  | n + 1, s => forwardP cf mt jE jH sim (stepsP cf mt jE jH sim n s).2.2 (stepsP cf mt jE jH sim n s).1
      (stepsP cf mt jE jH sim n s).2.1

/-- **mirror_window_cpml**: all steps.  If no PML box meets the `r0` pairs around the plane (PML of thickness `th` on the
far faces: `r0 = m - th`), a parity-symmetric start stays parity-symmetric on `r0 - n` pairs after `n` CPML steps. -/
theorem mirror_window_cpml (hn : cf.nx = 2 * m) (r0 : Nat) (hr : r0 ≤ m) (hpec : r0 = m → cf.bx.pecHi = false)
    (mt : Mat K) (hx : XInv mt) (hmet : MetricSym cf m r0) (jE jH E H : V3 K) (sim : Bool) (pmls : List (PmlSt K))
    (hc : Clear pmls m r0)
    (sE : SymE m r0 E) (sH : SymH m r0 H) (sJE : SymE m r0 jE) (sJH : SymH m r0 jH) (n : Nat) :
    SymE m (r0 - n) (stepsP cf mt jE jH sim n (E, H, pmls)).1 ∧
      SymH m (r0 - n) (stepsP cf mt jE jH sim n (E, H, pmls)).2.1 ∧
      Clear (stepsP cf mt jE jH sim n (E, H, pmls)).2.2 m r0 := by
  induction n with
  | zero => exact ⟨sE, sH, hc⟩
  | succ n ih =>
    obtain ⟨s1, s2, c⟩ := ih
    have hrn : r0 - n ≤ r0 := Nat.sub_le r0 n
    have t := mirror_window_step_cpml hn (r0 - n) (hrn.trans hr) (fun e => hpec (by omega)) mt hx
      (hmet.mono hrn) jE jH _ _ sim _ (c.mono hrn) s1 s2 (sJE.mono hrn) (sJH.mono hrn)
    rw [Nat.sub_sub] at t
    exact ⟨t.1, t.2.1, c.forwardP⟩

end

/-! ### non-vacuity: one-cell PML boxes on both far x faces of the 4-cell axis leave the pair next to the plane clear -/
def exPml (lo hi : Nat) : PmlSt ℚ :=
  { p := { axis := 0, plus := lo = 0, box := ⟨lo, hi, 0, 2, 0, 2⟩, kappaDefault := true,
           aE := fun _ => 1 / 3, bE := fun _ => 1 / 2, ikE := fun _ => 1, aH := fun _ => 1 / 5, bH := fun _ => 1 / 2, ikH := fun _ => 1 },
    e1 := fun _ _ _ => 1, e2 := fun _ _ _ => 2, h1 := fun _ _ _ => 3, h2 := fun _ _ _ => 4 }

example : Clear [exPml 0 1, exPml 3 4] 2 1 := by
  intro st hs i j k a b
  simp only [List.mem_cons, List.mem_nil_iff, or_false] at hs
  rcases hs with rfl | rfl <;> simp [exPml, Box.mem] <;> omega

end Fdtdx.C33
