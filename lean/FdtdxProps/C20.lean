/-
C20 — Projection filters are bounded, monotone and well-behaved at the extremes.

Theorems about `FdtdxModel/C20.lean` over ℝ.  `th` is any function with the three facts used
(`TanhLike`: strictly monotone, `th 0 = 0`, odd); `Real.tanh` is one (`real_tanhLike`).  `isInf / isZero : ℝ → Bool`
are the two flags of the code (`jnp.isinf(beta)`, `beta == 0`); `isZero` is tied to `= 0` by hypothesis `hz`, `isInf`
is arbitrary (ℝ has no infinite element): "β = ∞" is the branch `isInf β = true`, and `isInf 1 = false` (`h1`) says
that the substituted safe value is finite.  In order: the guard of the formula branch, the three branches, range /
monotonicity / endpoints (`proj_cases`: a fact about the projection is a fact about clip, step and the formula), the
limit β → ∞, the smoothed projection (when it applies and why it has no singular operation), the derivative.

PARTIAL (float behaviour, K/S only): "finite gradients for β ∈ {0, ∞} in IEEE arithmetic" is a statement
about NaN/Inf propagation through `jnp.where` under automatic differentiation.  What is proved here are the
real-number reasons (C20_guard, C20_smooth_guards, C20_deriv_bound); the IEEE fact is checked by K on the
real code (jax.grad, binary64 and float32) for every case.
-/
import FdtdxModel.C20
import Mathlib.Analysis.SpecialFunctions.Trigonometric.DerivHyp
import Mathlib.Analysis.SpecialFunctions.Sqrt
import Mathlib.Analysis.SpecialFunctions.Exp
import Mathlib.Tactic.Linarith
import Mathlib.Tactic.Ring
import Mathlib.Tactic.FieldSimp
import Mathlib.Tactic.Positivity

namespace Fdtdx.C20

/-- the facts about `tanh` that the range / monotonicity / endpoint theorems use -/
structure TanhLike (th : ℝ → ℝ) : Prop where
  mono : StrictMono th
  zero : th 0 = 0
  odd : ∀ x, th (-x) = -th x

theorem real_tanh_strictMono : StrictMono Real.tanh := by
  intro x y hxy
  rw [Real.tanh_eq_sinh_div_cosh, Real.tanh_eq_sinh_div_cosh,
    div_lt_div_iff₀ (Real.cosh_pos x) (Real.cosh_pos y)]
  have h : 0 < Real.sinh (y - x) := Real.sinh_pos_iff.mpr (by linarith)
  rw [Real.sinh_sub] at h
  nlinarith [h]

theorem real_tanhLike : TanhLike Real.tanh :=
  ⟨real_tanh_strictMono, Real.tanh_zero, Real.tanh_neg⟩

section abstract
variable {th : ℝ → ℝ} (T : TanhLike th) {isInf isZero : ℝ → Bool}

include T in
theorem th_pos {x : ℝ} (hx : 0 < x) : 0 < th x := by
  rw [← T.zero]; exact T.mono hx

/-! ### the guard -/

include T in
theorem divisor_pos {b η : ℝ} (hb : 0 < b) (h0 : 0 ≤ η) (h1 : η ≤ 1) : 0 < divisor th b η := by
  unfold divisor
  rcases h0.eq_or_lt with rfl | h
  · rw [mul_zero, T.zero, zero_add, sub_zero, mul_one]
    exact th_pos T hb
  · exact add_pos_of_pos_of_nonneg (th_pos T (mul_pos hb h)) (T.zero.ge.trans (T.mono.monotone (mul_nonneg hb.le (sub_nonneg.mpr h1))))

theorem ne_zero_of_flag (hz : ∀ b, isZero b = true ↔ b = 0) {β : ℝ} (hzb : isZero β = false) : β ≠ 0 :=
  fun h => Bool.noConfusion (((hz β).mpr h).symm.trans hzb)

theorem pos_of_flag (hz : ∀ b, isZero b = true ↔ b = 0) {β : ℝ} (hβ : 0 ≤ β) (hzb : isZero β = false) : 0 < β :=
  hβ.lt_of_ne' (ne_zero_of_flag hz hzb)

theorem safeBeta_spec (hz : ∀ b, isZero b = true ↔ b = 0) (h1 : isInf 1 = false) (β : ℝ) :
    isInf (safeBeta isInf isZero β) = false ∧ safeBeta isInf isZero β ≠ 0 ∧
      (0 ≤ β → 0 < safeBeta isInf isZero β) := by
  unfold safeBeta
  by_cases h : (isInf β || isZero β) = true
  · rw [if_pos h]; exact ⟨h1, one_ne_zero, fun _ => one_pos⟩
  · rw [if_neg h]
    simp only [Bool.or_eq_true, not_or, Bool.not_eq_true] at h
    exact ⟨h.1, ne_zero_of_flag hz h.2, fun h0 => pos_of_flag hz h0 h.2⟩

include T in
/-- C20_guard: whatever β ≥ 0 is passed (0, finite, flagged infinite), the formula branch — which the
double `where` evaluates unconditionally — is computed with a finite positive `safe_beta` and a positive divisor. -/
theorem C20_guard (hz : ∀ b, isZero b = true ↔ b = 0) (h1 : isInf 1 = false)
    {β η : ℝ} (hβ : 0 ≤ β) (h0 : 0 ≤ η) (h1' : η ≤ 1) :
    isInf (safeBeta isInf isZero β) = false ∧ 0 < safeBeta isInf isZero β ∧
      0 < divisor th (safeBeta isInf isZero β) η := by
  obtain ⟨a, _, c⟩ := safeBeta_spec hz h1 β
  exact ⟨a, c hβ, divisor_pos T (c hβ) h0 h1'⟩

/-! ### branches -/

theorem C20_beta_zero {β : ℝ} (hβ : isZero β = true) (η x : ℝ) :
    tanhProjection th isInf isZero β η x = clip01 x := by
  simp [tanhProjection, hβ]

/-- the guarded form is `jnp.clip`'s `minimum(maximum(x, 0), 1)` -/
theorem clip01_eq (x : ℝ) : clip01 x = min (max x 0) 1 := by
  unfold clip01
  split_ifs with h0 h1
  · rw [max_eq_right h0.le, min_eq_left zero_le_one]
  · rw [max_eq_left (not_lt.mp h0), min_eq_right h1.le]
  · rw [max_eq_left (not_lt.mp h0), min_eq_left (not_lt.mp h1)]

theorem clip01_of_mem {x : ℝ} (h0 : 0 ≤ x) (h1 : x ≤ 1) : clip01 x = x := by
  rw [clip01_eq, max_eq_left h0, min_eq_left h1]

theorem clip01_mem (x : ℝ) : 0 ≤ clip01 x ∧ clip01 x ≤ 1 := by
  rw [clip01_eq]
  exact ⟨le_min (le_max_right _ _) zero_le_one, min_le_right _ _⟩

theorem clip01_mono {x y : ℝ} (h : x ≤ y) : clip01 x ≤ clip01 y := by
  rw [clip01_eq, clip01_eq]
  exact min_le_min (max_le_max h le_rfl) le_rfl

theorem C20_beta_zero_id {β : ℝ} (hβ : isZero β = true) (η : ℝ) {x : ℝ} (h0 : 0 ≤ x) (h1 : x ≤ 1) :
    tanhProjection th isInf isZero β η x = x := by
  rw [C20_beta_zero hβ, clip01_of_mem h0 h1]

theorem C20_beta_inf {β : ℝ} (hz : isZero β = false) (hi : isInf β = true) (η x : ℝ) :
    tanhProjection th isInf isZero β η x = step η x := by
  simp [tanhProjection, hz, hi]

theorem C20_beta_inf_above {β : ℝ} (hz : isZero β = false) (hi : isInf β = true) {η x : ℝ} (h : η < x) :
    tanhProjection th isInf isZero β η x = 1 := by
  rw [C20_beta_inf hz hi, step, if_pos h]

theorem C20_beta_inf_below {β : ℝ} (hz : isZero β = false) (hi : isInf β = true) {η x : ℝ} (h : x < η) :
    tanhProjection th isInf isZero β η x = 0 := by
  rw [C20_beta_inf hz hi, step, if_neg (not_lt.mpr h.le)]

theorem C20_formula {β : ℝ} (hz : isZero β = false) (hi : isInf β = false) (η x : ℝ) :
    tanhProjection th isInf isZero β η x = dividend th β η x / divisor th β η := by
  simp [tanhProjection, safeBeta, hz, hi]

theorem step_mem (η x : ℝ) : 0 ≤ step η x ∧ step η x ≤ 1 := by
  unfold step; split_ifs <;> constructor <;> norm_num

theorem step_mono (η : ℝ) {x y : ℝ} (h : x ≤ y) : step η x ≤ step η y := by
  unfold step
  by_cases h1 : η < x
  · rw [if_pos h1, if_pos (lt_of_lt_of_le h1 h)]
  · rw [if_neg h1]; split_ifs <;> norm_num

/-! ### range, monotonicity, endpoints -/

include T in
theorem dividend_strictMono {b : ℝ} (hb : 0 < b) (η : ℝ) : StrictMono (dividend th b η) := fun _ _ h =>
  add_lt_add_right (T.mono (mul_lt_mul_of_pos_left (sub_lt_sub_right h η) hb)) _

include T in
theorem dividend_mono {b η : ℝ} (hb : 0 < b) {x y : ℝ} (h : x ≤ y) :
    dividend th b η x ≤ dividend th b η y :=
  (dividend_strictMono T hb η).monotone h

include T in
theorem dividend_zero (b η : ℝ) : dividend th b η 0 = 0 := by
  unfold dividend
  have : b * (0 - η) = -(b * η) := by ring
  rw [this, T.odd]; ring

theorem dividend_one (b η : ℝ) : dividend th b η 1 = divisor th b η := rfl

/-- a property of the projection as a function of the design value holds as soon as it holds of the three branches -/
theorem proj_cases {β η : ℝ} (P : (ℝ → ℝ) → Prop) (hclip : P clip01) (hstep : P (step η))
    (hform : isZero β = false → isInf β = false → P fun x => dividend th β η x / divisor th β η) :
    P (tanhProjection th isInf isZero β η) := by
  cases hzb : isZero β
  · cases hib : isInf β
    · exact (funext (C20_formula hzb hib η) : tanhProjection th isInf isZero β η = _) ▸ hform hzb hib
    · exact (funext (C20_beta_inf hzb hib η) : tanhProjection th isInf isZero β η = _) ▸ hstep
  · exact (funext (C20_beta_zero hzb η) : tanhProjection th isInf isZero β η = _) ▸ hclip

include T in
/-- C20_range: the projection maps [0,1] into [0,1] for every β ≥ 0 (zero, finite or flagged infinite) and η ∈ [0,1]. -/
theorem C20_range (hz : ∀ b, isZero b = true ↔ b = 0) {β η x : ℝ} (hβ : 0 ≤ β) (h0 : 0 ≤ η) (h1 : η ≤ 1)
    (hx0 : 0 ≤ x) (hx1 : x ≤ 1) :
    0 ≤ tanhProjection th isInf isZero β η x ∧ tanhProjection th isInf isZero β η x ≤ 1 := by
  refine proj_cases (P := fun f => 0 ≤ f x ∧ f x ≤ 1) (clip01_mem x) (step_mem η x) fun hzb _ => ?_
  have hb := pos_of_flag hz hβ hzb
  have hd := divisor_pos T hb h0 h1
  exact ⟨div_nonneg ((dividend_zero T β η).symm.le.trans (dividend_mono T hb hx0)) hd.le,
    (div_le_one hd).mpr (dividend_mono T hb hx1)⟩

include T in
/-- C20_monotone: non-decreasing in the design value, for every β ≥ 0 and η ∈ [0,1], on all of ℝ. -/
theorem C20_monotone (hz : ∀ b, isZero b = true ↔ b = 0) {β η : ℝ} (hβ : 0 ≤ β) (h0 : 0 ≤ η) (h1 : η ≤ 1)
    {x y : ℝ} (hxy : x ≤ y) :
    tanhProjection th isInf isZero β η x ≤ tanhProjection th isInf isZero β η y :=
  proj_cases (P := fun f => f x ≤ f y) (clip01_mono hxy) (step_mono η hxy) fun hzb _ =>
    have hb := pos_of_flag hz hβ hzb
    div_le_div_of_nonneg_right (dividend_mono T hb hxy) (divisor_pos T hb h0 h1).le

include T in
theorem C20_strictMono_formula {β η : ℝ} (hzb : isZero β = false) (hib : isInf β = false) (hb : 0 < β)
    (h0 : 0 ≤ η) (h1 : η ≤ 1) {x y : ℝ} (hxy : x < y) :
    tanhProjection th isInf isZero β η x < tanhProjection th isInf isZero β η y := by
  rw [C20_formula hzb hib, C20_formula hzb hib]
  exact div_lt_div_of_pos_right (dividend_strictMono T hb η hxy) (divisor_pos T hb h0 h1)

include T in
/-- C20_fix_zero: 0 is a fixed point for EVERY β (any flags), as soon as 0 ≤ η -/
theorem C20_fix_zero (β : ℝ) {η : ℝ} (h0 : 0 ≤ η) :
    tanhProjection th isInf isZero β η 0 = 0 :=
  proj_cases (P := fun f => f 0 = 0) (clip01_of_mem le_rfl zero_le_one) (if_neg (not_lt.mpr h0)) fun _ _ => by
    simp only [dividend_zero T, zero_div]

include T in
/-- C20_fix_one: 1 is a fixed point when η < 1 -/
theorem C20_fix_one (hz : ∀ b, isZero b = true ↔ b = 0) {β η : ℝ} (hβ : 0 ≤ β) (h0 : 0 ≤ η) (h1 : η < 1) :
    tanhProjection th isInf isZero β η 1 = 1 :=
  proj_cases (P := fun f => f 1 = 1) (clip01_of_mem zero_le_one le_rfl) (if_pos h1) fun hzb _ => by
    simp only [dividend_one, div_self (divisor_pos T (pos_of_flag hz hβ hzb) h0 h1.le).ne']

/-- the side condition η < 1 of `C20_fix_one` is needed: at β = ∞ and η = 1 the value at 1 is 0 -/
theorem C20_fix_one_needs_eta_lt_one {β : ℝ} (hzb : isZero β = false) (hib : isInf β = true) :
    tanhProjection th isInf isZero β 1 1 = 0 := by
  rw [C20_beta_inf hzb hib, step, if_neg (lt_irrefl _)]

end abstract

/-! ### instances for `Real.tanh` with the flags of a finite β -/

/-- flags as the code computes them for a real (hence finite) β -/
noncomputable def zeroFlag (b : ℝ) : Bool := decide (b = 0)
def noInf (_ : ℝ) : Bool := false

theorem zeroFlag_spec : ∀ b, zeroFlag b = true ↔ b = 0 := fun b => by simp [zeroFlag]

theorem C20_real (β η : ℝ) (hβ : 0 ≤ β) (h0 : 0 < η) (h1 : η < 1) :
    (∀ x, 0 ≤ x → x ≤ 1 → 0 ≤ tanhProjection Real.tanh noInf zeroFlag β η x ∧
        tanhProjection Real.tanh noInf zeroFlag β η x ≤ 1) ∧
    Monotone (tanhProjection Real.tanh noInf zeroFlag β η) ∧
    tanhProjection Real.tanh noInf zeroFlag β η 0 = 0 ∧
    tanhProjection Real.tanh noInf zeroFlag β η 1 = 1 :=
  ⟨fun _ a b => C20_range real_tanhLike zeroFlag_spec hβ h0.le h1.le a b,
   fun _ _ h => C20_monotone real_tanhLike zeroFlag_spec hβ h0.le h1.le h,
   C20_fix_zero real_tanhLike β h0.le,
   C20_fix_one real_tanhLike zeroFlag_spec hβ h0.le h1⟩

-- non-vacuity: the hypotheses are met by concrete numbers and the three branches are reachable
example : (0:ℝ) ≤ 8 ∧ (0:ℝ) < 1/2 ∧ (1/2:ℝ) < 1 := by norm_num
example : zeroFlag 0 = true ∧ zeroFlag 8 = false ∧ noInf 8 = false := by simp [zeroFlag, noInf]
example : tanhProjection Real.tanh noInf zeroFlag 0 (1/2) (3/4) = 3/4 :=
  C20_beta_zero_id (by simp [zeroFlag]) _ (by norm_num) (by norm_num)
example : tanhProjection Real.tanh (fun _ => true) zeroFlag 1 (1/2) (3/4) = 1 :=
  C20_beta_inf_above (by simp [zeroFlag]) rfl (by norm_num)

/-! ### β → ∞ -/

open Filter Topology in
theorem tendsto_tanh_atTop : Tendsto Real.tanh atTop (𝓝 1) := by
  have h2 : Tendsto (fun x : ℝ => Real.exp (-(2 * x))) atTop (𝓝 0) :=
    Real.tendsto_exp_neg_atTop_nhds_zero.comp (tendsto_id.const_mul_atTop two_pos)
  have h3 := ((tendsto_const_nhds (x := (1 : ℝ))).sub h2).div ((tendsto_const_nhds (x := (1 : ℝ))).add h2)
    (by norm_num)
  rw [sub_zero, add_zero, div_one] at h3
  refine h3.congr fun x => ?_
  show (1 - Real.exp (-(2 * x))) / (1 + Real.exp (-(2 * x))) = Real.tanh x
  rw [Real.tanh_eq, show -(2 * x) = -x - x by ring, Real.exp_sub]
  field_simp

open Filter Topology in
theorem tendsto_tanh_mul_pos {c : ℝ} (hc : 0 < c) : Tendsto (fun β : ℝ => Real.tanh (β * c)) atTop (𝓝 1) :=
  tendsto_tanh_atTop.comp (tendsto_id.atTop_mul_const hc)

open Filter Topology in
theorem tendsto_tanh_mul_neg {c : ℝ} (hc : c < 0) : Tendsto (fun β : ℝ => Real.tanh (β * c)) atTop (𝓝 (-1)) := by
  have h := (tendsto_tanh_mul_pos (neg_pos.mpr hc)).neg
  refine h.congr (fun β => ?_)
  rw [← Real.tanh_neg]; congr 1; ring

open Filter Topology in
theorem tendsto_formula {η x l : ℝ} (h0 : 0 < η) (h1 : η < 1)
    (hl : Tendsto (fun β : ℝ => Real.tanh (β * (x - η))) atTop (𝓝 l)) :
    Tendsto (fun β : ℝ => tanhProjection Real.tanh noInf zeroFlag β η x) atTop (𝓝 ((1 + l) / (1 + 1))) := by
  have hf := ((tendsto_tanh_mul_pos h0).add hl).div
    ((tendsto_tanh_mul_pos h0).add (tendsto_tanh_mul_pos (sub_pos.mpr h1))) (by norm_num)
  refine hf.congr' ?_
  filter_upwards [eventually_gt_atTop (0:ℝ)] with β hβ
  rw [C20_formula (by simp [zeroFlag, hβ.ne']) rfl]; rfl

open Filter Topology in
/-- C20_limit_above: for a threshold strictly inside (0,1) and a fixed design value above it, the finite-β
projection tends to 1 — the value of the β = ∞ branch — as β → ∞. -/
theorem C20_limit_above {η x : ℝ} (h0 : 0 < η) (h1 : η < 1) (hx : η < x) :
    Tendsto (fun β : ℝ => tanhProjection Real.tanh noInf zeroFlag β η x) atTop (𝓝 1) := by
  have h := tendsto_formula h0 h1 (tendsto_tanh_mul_pos (sub_pos.mpr hx))
  rwa [div_self (by norm_num)] at h

open Filter Topology in
/-- C20_limit_below: … and to 0 for a design value below the threshold. -/
theorem C20_limit_below {η x : ℝ} (h0 : 0 < η) (h1 : η < 1) (hx : x < η) :
    Tendsto (fun β : ℝ => tanhProjection Real.tanh noInf zeroFlag β η x) atTop (𝓝 0) := by
  have h := tendsto_formula h0 h1 (tendsto_tanh_mul_neg (sub_neg.mpr hx))
  rwa [add_neg_cancel, zero_div] at h

/-! ### smoothed projection -/

section smooth
variable (th sq : ℝ → ℝ) (isInf isZero : ℝ → Bool) (cast : ℕ → ℝ)

/-- C20_smoothed_eq_plain: in a cell without an interface the smoothed projection is the plain one. -/
theorem C20_smoothed_eq_plain (fl β η dx R ρ g0 g1 : ℝ)
    (h : needsSmoothing (fun x => |x|) sq fl R η ρ (gradHelper dx g0 g1) = false) :
    smoothedCell th sq (fun x => |x|) isInf isZero cast fl β η dx R ρ g0 g1 =
      tanhProjection th isInf isZero β η ρ := by
  simp [smoothedCell, h]

theorem C20_smoothed_mix (fl β η dx R ρ g0 g1 : ℝ)
    (h : needsSmoothing (fun x => |x|) sq fl R η ρ (gradHelper dx g0 g1) = true) :
    smoothedCell th sq (fun x => |x|) isInf isZero cast fl β η dx R ρ g0 g1 =
      let hh := gradHelper dx g0 g1
      let ne := normEff (fun x => |x|) sq fl hh
      let s := (η - ρ) / ne / R
      (1 - fillPlus cast s) * tanhProjection th isInf isZero β η (ρ - R * ne * fillPlus cast s) +
        fillPlus cast s * tanhProjection th isInf isZero β η (ρ + R * ne * fillMinus cast s) := by
  simp [smoothedCell, h]

theorem gradHelper_nonneg (dx g0 g1 : ℝ) : 0 ≤ gradHelper dx g0 g1 := by
  unfold gradHelper; exact add_nonneg (mul_self_nonneg _) (mul_self_nonneg _)

theorem gradHelper_eq_zero_iff {dx : ℝ} (hdx : dx ≠ 0) (g0 g1 : ℝ) :
    gradHelper dx g0 g1 = 0 ↔ g0 = 0 ∧ g1 = 0 := by
  unfold gradHelper
  rw [mul_self_add_mul_self_eq_zero, div_eq_zero_iff, div_eq_zero_iff, or_iff_left hdx, or_iff_left hdx]

theorem normEff_real {fl : ℝ} {h : ℝ} (hh : 0 ≤ h) :
    normEff (fun x => |x|) Real.sqrt fl h = if fl < h then Real.sqrt h else 1 := by
  unfold normEff nonzeroNorm
  simp only [abs_of_nonneg hh]
  by_cases h0 : fl < h <;> simp [h0]

theorem normEff_pos {fl : ℝ} (hfl : 0 ≤ fl) {h : ℝ} (hh : 0 ≤ h) : 0 < normEff (fun x => |x|) Real.sqrt fl h := by
  rw [normEff_real hh]
  split_ifs with h0
  · exact Real.sqrt_pos.mpr (lt_of_le_of_lt hfl h0)
  · exact one_pos

/-- over ℝ, for a non-negative helper, both flags of a cell are plain comparisons -/
theorem needsSmoothing_real {fl R η ρ h : ℝ} (hh : 0 ≤ h) :
    needsSmoothing (fun x => |x|) Real.sqrt fl R η ρ h = true ↔
      fl < h ∧ |(η - ρ) / normEff (fun x => |x|) Real.sqrt fl h| < R := by
  simp only [needsSmoothing, nonzeroNorm, abs_of_nonneg hh, Bool.and_eq_true, decide_eq_true_eq]

/-- C20_needsSmoothing_iff: a cell needs smoothing exactly when the squared design gradient exceeds the floor
(`0` in the tree as found, `tiny·2²⁰` after the repair) and the linearised level set `ρ = η` passes within the
smoothing radius `R` of the cell centre. -/
theorem C20_needsSmoothing_iff {fl R η ρ h : ℝ} (hfl : 0 ≤ fl) (hh : 0 ≤ h) :
    needsSmoothing (fun x => |x|) Real.sqrt fl R η ρ h = true ↔ fl < h ∧ |η - ρ| < R * Real.sqrt h := by
  rw [needsSmoothing_real hh]
  refine and_congr_right fun h0 => ?_
  have hp : 0 < Real.sqrt h := Real.sqrt_pos.mpr (hfl.trans_lt h0)
  rw [normEff_real hh, if_pos h0, abs_div, abs_of_pos hp, div_lt_iff₀ hp]

/-- C20_smooth_guards: the two divisions of the smoothed branch have non-zero denominators, where smoothing is
applied the norm is at least `√floor`, and the argument of the fill-factor polynomial lies in (−1, 1). -/
theorem C20_smooth_guards {fl R η ρ h : ℝ} (hfl : 0 ≤ fl) (hh : 0 ≤ h) (hR : 0 < R) :
    0 < normEff (fun x => |x|) Real.sqrt fl h ∧
    (needsSmoothing (fun x => |x|) Real.sqrt fl R η ρ h = true →
      Real.sqrt fl < normEff (fun x => |x|) Real.sqrt fl h ∧
      |(η - ρ) / normEff (fun x => |x|) Real.sqrt fl h / R| < 1) := by
  refine ⟨normEff_pos hfl hh, fun hn => ?_⟩
  obtain ⟨h0, hlt⟩ := (needsSmoothing_real hh).mp hn
  constructor
  · rw [normEff_real hh, if_pos h0]
    exact Real.sqrt_lt_sqrt hfl h0
  · rwa [abs_div, abs_of_pos hR, div_lt_one hR]

/-- C20_floor_plain: a cell whose squared gradient does not exceed the floor is projected plainly — the repaired
guard: tiny gradients never reach the `1/norm` arithmetic. -/
theorem C20_floor_plain (fl β η dx R ρ g0 g1 : ℝ) (h : gradHelper dx g0 g1 ≤ fl) :
    smoothedCell th Real.sqrt (fun x => |x|) isInf isZero cast fl β η dx R ρ g0 g1 =
      tanhProjection th isInf isZero β η ρ := by
  apply C20_smoothed_eq_plain
  exact Bool.eq_false_iff.mpr fun hn => not_lt.mpr h ((needsSmoothing_real (gradHelper_nonneg dx g0 g1)).mp hn).1

/-- C20_uniform_plain: in a uniform design (all entries equal) no cell is smoothed, whatever `jnp.gradient`
stencil applies: the result is the plain projection everywhere. -/
theorem C20_uniform_plain (c055 fl β η res : ℝ) (hfl : 0 ≤ fl) (n m : ℕ) (c : ℝ) (i j : ℕ) :
    smoothedProjection th Real.sqrt (fun x => |x|) isInf isZero cast c055 fl β η res n m (fun _ _ => c) i j =
      tanhProjection th isInf isZero β η c := by
  have g0 : grad0 (cast 2) n (fun _ _ => c) i j = 0 := by unfold grad0; split_ifs <;> simp
  have g1 : grad1 (cast 2) m (fun _ _ => c) i j = 0 := by unfold grad1; split_ifs <;> simp
  unfold smoothedProjection
  rw [g0, g1]
  exact C20_floor_plain th isInf isZero cast fl β η _ _ c 0 0 (by simpa [gradHelper] using hfl)

/-- the fill factor is `1/2` at the interface and the two factors are mirror images -/
theorem fill_facts (s : ℝ) :
    fillPlus (fun n => (n:ℝ)) 0 = 1 / 2 ∧ fillMinus (fun n => (n:ℝ)) s = fillPlus (fun n => (n:ℝ)) (-s) ∧
    fillPlus (fun n => (n:ℝ)) s + fillMinus (fun n => (n:ℝ)) s = 1 := by
  refine ⟨?_, ?_, ?_⟩ <;> simp only [fillPlus, fillMinus] <;> push_cast <;> ring

-- non-vacuity of the two cell classes: ρ = 0.3, η = 0.5, gradient (0,0) → plain; gradient (1,0), dx = 1, R = 0.55 → smoothed
example : needsSmoothing (fun x => |x|) Real.sqrt 0 0.55 0.5 0.3 (gradHelper 1 0 0) = false := by
  simp [needsSmoothing, nonzeroNorm, gradHelper]
example : needsSmoothing (fun x => |x|) Real.sqrt (1/1000) 0.55 0.5 0.3 (gradHelper 1 1 0) = true := by
  rw [C20_needsSmoothing_iff (by norm_num) (gradHelper_nonneg _ _ _)]
  simp only [gradHelper]; norm_num

end smooth

/-! ### the derivative of the formula branch (real-number side of "finite gradients") -/

theorem hasDerivAt_tanh (u : ℝ) : HasDerivAt Real.tanh (1 - Real.tanh u ^ 2) u := by
  have hc := (Real.cosh_pos u).ne'
  have hq := (Real.hasDerivAt_sinh u).div (Real.hasDerivAt_cosh u) hc
  have hfe : Real.sinh / Real.cosh = Real.tanh := funext fun y => (Real.tanh_eq_sinh_div_cosh y).symm
  rw [hfe] at hq
  refine hq.congr_deriv ?_
  rw [Real.tanh_eq_sinh_div_cosh, div_pow, one_sub_div (pow_ne_zero 2 hc)]
  congr 1
  ring

/-- C20_deriv: for finite β (formula branch) the projection is differentiable in the design value with
derivative `β (1 − tanh²(β (x − η))) / divisor`. -/
theorem C20_deriv {isInf isZero : ℝ → Bool} {β : ℝ} (hz : isZero β = false) (hi : isInf β = false) (η x : ℝ) :
    HasDerivAt (tanhProjection Real.tanh isInf isZero β η)
      (β * (1 - Real.tanh (β * (x - η)) ^ 2) / divisor Real.tanh β η) x := by
  have hfun : tanhProjection Real.tanh isInf isZero β η =
      fun y => (Real.tanh (β * η) + Real.tanh (β * (y - η))) / divisor Real.tanh β η := by
    funext y; rw [C20_formula hz hi]; rfl
  rw [hfun]
  have hcomp := (hasDerivAt_tanh (β * (x - η))).comp x (((hasDerivAt_id' x).sub_const η).const_mul β)
  have hsum := (hcomp.const_add (Real.tanh (β * η))).div_const (divisor Real.tanh β η)
  exact hsum.congr_deriv (by ring)

/-- C20_deriv_bound: that derivative lies in `[0, β / divisor]` — in particular it is finite for every finite β > 0. -/
theorem C20_deriv_bound {β η : ℝ} (hb : 0 < β) (h0 : 0 ≤ η) (h1 : η ≤ 1) (x : ℝ) :
    0 ≤ β * (1 - Real.tanh (β * (x - η)) ^ 2) / divisor Real.tanh β η ∧
    β * (1 - Real.tanh (β * (x - η)) ^ 2) / divisor Real.tanh β η ≤ β / divisor Real.tanh β η := by
  have hd := divisor_pos real_tanhLike hb h0 h1
  have hsq := Real.tanh_sq_lt_one (β * (x - η))
  exact ⟨div_nonneg (mul_nonneg hb.le (sub_nonneg.mpr hsq.le)) hd.le,
    div_le_div_of_nonneg_right (mul_le_of_le_one_right hb.le (sub_le_self 1 (sq_nonneg _))) hd.le⟩

end Fdtdx.C20
