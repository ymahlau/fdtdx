/-
C16 — Detector reductions are consistent with their spatial records.

About `FdtdxModel/C16.lean`, for every region shape (finite sums over any `n0 × n1 × n2`), field and weight array, over
any field `K`: the reduced FieldDetector record is the volume-weighted mean of the spatial record (normalised when
Σvol ≠ 0), the reduced energy is Σ density · volume, and the reduced phasor state stays the weighted mean of the spatial
state after any sequence of forward and inverse accumulation steps (inverse undoes forward).  The reduced Poynting
record is Σ spatial flux · face area per component, direction "-" negates it, the single-component output is the
propagation component.  The closed-surface net flux is the sum over the active axes of the single-plane readings on
the max face (direction +) and the min face (direction −), for the time-domain and the phasor detector, whose stored
faces accumulate the restriction of the PhasorDetector increment.
-/
import FdtdxModel.C16
import Mathlib.Tactic.Ring
import Mathlib.Tactic.FieldSimp
import Mathlib.Tactic.Linarith
import Mathlib.Algebra.Field.Basic

namespace Fdtdx.C16

variable {K : Type} [Field K]

/-! ### finite sums -/

theorem sumN_lin (n : Nat) (f g : Nat → K) (a b : K) :
    sumN n (fun i => f i * a + g i * b) = sumN n f * a + sumN n g * b := by
  induction n with
  | zero => simp [sumN]
  | succ n ih => simp only [sumN, ih]; ring

theorem sumN_congr (n : Nat) (f g : Nat → K) (h : ∀ i, i < n → f i = g i) : sumN n f = sumN n g := by
  induction n with
  | zero => simp [sumN]
  | succ n ih =>
    simp only [sumN]
    rw [ih (fun i hi => h i (by omega)), h n (by omega)]

theorem sumN_one (f : Nat → K) : sumN 1 f = f 0 := by simp [sumN]

theorem sum3_lin (n : Shape) (f g : G3 K) (a b : K) :
    sum3 n (fun i j k => f i j k * a + g i j k * b) = sum3 n f * a + sum3 n g * b := by
  simp only [sum3, sumN_lin]

theorem sum3_mul_right (n : Shape) (f : G3 K) (c : K) : sum3 n (fun i j k => f i j k * c) = sum3 n f * c := by
  simpa using sum3_lin n f f c 0

theorem sum3_sgn (n : Shape) (minus : Bool) (f g : G3 K) :
    sum3 n (fun i j k => sgn minus (f i j k) * g i j k) = sgn minus (sum3 n (fun i j k => f i j k * g i j k)) := by
  cases minus
  · rfl
  · simpa [sgn] using sum3_lin n (fun i j k => f i j k * g i j k) (fun _ _ _ => 0) (-1) 0

/-! ### weighted mean -/

theorem wmean_lin (n : Shape) (vol x y : G3 K) (a b : K) :
    wmean n vol (fun i j k => x i j k * a + y i j k * b) = wmean n vol x * a + wmean n vol y * b := by
  simp only [wmean]
  rw [div_mul_eq_mul_div, div_mul_eq_mul_div, ← add_div, ← sum3_lin]
  congr 2; funext i j k; ring

theorem wmean_add (n : Shape) (vol x y : G3 K) :
    wmean n vol (fun i j k => x i j k + y i j k) = wmean n vol x + wmean n vol y := by
  simpa using wmean_lin n vol x y 1 1

theorem wmean_sub (n : Shape) (vol x y : G3 K) :
    wmean n vol (fun i j k => x i j k - y i j k) = wmean n vol x - wmean n vol y := by
  simpa [sub_eq_add_neg] using wmean_lin n vol x y 1 (-1)

theorem wmean_mul_right (n : Shape) (vol x : G3 K) (c : K) :
    wmean n vol (fun i j k => x i j k * c) = wmean n vol x * c := by
  simpa using wmean_lin n vol x x c 0

/-- the weighted mean is normalised. -/
theorem C16_wmean_const (n : Shape) (vol : G3 K) (c : K) (h : sum3 n vol ≠ 0) :
    wmean n vol (fun _ _ _ => c) = c := by
  simp only [wmean]
  have : sum3 n (fun i j k => c * vol i j k) = sum3 n vol * c := by
    rw [← sum3_mul_right]; congr 1; funext i j k; ring
  rw [this]; field_simp

example : sum3 (2, 1, 2) (fun i _ k => ((i + 2 * k + 1 : Nat) : ℚ)) ≠ 0 := by
  simp [sum3, sumN]; norm_num

/-! ### Field / Energy -/

/-- slot by slot, the reduced record is the volume-weighted mean of the spatial
record of the same component selection (same canonical order). -/
theorem C16_field_reduced_is_weighted_mean (n : Shape) (vol : G3 K) (mask : List Bool) (E H : Nat → G3 K) :
    fieldReduced n vol mask E H = (fieldSpatial mask E H).map (fun x => sum3 n (fun i j k => x i j k * vol i j k) / sum3 n vol)
    ∧ (fieldSpatial mask E H).length = (selected mask).length := by
  constructor
  · rfl
  · simp [fieldSpatial]

/-- the canonical stacking order does not depend on the order in which components were requested -/
example : selected [false, true, false, false, false, true] = [1, 5] ∧ selected [true, true, true, true, true, true] = [0, 1, 2, 3, 4, 5] := by
  decide

theorem C16_energy_reduced_is_sum (n : Shape) (vol : G3 K) (E H ie im : Nat → G3 K) :
    energyReduced n vol E H ie im = sum3 n (fun i j k => energyDensity E H ie im i j k * vol i j k) := rfl

/-- with equal cell volumes `v` the reduced energy is `v · Σ density` -/
theorem C16_energy_reduced_uniform (n : Shape) (v : K) (E H ie im : Nat → G3 K) :
    energyReduced n (fun _ _ _ => v) E H ie im = sum3 n (energyDensity E H ie im) * v := by
  rw [C16_energy_reduced_is_sum, sum3_mul_right]

/-! ### Phasor: reduced state = weighted mean of the spatial state, after any history -/

/-- one recorded step: time direction, fields, phasor factors -/
structure Step (K : Type) where
  inverse : Bool
  E : Nat → G3 K
  H : Nat → G3 K
  ph : Nat → Cx K

def spatialRun (sel : List Nat) (s : Nat → Nat → G3 (Cx K)) : List (Step K) → (Nat → Nat → G3 (Cx K))
  | [] => s
  | st :: rest => spatialRun sel (phasorSpatialStep st.inverse sel st.E st.H st.ph s) rest

def reducedRun (n : Shape) (vol : G3 K) (sel : List Nat) (s : Nat → Nat → Cx K) : List (Step K) → (Nat → Nat → Cx K)
  | [] => s
  | st :: rest => reducedRun n vol sel (phasorReducedStep n vol st.inverse sel st.E st.H st.ph s) rest

/-- the reduced state is the weighted mean (real and imaginary part) of the spatial state -/
def MeanOf (n : Shape) (vol : G3 K) (r : Nat → Nat → Cx K) (s : Nat → Nat → G3 (Cx K)) : Prop :=
  ∀ f q, (r f q).re = wmean n vol (fun i j k => (s f q i j k).re) ∧ (r f q).im = wmean n vol (fun i j k => (s f q i j k).im)

theorem meanOf_step (n : Shape) (vol : G3 K) (sel : List Nat) (st : Step K) (r : Nat → Nat → Cx K)
    (s : Nat → Nat → G3 (Cx K)) (h : MeanOf n vol r s) :
    MeanOf n vol (phasorReducedStep n vol st.inverse sel st.E st.H st.ph r) (phasorSpatialStep st.inverse sel st.E st.H st.ph s) := by
  intro f q
  obtain ⟨h1, h2⟩ := h f q
  unfold phasorReducedStep phasorSpatialStep cstep
  cases st.inverse
  · simp only [Bool.false_eq_true, if_false]
    rw [wmean_add, wmean_add, h1, h2]
    exact ⟨rfl, rfl⟩
  · simp only [if_true]
    rw [wmean_sub, wmean_sub, h1, h2]
    exact ⟨rfl, rfl⟩

/-- for any history of forward / inverse accumulation steps, any frequencies and
any component selection, starting from related states (e.g. both zero). -/
theorem C16_phasor_reduced_is_weighted_mean (n : Shape) (vol : G3 K) (sel : List Nat) (steps : List (Step K))
    (r : Nat → Nat → Cx K) (s : Nat → Nat → G3 (Cx K)) (h : MeanOf n vol r s) :
    MeanOf n vol (reducedRun n vol sel r steps) (spatialRun sel s steps) := by
  induction steps generalizing r s with
  | nil => exact h
  | cons st rest ih => exact ih _ _ (meanOf_step n vol sel st r s h)

/-- the zero states are related (whatever the weights) -/
theorem meanOf_zero (n : Shape) (vol : G3 K) : MeanOf n vol (fun _ _ => ⟨0, 0⟩) (fun _ _ _ _ _ => ⟨0, 0⟩) := by
  intro f q
  have : wmean n vol (fun _ _ _ => (0 : K)) = 0 := by
    simpa using wmean_mul_right n vol (fun _ _ _ => 0) 0
  exact ⟨this.symm, this.symm⟩

theorem C16_inverse_subtracts_what_forward_adds (s : Cx K) (x : K) (ph : Cx K) :
    (cstep false s x ph).re = s.re + x * ph.re ∧ (cstep false s x ph).im = s.im + x * ph.im
    ∧ (cstep true s x ph).re = s.re - x * ph.re ∧ (cstep true s x ph).im = s.im - x * ph.im := by
  simp [cstep]

/-- an inverse-time accumulation of the same sample restores the state (both orders),
cell by cell for the spatial detector. -/
theorem C16_inverse_undoes_forward (sel : List Nat) (E H : Nat → G3 K) (ph : Nat → Cx K) (s : Nat → Nat → G3 (Cx K)) :
    phasorSpatialStep true sel E H ph (phasorSpatialStep false sel E H ph s) = s
    ∧ phasorSpatialStep false sel E H ph (phasorSpatialStep true sel E H ph s) = s := by
  constructor <;> (funext f q i j k; simp [phasorSpatialStep, cstep])

theorem C16_inverse_undoes_forward_reduced (n : Shape) (vol : G3 K) (sel : List Nat) (E H : Nat → G3 K) (ph : Nat → Cx K)
    (s : Nat → Nat → Cx K) :
    phasorReducedStep n vol true sel E H ph (phasorReducedStep n vol false sel E H ph s) = s := by
  funext f q; simp [phasorReducedStep]

/-! ### Poynting -/

theorem range_three : List.range 3 = [0, 1, 2] := rfl

/-- component by component, reduced = Σ spatial · area. -/
theorem C16_poynting_reduced_is_area_sum (n : Shape) (area : Nat → G3 K) (minus : Bool) (axis : Nat) (E H : Nat → G3 K) :
    poyntingReduced n area minus true axis E H
      = (List.range 3).map (fun c => sum3 n (fun i j k => ((poyntingSpatial minus true axis E H).getD c (fun _ _ _ => 0)) i j k * area c i j k))
    ∧ poyntingReduced n area minus false axis E H
      = [sum3 n (fun i j k => ((poyntingSpatial minus false axis E H).getD 0 (fun _ _ _ => 0)) i j k * area axis i j k)] := by
  constructor
  · simp [poyntingReduced, poyntingSpatial, range_three]
  · simp [poyntingReduced, poyntingSpatial]

theorem C16_poynting_minus_negates (n : Shape) (area : Nat → G3 K) (keepAll : Bool) (axis : Nat) (E H : Nat → G3 K) :
    poyntingReduced n area true keepAll axis E H = (poyntingReduced n area false keepAll axis E H).map (fun x => -x) := by
  cases keepAll <;> simp only [poyntingReduced, sum3_sgn] <;> simp [sgn]

theorem C16_poynting_minus_negates_spatial (keepAll : Bool) (axis : Nat) (E H : Nat → G3 K) :
    poyntingSpatial true keepAll axis E H = (poyntingSpatial false keepAll axis E H).map (fun g => fun i j k => -g i j k) := by
  cases keepAll <;> simp [poyntingSpatial, sgn]

theorem C16_poynting_single_is_component (n : Shape) (area : Nat → G3 K) (minus : Bool) (axis : Nat) (h : axis < 3)
    (E H : Nat → G3 K) :
    poyntingReduced n area minus false axis E H = [(poyntingReduced n area minus true axis E H).getD axis 0] := by
  have h' : axis = 0 ∨ axis = 1 ∨ axis = 2 := by omega
  rcases h' with rfl | rfl | rfl <;> simp [poyntingReduced, range_three]

theorem C16_poynting_single_is_component_spatial (minus : Bool) (axis : Nat) (h : axis < 3) (E H : Nat → G3 K) :
    poyntingSpatial minus false axis E H = [(poyntingSpatial minus true axis E H).getD axis (fun _ _ _ => 0)] := by
  have h' : axis = 0 ∨ axis = 1 ∨ axis = 2 := by omega
  rcases h' with rfl | rfl | rfl <;> simp [poyntingSpatial]

/-! ### closed surface -/

/-- restriction of a 3-component field to the plane `index a = idx` -/
def restrict (a idx : Nat) (F : Nat → G3 K) : Nat → G3 K := fun c => fixAx a idx (F c)

/-- reading of a reduced single-plane PoyntingFluxDetector (propagation axis `a`, given direction) sitting on the plane
`index a = idx` of the box, fed with the fields and face areas of that plane -/
def planeFlux (n : Shape) (area : Nat → G3 K) (a idx : Nat) (minus : Bool) (E H : Nat → G3 K) : K :=
  (poyntingReduced (shape1 n a) (restrict a idx area) minus false a (restrict a idx E) (restrict a idx H)).getD 0 0

theorem cross_restrict (a idx : Nat) (E H : Nat → G3 K) (c : Nat) :
    cross (restrict a idx E) (restrict a idx H) c = fixAx a idx (cross E H c) := by
  funext i j k
  rcases c with _ | _ | c <;> rcases a with _ | _ | a <;> rfl

theorem planeFlux_plus (n : Shape) (area : Nat → G3 K) (a idx : Nat) (E H : Nat → G3 K) :
    planeFlux n area a idx false E H = faceSum n a idx (fun i j k => cross E H a i j k * area a i j k) := by
  simp only [planeFlux, poyntingReduced, Bool.false_eq_true, if_false, List.getD_cons_zero, sgn, faceSum, cross_restrict]
  congr 1; funext i j k
  rcases a with _ | _ | a <;> rfl

theorem planeFlux_minus (n : Shape) (area : Nat → G3 K) (a idx : Nat) (E H : Nat → G3 K) :
    planeFlux n area a idx true E H = -faceSum n a idx (fun i j k => cross E H a i j k * area a i j k) := by
  rw [← planeFlux_plus]
  have := C16_poynting_minus_negates (shape1 n a) (restrict a idx area) false a (restrict a idx E) (restrict a idx H)
  simp only [planeFlux, this]
  simp [poyntingReduced]

/-- the outward net flux is the sum, over the active axes, of the max-face plane
detector with direction "+" and the min-face plane detector with direction "-" (six faces in 3-D). -/
theorem C16_closed_is_signed_sum_of_faces (n : Shape) (area : Nat → G3 K) (axes : List Nat) (E H : Nat → G3 K) :
    closedNet n area axes false E H
      = axes.foldl (fun acc a => acc + planeFlux n area a (axisLen n a - 1) false E H + planeFlux n area a 0 true E H) 0 := by
  simp only [closedNet, sgn, Bool.false_eq_true, if_false]
  congr 1
  funext acc a
  rw [planeFlux_plus, planeFlux_minus]; ring

theorem C16_closed_inward_negates (n : Shape) (area : Nat → G3 K) (axes : List Nat) (E H : Nat → G3 K) :
    closedNet n area axes true E H = -closedNet n area axes false E H := by
  simp [closedNet, sgn]

/-- an axis of one cell contributes nothing (its two faces coincide) -/
theorem closed_singleton_axis_cancels (n : Shape) (area : Nat → G3 K) (a : Nat) (h : axisLen n a = 1) (E H : Nat → G3 K) :
    closedNet n area [a] false E H = 0 := by
  simp [closedNet, sgn, h]

/-! ### closed-surface phasor detector -/

/-- the stored face accumulates the restriction to the face of what a PhasorDetector over the
box (all six components) accumulates. -/
theorem C16_face_is_restriction (n : Shape) (inverse : Bool) (a : Nat) (maxSide : Bool) (E H : Nat → G3 K) (ph : Cx K)
    (s : Nat → G3 (Cx K)) (q : Nat) (h6 : q < 6) :
    let idx := if maxSide then axisLen n a - 1 else 0
    faceStep n inverse a maxSide E H ph (fun q => fixAx a idx (s q)) q
      = fixAx a idx (phasorSpatialStep inverse [0, 1, 2, 3, 4, 5] E H (fun _ => ph) (fun _ => s) 0 q) := by
  have hq : [0, 1, 2, 3, 4, 5].getD q 0 = q :=
    (by decide : ∀ q < 6, [0, 1, 2, 3, 4, 5].getD q 0 = q) q h6
  intro idx
  funext i j k
  rcases a with _ | _ | a <;> simp only [faceStep, fixAx, idx] <;> unfold phasorSpatialStep <;> rw [hq]


/-- reading of a single-plane PhasorPoyntingFluxDetector (propagation axis `a`) whose state is the face phasor stack `p`
(already a plane: index 0 along `a`) with the face areas of axis `a` -/
def planePhasorFlux (n : Shape) (area : Nat → G3 K) (a : Nat) (minus continuous : Bool) (p : Nat → G3 (Cx K)) : K :=
  (phasorFlux (shape1 n a) (fun c => fixAx a 0 (area c)) minus false continuous a p).getD 0 0

theorem foldl_mul (c : K) (g : Nat → K) (l : List Nat) (x : K) :
    c * l.foldl (fun acc a => acc + g a) x = l.foldl (fun acc a => acc + c * g a) (c * x) := by
  induction l generalizing x with
  | nil => rfl
  | cons a l ih => rw [List.foldl_cons, List.foldl_cons, ih, mul_add]

/-- compute_net_flux (outward) is the sum over the active axes of the
single-plane phasor flux of the max face (direction +) and of the min face (direction −), same scaling mode. -/
theorem C16_closed_phasor_is_signed_sum_of_faces (n : Shape) (area : Nat → G3 K) (axes : List Nat) (continuous : Bool)
    (face : Nat → Bool → Nat → G3 (Cx K)) :
    closedPhasorNet n area axes false continuous face
      = axes.foldl (fun acc a => acc + (planePhasorFlux n area a false continuous (face a true)
                                        + planePhasorFlux n area a true continuous (face a false))) 0 := by
  have neg : ∀ a (p : Nat → G3 (Cx K)),
      sum3 (shape1 n a) (fun i j k => sgn true (phasorCross p a i j k) * fixAx a 0 (area a) i j k)
        = -sum3 (shape1 n a) (fun i j k => phasorCross p a i j k * fixAx a 0 (area a) i j k) :=
    fun a p => sum3_sgn _ true _ _
  have pos : ∀ x : K, sgn false x = x := by intro x; simp [sgn]
  cases continuous
  · simp only [closedPhasorNet, planePhasorFlux, phasorFlux, pos, Bool.false_eq_true, if_false,
      List.getD_cons_zero, neg, sub_eq_add_neg, add_assoc]
  · simp only [closedPhasorNet, planePhasorFlux, phasorFlux, pos, Bool.false_eq_true, if_false, if_true,
      List.map_cons, List.map_nil, List.getD_cons_zero, neg, sub_eq_add_neg, add_assoc]
    rw [foldl_mul, mul_zero]
    congr 1; funext acc a; ring

end Fdtdx.C16
