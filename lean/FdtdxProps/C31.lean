/-
C31 — Setups survive a JSON round trip.

Theorems about `FdtdxModel/C31.lean` (`exportJ` = `_export_json`, `importJ` = `_import_obj_from_json`), by structural
induction over values of ANY size and nesting depth.  On the serialisable fragment `Ser` (no reserved key among the
fields of an object / dataclass or the keys of a dict, no TreeClass called `dict`, array data a number or nested
lists of numbers) every value exports and importing the export gives the value back (`C31_roundtrip`, with the
placement setup dict as an instance).  A dict with a reserved key is rejected by the export instead of exporting
something that imports to a different value.  Importing a JSON object is invariant under permutations of its
entries (distinct keys) up to the order of the resulting keyword arguments / dict entries, so `sort_keys=True`
cannot change the result (`C31_import_key_order`).  `asFound_*`: refutation witnesses for the tree as found (only
two keys asserted).
-/
import FdtdxModel.C31
import Mathlib.Data.List.Perm.Basic
import Mathlib.Data.List.Nodup

namespace Fdtdx.C31

mutual
/-- the serialisable fragment -/
def Ser : Val → Prop
  | .array d => Raw d
  | .dataclass _ _ fs => SerF fs
  | .obj _ n fs => n ≠ "dict" ∧ SerF fs
  | .dict es => SerF es
  | .list xs => SerL xs
  | .tuple xs => SerL xs
  | _ => True
def SerF : List (String × Val) → Prop
  | [] => True
  | (k, v) :: r => k ∉ reserved ∧ Ser v ∧ SerF r
def SerL : List Val → Prop
  | [] => True
  | v :: r => Ser v ∧ SerL r
/-- `tolist()` data -/
def Raw : Val → Prop
  | .num _ => True
  | .bool _ => True
  | .list xs => RawL xs
  | _ => False
def RawL : List Val → Prop
  | [] => True
  | v :: r => Raw v ∧ RawL r
end

/-! ### lookups in lists without reserved keys -/

def KeysOK (fs : List (String × Val)) : Prop := ∀ p ∈ fs, p.1 ∉ reserved

theorem serF_keys : ∀ fs, SerF fs → KeysOK fs
  | [], _ => by intro p hp; cases hp
  | (k, v) :: r, h => by
    obtain ⟨hk, _, hr⟩ := h
    intro p hp
    rcases List.mem_cons.mp hp with rfl | hp
    · exact hk
    · exact serF_keys r hr p hp

theorem lookupV_cons (k' : String) (v' : Val) (rest : List (String × Val)) (k : String) :
    lookupV ((k', v') :: rest) k = if k' == k then some v' else lookupV rest k := by
  unfold lookupV
  rw [List.find?_cons]
  cases k' == k <;> rfl

theorem lookupV_meta (m n : String) (rest : List (String × Val)) (k : String) :
    lookupV (("__module__", .str m) :: ("__name__", .str n) :: rest) k =
      if "__module__" == k then some (.str m) else if "__name__" == k then some (.str n) else lookupV rest k := by
  rw [lookupV_cons, lookupV_cons]

theorem lookupV_none (fs : List (String × Val)) (k : String) (hk : k ∈ reserved) (h : KeysOK fs) : lookupV fs k = none := by
  induction fs with
  | nil => rfl
  | cons p rest ih =>
    rw [lookupV_cons, if_neg, ih fun q hq => h q (List.mem_cons_of_mem _ hq)]
    intro e
    exact h p List.mem_cons_self (eq_of_beq e ▸ hk)

theorem dropMeta_id (fs : List (String × Val)) (h : KeysOK fs) : dropMeta fs = fs := by
  unfold dropMeta
  rw [List.filter_eq_self]
  intro p hp
  have h1 : p.1 ≠ "__module__" := fun e => h p hp (by rw [e]; decide)
  have h2 : p.1 ≠ "__name__" := fun e => h p hp (by rw [e]; decide)
  simp [h1, h2]

/-- a wrapper whose payload sits under `__value__` -/
theorem assemble_value (m n : String) (p : Val) :
    assemble [("__module__", .str m), ("__name__", .str n), ("__value__", p)] =
      match p with
      | .dict r => some (.dataclass m n r)
      | .list r =>
        if m == "builtins" && n == "list" then some (.list r)
        else if m == "builtins" && n == "tuple" then some (.tuple r)
        else if m == "numpy" && n == "array" then some (.array (.list r))
        else none
      | .num x => if m == "numpy" && n == "array" then some (.array (.num x)) else none
      | .bool b => if m == "numpy" && n == "array" then some (.array (.bool b)) else none
      | _ => none := by
  unfold assemble
  rw [lookupV_meta, lookupV_meta, lookupV_meta, lookupV_meta, lookupV_cons, lookupV_cons]
  cases p <;> rfl

/-- a wrapper without payload: a dict or a TreeClass object -/
theorem assemble_fields (m n : String) (fs : List (String × Val)) (h : KeysOK fs) :
    assemble (("__module__", .str m) :: ("__name__", .str n) :: fs) =
      some (if n == "dict" then .dict fs else .obj m n fs) := by
  have hdm : dropMeta (("__module__", Val.str m) :: ("__name__", .str n) :: fs) = fs := dropMeta_id fs h
  unfold assemble
  rw [lookupV_meta, lookupV_meta, lookupV_meta, lookupV_meta, hdm,
    lookupV_none fs "__dtype__" (by decide) h, lookupV_none fs "__value__" (by decide) h]
  rfl

theorem importFields_meta (m n : String) (rest : List (String × J)) :
    importFields (("__module__", .str m) :: ("__name__", .str n) :: rest) =
      (importFields rest).map fun r => ("__module__", .str m) :: ("__name__", .str n) :: r := by
  have a : ("__module__" == "__value__") = false := by decide
  have b : ("__name__" == "__value__") = false := by decide
  simp only [importFields, a, b, importJ]
  cases importFields rest <;> rfl

/-- importing a wrapper: the entries are imported, then `assemble` sees them behind the two meta keys -/
theorem importJ_wrap_fields (m n : String) (r : List (String × J)) (fs : List (String × Val))
    (hi : importFields r = some fs) :
    importJ (wrap m n r) = assemble (("__module__", .str m) :: ("__name__", .str n) :: fs) := by
  rw [wrap, importJ, importFields_meta, hi]
  rfl

/-- importing a wrapper whose only entry is a payload under `__value__` -/
theorem importJ_wrap_value (m n : String) (j : J) (p : Val) (hp : importPayload j = some p) :
    importJ (wrap m n [("__value__", j)]) =
      assemble [("__module__", .str m), ("__name__", .str n), ("__value__", p)] :=
  importJ_wrap_fields m n _ _ (by simp only [importFields, beq_self_eq_true, if_true, hp])

/-! ### the round trip -/

mutual
theorem rt : ∀ v, Ser v → ∃ j, exportJ v = some j ∧ importJ j = some v
  | .none, _ => ⟨.null, rfl, rfl⟩
  | .bool b, _ => ⟨.bool b, rfl, rfl⟩
  | .num x, _ => ⟨.num x, rfl, rfl⟩
  | .str s, _ => ⟨.str s, rfl, rfl⟩
  | .dtype n, _ => ⟨.obj [("__dtype__", .str n)], rfl, rfl⟩
  | .array d, h => by
    obtain ⟨j, he, _, hp⟩ := rtRaw d h
    refine ⟨wrap "numpy" "array" [("__value__", j)], by rw [exportJ, he]; rfl, ?_⟩
    rw [importJ_wrap_value _ _ _ _ hp, assemble_value]
    cases d <;> first | rfl | exact h.elim
  | .dataclass m n fs, h => by
    obtain ⟨r, he, _, hi⟩ := rtF fs h
    refine ⟨wrap m n [("__value__", .obj r)], by rw [exportJ, he]; rfl, ?_⟩
    rw [importJ_wrap_value _ _ _ (.dict fs) (by rw [importPayload, hi]; rfl), assemble_value]
  | .obj m n fs, h => by
    obtain ⟨hn, hf⟩ := h
    obtain ⟨r, he, _, hi⟩ := rtF fs hf
    refine ⟨wrap m n r, by rw [exportJ, he]; rfl, ?_⟩
    rw [importJ_wrap_fields _ _ _ _ hi, assemble_fields m n fs (serF_keys fs hf), if_neg (by simpa using hn)]
  | .dict es, h => by
    obtain ⟨r, _, he, hi⟩ := rtF es h
    refine ⟨wrap "builtins" "dict" r, by rw [exportJ, he]; rfl, ?_⟩
    rw [importJ_wrap_fields _ _ _ _ hi, assemble_fields "builtins" "dict" es (serF_keys es h)]
    rfl
  | .list xs, h => by
    obtain ⟨r, he, hi⟩ := rtL xs h
    refine ⟨wrap "builtins" "list" [("__value__", .arr r)], by rw [exportJ, he]; rfl, ?_⟩
    rw [importJ_wrap_value _ _ _ (.list xs) (by rw [importPayload, hi]; rfl), assemble_value]
    rfl
  | .tuple xs, h => by
    obtain ⟨r, he, hi⟩ := rtL xs h
    refine ⟨wrap "builtins" "tuple" [("__value__", .arr r)], by rw [exportJ, he]; rfl, ?_⟩
    rw [importJ_wrap_value _ _ _ (.list xs) (by rw [importPayload, hi]; rfl), assemble_value]
    rfl
theorem rtF : ∀ fs, SerF fs → ∃ r, exportFields fs = some r ∧ exportDict fs = some r ∧ importFields r = some fs
  | [], _ => ⟨[], rfl, rfl, rfl⟩
  | (k, v) :: rest, h => by
    obtain ⟨hk, hv, hr⟩ := h
    obtain ⟨j, hej, hij⟩ := rt v hv
    obtain ⟨r, her, hdr, hir⟩ := rtF rest hr
    have hkv : ¬ (k == "__value__") = true := fun e => hk (eq_of_beq e ▸ by decide)
    refine ⟨(k, j) :: r, by rw [exportFields, hej, her],
      by rw [exportDict, if_neg (by simpa using hk), hej, hdr], ?_⟩
    rw [importFields, if_neg hkv, hij, hir]
theorem rtL : ∀ xs, SerL xs → ∃ r, exportList xs = some r ∧ importList r = some xs
  | [], _ => ⟨[], rfl, rfl⟩
  | v :: rest, h => by
    obtain ⟨hv, hr⟩ := h
    obtain ⟨j, hej, hij⟩ := rt v hv
    obtain ⟨r, her, hir⟩ := rtL rest hr
    exact ⟨j :: r, by rw [exportList, hej, her], by rw [importList, hij, hir]⟩
theorem rtRaw : ∀ d, Raw d → ∃ j, exportRaw d = some j ∧ importJ j = some d ∧ importPayload j = some d
  | .num x, _ => ⟨.num x, rfl, rfl, rfl⟩
  | .bool b, _ => ⟨.bool b, rfl, rfl, rfl⟩
  | .list xs, h => by
    obtain ⟨r, he, hi⟩ := rtRawL xs h
    exact ⟨.arr r, by rw [exportRaw, he]; rfl, by rw [importJ, hi]; rfl, by rw [importPayload, hi]; rfl⟩
  | .none, h | .str _, h | .dtype _, h | .array _, h | .dataclass _ _ _, h | .obj _ _ _, h | .dict _, h | .tuple _, h => h.elim
theorem rtRawL : ∀ xs, RawL xs → ∃ r, exportRawList xs = some r ∧ importList r = some xs
  | [], _ => ⟨[], rfl, rfl⟩
  | v :: rest, h => by
    obtain ⟨hv, hr⟩ := h
    obtain ⟨j, hej, hij, _⟩ := rtRaw v hv
    obtain ⟨r, her, hir⟩ := rtRawL rest hr
    exact ⟨j :: r, by rw [exportRawList, hej, her], by rw [importList, hij, hir]⟩
end

/-- C31_roundtrip: on the serialisable fragment, export succeeds and import ∘ export is the identity. -/
theorem C31_roundtrip (v : Val) (h : Ser v) : ∃ j, exportJ v = some j ∧ importJ j = some v := rt v h

/-- C31_roundtrip_setup: the payload of `place_objects` — config, object list, constraint list. -/
theorem C31_roundtrip_setup (config : Val) (objects constraints : List Val)
    (hc : Ser config) (ho : SerL objects) (hk : SerL constraints) :
    ∃ j, exportJ (.dict [("config", config), ("object_list", .list objects), ("constraints", .list constraints)]) = some j ∧
      importJ j = some (.dict [("config", config), ("object_list", .list objects), ("constraints", .list constraints)]) := by
  apply rt
  refine ⟨by decide, hc, by decide, ho, by decide, hk, trivial⟩

/-- C31_reserved_rejected: a dict that uses a reserved key is not exported. -/
theorem C31_reserved_rejected (k : String) (hk : k ∈ reserved) (v : Val) (rest : List (String × Val)) :
    exportJ (.dict ((k, v) :: rest)) = none := by
  simp [exportJ, exportDict, hk]

/-! ### the tree as found (two asserted keys): refutation witnesses, replayed on the real code by the harness -/

/-- `{"__value__": {"a": 1}}` exported fine and re-imported as a different value (the Python code returned
`{"__module__": "builtins", "__name__": "dict", "a": 1}`) -/
theorem asFound_value_key :
    ∃ j, AsFound.exportFlatDict [("__value__", .dict [("a", .num (.int 1))])] = some j ∧
      importJ j = some (.dataclass "builtins" "dict"
        [("__module__", .str "builtins"), ("__name__", .str "dict"), ("a", .num (.int 1))]) ∧
      importJ j ≠ some (.dict [("__value__", .dict [("a", .num (.int 1))])]) := by
  refine ⟨_, rfl, ?_⟩
  have h : importJ (wrap "builtins" "dict" [("__value__", wrap "builtins" "dict" [("a", J.num (Num.int 1))])]) =
      some (.dataclass "builtins" "dict"
        [("__module__", .str "builtins"), ("__name__", .str "dict"), ("a", .num (.int 1))]) := by
    rw [importJ_wrap_value _ _ _ (.dict [("__module__", .str "builtins"), ("__name__", .str "dict"), ("a", .num (.int 1))])
      (by rw [wrap, importPayload, importFields_meta]; rfl), assemble_value]
  exact ⟨h, by rw [h]; intro e; cases e⟩

/-- `{"__dtype__": 5}` exported fine and could not be imported -/
theorem asFound_dtype_key :
    ∃ j, AsFound.exportFlatDict [("__dtype__", .num (.int 5))] = some j ∧ importJ j = none := by
  refine ⟨_, rfl, ?_⟩
  show importJ (wrap "builtins" "dict" [("__dtype__", J.num (Num.int 5))]) = none
  rw [importJ_wrap_fields _ _ _ [("__dtype__", .num (.int 5))] rfl]
  rfl

/-! ### the import does not depend on key order -/

/-- results that differ at most in the order of the keyword arguments / dict entries -/
inductive FieldPerm : Option Val → Option Val → Prop
  | none : FieldPerm Option.none Option.none
  | same (v : Val) : FieldPerm (some v) (some v)
  | dict (r r' : List (String × Val)) : r.Perm r' → FieldPerm (some (.dict r)) (some (.dict r'))
  | obj (m n : String) (r r' : List (String × Val)) : r.Perm r' → FieldPerm (some (.obj m n r)) (some (.obj m n r'))

def entry (p : String × J) : Option Val := if p.1 == "__value__" then importPayload p.2 else importJ p.2

theorem importFields_cons (p : String × J) (rest : List (String × J)) :
    importFields (p :: rest) =
      match entry p, importFields rest with
      | some a, some b => some ((p.1, a) :: b)
      | _, _ => Option.none := by
  obtain ⟨k, v⟩ := p
  simp only [importFields, entry]
  cases (if (k == "__value__") = true then importPayload v else importJ v) <;> cases importFields rest <;> rfl

/-- `importFields` imports entry by entry: it succeeds iff every entry does, and then keeps keys and order.  Both
the test and (up to permutation) the result are invariant under permutations of the entries. -/
theorem importFields_eq (kvs : List (String × J)) :
    importFields kvs =
      if kvs.all (fun p => (entry p).isSome) then some (kvs.map fun p => (p.1, (entry p).getD .none)) else none := by
  induction kvs with
  | nil => rfl
  | cons p rest ih =>
    rw [importFields_cons, ih, List.all_cons, List.map_cons]
    cases entry p <;> cases List.all rest fun p => (entry p).isSome <;> rfl

theorem lookupV_some_iff (fs : List (String × Val)) (hnd : (fs.map (·.1)).Nodup) (k : String) (v : Val) :
    lookupV fs k = some v ↔ (k, v) ∈ fs := by
  induction fs with
  | nil => simp [lookupV]
  | cons p rest ih =>
    obtain ⟨k', v'⟩ := p
    obtain ⟨hk', hnd⟩ := List.nodup_cons.mp hnd
    rw [lookupV_cons, List.mem_cons, Prod.mk.injEq]
    split
    · obtain rfl : k' = k := eq_of_beq ‹_›
      exact ⟨fun h => Or.inl ⟨rfl, (Option.some.inj h).symm⟩,
        fun h => h.elim (fun e => e.2 ▸ rfl) fun hm => absurd (List.mem_map_of_mem (f := (·.1)) hm) hk'⟩
    · exact (ih hnd).trans ⟨Or.inr, fun h => h.resolve_left fun e => ‹¬_› (beq_iff_eq.mpr e.1.symm)⟩

theorem lookupV_perm {fs fs' : List (String × Val)} (hp : fs.Perm fs') (hnd : (fs.map (·.1)).Nodup) (k : String) :
    lookupV fs k = lookupV fs' k := by
  have hnd' : (fs'.map (·.1)).Nodup := (hp.map _).nodup_iff.mp hnd
  apply Option.ext
  intro v
  rw [lookupV_some_iff fs hnd, lookupV_some_iff fs' hnd', hp.mem_iff]

theorem FieldPerm.refl : ∀ o, FieldPerm o o
  | Option.none => .none
  | some v => .same v

theorem assemble_perm {fs fs' : List (String × Val)} (hp : fs.Perm fs') (hnd : (fs.map (·.1)).Nodup) :
    FieldPerm (assemble fs) (assemble fs') := by
  have hd : dropMeta fs |>.Perm (dropMeta fs') := hp.filter _
  unfold assemble
  rw [← lookupV_perm hp hnd "__dtype__", ← lookupV_perm hp hnd "__module__", ← lookupV_perm hp hnd "__name__",
    ← lookupV_perm hp hnd "__value__"]
  -- the lookups agree, and every branch but the last ignores the entries
  repeat' split
  all_goals first | exact FieldPerm.refl _ | exact .dict _ _ hd | exact .obj _ _ _ _ hd

/-- C31_import_key_order: importing a JSON object does not depend on the order of its entries (keys distinct, as in
every JSON document): `json.dumps(sort_keys=True)` cannot change what is imported, only the order in which the keyword
arguments / dict entries are listed. -/
theorem C31_import_key_order (kvs kvs' : List (String × J)) (hp : kvs.Perm kvs') (hnd : (kvs.map (·.1)).Nodup) :
    FieldPerm (importJ (.obj kvs)) (importJ (.obj kvs')) := by
  rw [importJ, importJ, importFields_eq, importFields_eq, hp.all_eq]
  split
  · exact assemble_perm (hp.map _) (by rwa [List.map_map])
  · exact FieldPerm.none

/-- non-vacuity: an exported TreeClass object, its entries in export order and in the order `sort_keys` produces -/
def kvs0 : List (String × J) :=
  [("__module__", .str "fdtdx.x"), ("__name__", .str "Box"), ("shape", wrap "builtins" "tuple" [("__value__", .arr [.num (.int 2), .null])]),
   ("name", .str "Cube")]
def kvs0sorted : List (String × J) :=
  [("__module__", .str "fdtdx.x"), ("__name__", .str "Box"), ("name", .str "Cube"),
   ("shape", wrap "builtins" "tuple" [("__value__", .arr [.num (.int 2), .null])])]

example : (kvs0.map (·.1)).Nodup ∧ kvs0.Perm kvs0sorted ∧ (importJ (.obj kvs0)).isSome = true := by
  refine ⟨by decide, ?_, by decide⟩
  unfold kvs0 kvs0sorted
  exact (List.Perm.swap _ _ _).cons _ |>.cons _

example : FieldPerm (importJ (.obj kvs0)) (importJ (.obj kvs0sorted)) :=
  C31_import_key_order kvs0 kvs0sorted (by unfold kvs0 kvs0sorted; exact (List.Perm.swap _ _ _).cons _ |>.cons _) (by decide)

/-! ### non-vacuity: a nested setup-like value in the fragment -/
example : Ser (.dict [("config", .obj "fdtdx.config" "SimulationConfig" [("time", .num (.flt 0)), ("dtype", .dtype "jax.numpy.float32")]),
    ("object_list", .list [.obj "m" "Box" [("shape", .tuple [.num (.int 2), .none]), ("edges", .array (.list [.num (.flt 1)]))]]),
    ("constraints", .list [.dataclass "m" "PositionConstraint" [("object", .str "a"), ("axes", .tuple [.num (.int 0)])]])]) := by
  simp [Ser, SerF, SerL, Raw, RawL, reserved]

end Fdtdx.C31
