/-
C06 — The simulation state depends only on the steps executed, not on how the run is split; reset.

Theorems about `FdtdxModel/C06.lean` (+ the loops of `FdtdxModel/C05.lean`), for every total step count T, every step
function `body` (Yee update, sources, detector recording with arbitrary switches — nothing about it is assumed, the
detector records are part of the state) and every container.

Runs: a partial run start → stop of at most T steps is `forward` iterated stop - start times, so consecutive partial
runs compose (`C06_split`, `C06_history`), and `run_fdtd` without gradient is `custom_fdtd_forward(reset_container=True,
0, T)` and any history 0 = a_0 ≤ … ≤ a_n = T of partial runs on the reset container.

Reset: with NO finiteness hypothesis and for any scalar type, every field entry (all six FieldState components), every
detector entry and (flag set) every recording entry is exactly 0 afterwards; materials, shapes and (default flags) the
recording state are kept; reset is idempotent; containers of the same frame reset to the SAME container, hence reruns —
also from the arrays a previous run returned, under every accepted gradient strategy — reproduce the result.
`record_detectors`: rows that no step of the executed window writes are what the optional reset made them.

`AsFound`: the pinned tree reset detector / recording states by `v * 0`; over `Ext K` (scalars with a non-finite
element) that zeroes exactly the finite entries and keeps the others — machine-checked refutation of "reset zeroes all
time-dependent state" (witness examples), replayed on the implementation by K/S and repaired by a `fix:` commit; on
finite scalars the fix changes nothing (`AsFound.reset_eq_of_finite`).
-/
import FdtdxProps.C05
import FdtdxModel.C06
import Mathlib.Algebra.GroupWithZero.Defs

namespace Fdtdx.C06
open Fdtdx.C05

/-! ### partial runs -/

section runs
variable {σ : Type}

/-- **C06 (partial run)**: `custom_fdtd_forward(start, stop)` without reset is `forward` iterated `stop - start`
times, provided the loop bound `max_steps = T` is not hit. -/
theorem C06_partial_run (T : Nat) (reset : σ → σ) (body : Nat → σ → σ) (start stop : Nat) (a : σ)
    (hT : stop - start ≤ T) :
    customForward T false reset body start stop a = (step body)^[stop - start] (start, a) :=
  whileLoop_until body stop T (start, a) hT

theorem C06_partial_run_counter (T : Nat) (reset : σ → σ) (body : Nat → σ → σ) (start stop : Nat) (a : σ)
    (hle : start ≤ stop) (hT : stop - start ≤ T) :
    (customForward T false reset body start stop a).1 = stop := by
  rw [C06_partial_run T reset body start stop a hT, step_iterate_fst]
  exact Nat.add_sub_cancel' hle

/-- a partial run continued: the counter it returns is `b`, so running on from `(b, returned arrays)` is running on
from what it returned -/
theorem iterate_customForward (T : Nat) (reset : σ → σ) (body : Nat → σ → σ) (a b n : Nat) (s : σ)
    (hab : a ≤ b) (hT : b - a ≤ T) :
    (step body)^[n] (b, (customForward T false reset body a b s).2) = (step body)^[n + (b - a)] (a, s) := by
  rw [Function.iterate_add_apply, ← C06_partial_run T reset body a b s hT]
  exact congrArg _ (Prod.ext (C06_partial_run_counter T reset body a b s hab hT).symm rfl)

/-- **C06 (split)**: running `a → b` and then `b → c` on the returned arrays gives exactly the state of the
single run `a → c` — fields and detector records alike, they are all part of `σ`. -/
theorem C06_split (T : Nat) (reset : σ → σ) (body : Nat → σ → σ) (a b c : Nat) (s : σ)
    (hab : a ≤ b) (hbc : b ≤ c) (hT : c - a ≤ T) :
    customForward T false reset body b c (customForward T false reset body a b s).2
      = customForward T false reset body a c s := by
  have hba : b - a ≤ T := Nat.le_trans (Nat.sub_le_sub_right hbc a) hT
  have hcb : c - b ≤ T := Nat.le_trans (Nat.sub_le_sub_left hab c) hT
  rw [C06_partial_run T reset body b c _ hcb, C06_partial_run T reset body a c s hT,
    iterate_customForward T reset body a b _ s hab hba, Nat.sub_add_sub_cancel hbc hab]

theorem le_getLast_of_isChain (l : List Nat) (b : Nat) (h : List.IsChain (· ≤ ·) (b :: l)) :
    b ≤ (b :: l).getLast (List.cons_ne_nil b l) := by
  induction l generalizing b with
  | nil => exact Nat.le_refl b
  | cons c rest ih =>
    rw [List.isChain_cons_cons] at h
    rw [List.getLast_cons_cons]
    exact Nat.le_trans h.1 (ih c h.2)

/-- **C06 (history)**: a chain of consecutive partial runs `a_0 ≤ a_1 ≤ … ≤ a_n` (`n ≥ 1`; any number of split points,
any positions, empty pieces allowed) equals the single run `a_0 → a_n`: `forward` iterated `a_n - a_0` times. -/
theorem C06_history (T : Nat) (body : Nat → σ → σ) (rest : List Nat) (a b : Nat) (st : Nat × σ)
    (hchain : List.IsChain (· ≤ ·) (a :: b :: rest)) (hT : (b :: rest).getLast (List.cons_ne_nil b rest) - a ≤ T) :
    runHistory T body (a :: b :: rest) st = (step body)^[(b :: rest).getLast (List.cons_ne_nil b rest) - a] (a, st.2) := by
  induction rest generalizing a b st with
  | nil => exact C06_partial_run T id body a b st.2 hT
  | cons c rest ih =>
    rw [List.isChain_cons_cons] at hchain
    have hbl := le_getLast_of_isChain (c :: rest) b hchain.2
    rw [List.getLast_cons_cons] at hT hbl ⊢
    have hba : b - a ≤ T := Nat.le_trans (Nat.sub_le_sub_right hbl a) hT
    have hlb := Nat.le_trans (Nat.sub_le_sub_left hchain.1 _) hT
    show runHistory T body (b :: c :: rest) (customForward T false id body a b st.2) = _
    rw [ih b c _ hchain.2 hlb, iterate_customForward T id body a b _ st.2 hchain.1 hba,
      Nat.sub_add_sub_cancel hbl hchain.1]

/-- **C06 (run_fdtd vs custom_fdtd_forward)**: the no-gradient `run_fdtd` equals
`custom_fdtd_forward(reset_container=True, record_detectors as in run_fdtd, 0, T)`. -/
theorem C06_run_fdtd_eq_custom (T : Nat) (reset : σ → σ) (body : Nat → σ → σ) (a : σ) :
    runFdtd T .none none false reset body a = .ok (customForward T true reset body 0 T a) :=
  -- literally the same loop: TimeStepCondition is `T > t`, the bound is `T`, the start `(0, reset a)`
  rfl

/-- … and any history of partial runs `0 = a_0 ≤ a_1 ≤ … ≤ a_n = T` on the reset container. -/
theorem C06_run_fdtd_eq_history (T : Nat) (reset : σ → σ) (body : Nat → σ → σ) (a : σ) (pts : List Nat)
    (hne : pts ≠ []) (hchain : List.IsChain (· ≤ ·) (0 :: pts)) (hlast : (0 :: pts).getLast (by simp) = T) :
    runFdtd T .none none false reset body a = .ok (runHistory T body (0 :: pts) (0, reset a)) := by
  cases pts with
  | nil => exact absurd rfl hne
  | cons b rest =>
    rw [List.getLast_cons_cons] at hlast
    rw [C06_history T body rest 0 b (0, reset a) hchain (Nat.le_of_eq hlast), hlast]
    exact congrArg Except.ok (C05_checkpointed_eq_iterate T reset body a)

end runs

/-! ### reset (any scalar type: it writes the literal 0, no arithmetic is involved) -/

section reset
variable {α : Type} [OfNat α 0]

theorem eq_zero_of_mem_zerosLike {l : List α} {x : α} (hx : x ∈ zerosLike l) : x = 0 := by
  obtain ⟨_, _, rfl⟩ := List.mem_map.mp hx
  rfl

/-- **C06 (reset zeroes all time-dependent state)** — no finiteness hypothesis: for ANY scalar type (binary64 with
NaN/inf, the extended scalars `Ext K` below, …) every field entry and every detector entry is exactly the literal 0
after reset, and so is every recording entry when its flag is set. -/
theorem C06_reset_zero (c : Container α) (rr : Bool) :
    (∀ x ∈ (c.reset true rr).fields, x = 0) ∧ (∀ x ∈ (c.reset true rr).det, x = 0)
    ∧ (∀ l, (c.reset true true).recording = some l → ∀ x ∈ l, x = 0) := by
  refine ⟨fun x hx => eq_zero_of_mem_zerosLike hx, fun x hx => eq_zero_of_mem_zerosLike hx, fun l hl x hx => ?_⟩
  obtain ⟨r, -, rfl⟩ := Option.map_eq_some_iff.mp hl
  exact eq_zero_of_mem_zerosLike hx

/-- **C06 (reset covers every FieldState component)**: the field part of `reset` is one map over all six components —
E, H, the CPML auxiliaries psi_E / psi_H and the ADE polarisation at the current AND the previous step.  Each component is
all zero afterwards, and zeroing the flattened leaves (what `Container.reset` does) is the same thing. -/
theorem C06_reset_fieldstate (f : FieldState α) :
    zerosLike f.leaves = f.zeroAll.leaves
    ∧ (∀ x ∈ f.zeroAll.E, x = 0) ∧ (∀ x ∈ f.zeroAll.H, x = 0)
    ∧ (∀ x ∈ f.zeroAll.psiE, x = 0) ∧ (∀ x ∈ f.zeroAll.psiH, x = 0)
    ∧ (∀ x ∈ f.zeroAll.pCurr, x = 0) ∧ (∀ x ∈ f.zeroAll.pPrev, x = 0)
    ∧ (∀ (c : Container α), c.fields = f.leaves → ∀ rd rr, (c.reset rd rr).fields = f.zeroAll.leaves) := by
  have hz : ∀ (l : List α) x, x ∈ zerosLike l → x = 0 := fun _ _ => eq_zero_of_mem_zerosLike
  have hl : zerosLike f.leaves = f.zeroAll.leaves := by
    simp only [FieldState.leaves, FieldState.zeroAll, zerosLike, List.map_append]
  refine ⟨hl, hz _, hz _, hz _, hz _, hz _, hz _, ?_⟩
  intro c hc rd rr
  rw [← hl, ← hc]
  rfl

/-- **C06 (reset keeps materials)** — and, with the default flags, the recording state; all shapes are kept. -/
theorem C06_reset_preserves (c : Container α) (rd rr : Bool) :
    (c.reset rd rr).mat = c.mat
    ∧ (c.reset rd false).recording = c.recording
    ∧ (c.reset rd rr).fields.length = c.fields.length
    ∧ (c.reset rd rr).det.length = c.det.length
    ∧ (c.reset false rr).det = c.det := by
  refine ⟨rfl, rfl, by simp [Container.reset, zerosLike], ?_, rfl⟩
  cases rd <;> simp [Container.reset, zerosLike]

/-- **C06 (reset is idempotent)** -/
theorem C06_reset_idem (c : Container α) (rd rr : Bool) : (c.reset rd rr).reset rd rr = c.reset rd rr := by
  have hz (l : List α) : zerosLike (zerosLike l) = zerosLike l := by simp [zerosLike]
  simp +contextual [Container.reset, hz, Function.comp_def]

/-- same materials, same recording state, same shapes -/
def sameFrame (c c' : Container α) : Prop :=
  c.mat = c'.mat ∧ c.recording = c'.recording ∧ c.fields.length = c'.fields.length ∧ c.det.length = c'.det.length

omit [OfNat α 0] in
theorem sameFrame.trans {a b c : Container α} (h : sameFrame a b) (h' : sameFrame b c) : sameFrame a c :=
  ⟨h.1.trans h'.1, h.2.1.trans h'.2.1, h.2.2.1.trans h'.2.2.1, h.2.2.2.trans h'.2.2.2⟩

/-- **C06 (reset forgets the time-dependent state)**: containers of the same frame reset to the same container,
whatever (finite or not) their fields and detector states held. -/
theorem C06_reset_eq_of_sameFrame (c c' : Container α) (h : sameFrame c c') : c.reset = c'.reset := by
  obtain ⟨hm, hr, hf, hd⟩ := h
  -- a list of zeros is determined by its length
  simp only [Container.reset, if_true, Bool.false_eq_true, if_false, zerosLike, List.map_const', hf, hd, hm, hr]

/-- **C06 (runs after reset are deterministic)**: `run_fdtd` (every accepted gradient strategy) started from two
containers of the same frame returns identical results. -/
theorem C06_rerun_deterministic (T : Nat) (g : Grad) (body : Nat → Container α → Container α)
    (c c' : Container α) (h : sameFrame c c') :
    runFdtd T g none false (fun x => x.reset) body c = runFdtd T g none false (fun x => x.reset) body c' := by
  have hr := C06_reset_eq_of_sameFrame c c' h
  cases g <;> simp [runFdtd, checkpointedRun, reversibleRun, hr]

/-- … in particular a second run started from the arrays returned by a first run (diverged or not) reproduces it,
as long as one time step does not change materials, recording state or shapes (a property of `forward`). -/
theorem C06_rerun_from_output (T : Nat) (body : Nat → Container α → Container α)
    (hbody : ∀ t x, sameFrame (body t x) x) (c : Container α) :
    ∀ out, runFdtd T .none none false (fun x => x.reset) body c = .ok out →
      runFdtd T .none none false (fun x => x.reset) body out.2 = .ok out := by
  intro out hout
  have hval : (step body)^[T] (0, c.reset) = out :=
    Except.ok.inj ((congrArg Except.ok (C05_checkpointed_eq_iterate T _ body c)).symm.trans hout)
  -- the frame of the reset container is that of `c`, and every step keeps it
  obtain ⟨p1, p2, p3, p4, _⟩ := C06_reset_preserves c true false
  have hsf : sameFrame out.2 c := hval ▸ Function.Iterate.rec (fun s : Nat × Container α => sameFrame s.2 c)
    ⟨p1, p2, p3, p4⟩ (fun s h => (hbody s.1 s.2).trans h) T
  rw [C06_rerun_deterministic T .none body out.2 c hsf, hout]

/-- … under every accepted gradient strategy (the arrays returned by a reversible / checkpointed run are as good a
starting point as a fresh placement) -/
theorem C06_rerun_from_output_any (T : Nat) (g : Grad) (hg : validGrad T g) (body : Nat → Container α → Container α)
    (hbody : ∀ t x, sameFrame (body t x) x) (c : Container α) :
    ∀ out, runFdtd T g none false (fun x => x.reset) body c = .ok out →
      runFdtd T g none false (fun x => x.reset) body out.2 = .ok out := by
  intro out hout
  rw [C05_strategy_pairwise T g .none hg trivial] at hout ⊢
  exact C06_rerun_from_output T body hbody c out hout

end reset

/-! ### reset_container × record_detectors -/

section recordflag
variable {α : Type} [OfNat α 0]

omit [OfNat α 0] in
theorem iterate_row_kept (f : Nat → Container α → Container α) (writes : Nat → Prop) (i : Nat)
    (hrow : ∀ t x, ¬ writes t → (f t x).det[i]? = x.det[i]?)
    (n : Nat) (s : Nat × Container α) (hq : ∀ j, j < n → ¬ writes (s.1 + j)) :
    ((step f)^[n] s).2.det[i]? = s.2.det[i]? := by
  induction n generalizing s with
  | zero => rfl
  | succ n ih =>
    rw [Function.iterate_succ_apply]
    refine (ih (step f s) fun j hj => ?_).trans (hrow s.1 s.2 (hq 0 (Nat.succ_pos n)))
    rw [show (step f s).1 + j = s.1 + (j + 1) from Nat.add_right_comm s.1 1 j]
    exact hq (j + 1) (Nat.succ_lt_succ hj)

/-- **C06 (recording calls)**: row `i` of a detector state that no step of the executed window `[start, stop)` writes
is exactly what the (optional) reset made it: zero after `reset_container=True`, the earlier value otherwise. -/
theorem C06_recorded_rows (T : Nat) (body : Bool → Nat → Container α → Container α) (rd : Bool)
    (writes : Nat → Prop) (i : Nat)
    (hrow : ∀ t x, ¬ writes t → (body rd t x).det[i]? = x.det[i]?)
    (start stop : Nat) (hq : ∀ t, start ≤ t → t < stop → ¬ writes t) (rs : Bool) (c : Container α) :
    (customForwardRD T rs rd (fun x => x.reset) body start stop c).2.det[i]?
      = (if rs then c.reset else c).det[i]? := by
  -- the loop is some number `n` of steps, and before each of them the counter was still below `stop`
  obtain ⟨n, -, he, htrue, -⟩ := whileLoop_spec (fun s => decide (stop > s.1)) (step (body rd)) T
    (start, if rs then c.reset else c)
  unfold customForwardRD customForward
  rw [he]
  apply iterate_row_kept (body rd) writes i hrow
  intro j hj
  have := htrue j hj
  rw [step_iterate_fst, decide_eq_true_eq] at this
  exact hq _ (Nat.le_add_right start j) this

/-- **C06 (reset_container with record_detectors = False)**: a call that does not record leaves the detector states
exactly as the (optional) reset made them — all zero after `reset_container=True`, untouched otherwise —
whatever the container held before (a recorded run, non-finite rubbish, …) and whatever window is run. -/
theorem C06_unrecorded_detectors (T : Nat) (body : Bool → Nat → Container α → Container α)
    (hno : ∀ t x, (body false t x).det = x.det) (start stop : Nat) (c : Container α) :
    (customForwardRD T true false (fun x => x.reset) body start stop c).2.det = zerosLike c.det
    ∧ (∀ v ∈ (customForwardRD T true false (fun x => x.reset) body start stop c).2.det, v = 0)
    ∧ (customForwardRD T false false (fun x => x.reset) body start stop c).2.det = c.det := by
  have h : ∀ rs, (customForwardRD T rs false (fun x => x.reset) body start stop c).2.det
      = (if rs then c.reset else c).det := by
    -- no row is written by any step
    intro rs
    exact List.ext_getElem? fun i => C06_recorded_rows T body false (fun _ => False) i (fun t x _ => by rw [hno])
      start stop (fun _ _ _ => id) rs c
  refine ⟨by rw [h true]; rfl, ?_, by rw [h false]; rfl⟩
  intro v hv
  rw [h true] at hv
  exact (C06_reset_zero c false).2.1 v hv

end recordflag

/-- the provenance model of the driver satisfies the hypothesis `hno` of `C06_unrecorded_detectors` -/
theorem recordBody_unrecorded (rows : List (List Nat)) (t : Nat) (x : Container Tag) :
    (recordBody rows false t x).det = x.det := rfl

example : (customForwardRD 10 true false (fun x => x.reset) (recordBody [[0], [3], [0, 3, 6], []]) 2 5
    ⟨[.kept 0], [.kept 0, .kept 1, .kept 2, .kept 3], none, []⟩).2.det = [.zero, .zero, .zero, .zero] := rfl
example : (customForwardRD 10 true true (fun x => x.reset) (recordBody [[0], [3], [0, 3, 6], []]) 2 5
    ⟨[.kept 0], [.kept 0, .kept 1, .kept 2, .kept 3], none, []⟩).2.det = [.zero, .recorded, .recorded, .zero] := rfl
example : (customForwardRD 10 false true (fun x => x.reset) (recordBody [[0], [3], [0, 3, 6], []]) 2 5
    ⟨[.kept 0], [.kept 0, .kept 1, .kept 2, .kept 3], none, []⟩).2.det = [.kept 0, .recorded, .recorded, .kept 3] := rfl

/-! ### scalars with a non-finite element -/

/-- a scalar type with one non-finite element absorbing multiplication (NaN; `inf * 0` is NaN too) -/
inductive Ext (K : Type) where
  | fin (x : K)
  | nan
  deriving DecidableEq, Repr

instance {K : Type} [Mul K] : Mul (Ext K) :=
  ⟨fun a b => match a, b with
    | .fin x, .fin y => .fin (x * y)
    | _, _ => .nan⟩

instance {K : Type} [OfNat K 0] : OfNat (Ext K) 0 := ⟨.fin 0⟩

/-- `C06_reset_zero` at the extended scalars: non-finite entries are zeroed as well -/
theorem C06_reset_zero_ext {K : Type} [OfNat K 0] (c : Container (Ext K)) :
    (∀ x ∈ c.reset.fields, x = Ext.fin 0) ∧ (∀ x ∈ c.reset.det, x = Ext.fin 0) :=
  ⟨(C06_reset_zero c false).1, (C06_reset_zero c false).2.1⟩

/-! ### the pinned tree (`v * 0`): refutation of "reset zeroes all time-dependent state" -/

namespace AsFound

/-- as found, over scalars with a non-finite element: `zeros_like` zeroes every field entry; `v * 0` zeroes exactly
the finite detector entries and leaves the non-finite ones non-finite. -/
theorem C06_reset_ext {K : Type} [MulZeroClass K] (c : Container (Ext K)) :
    (∀ x ∈ (AsFound.reset c).fields, x = Ext.fin 0)
    ∧ (AsFound.reset c).det = c.det.map (fun v => match v with | .fin _ => Ext.fin 0 | .nan => Ext.nan) := by
  constructor
  · exact fun x hx => eq_zero_of_mem_zerosLike hx
  · simp only [AsFound.reset, if_true, timesZero]
    apply List.map_congr_left
    intro v _
    cases v with
    | fin x => show Ext.fin (x * 0) = Ext.fin 0; rw [mul_zero]
    | nan => rfl

/-- as found the sentence held only for finite detector states -/
theorem C06_reset_ext_finite {K : Type} [MulZeroClass K] (c : Container (Ext K))
    (hfin : ∀ v ∈ c.det, ∃ x, v = Ext.fin x) : ∀ v ∈ (AsFound.reset c).det, v = Ext.fin 0 := by
  intro v hv
  rw [(C06_reset_ext c).2] at hv
  obtain ⟨w, hw, rfl⟩ := List.mem_map.mp hv
  obtain ⟨x, rfl⟩ := hfin w hw
  rfl

/-- on finite scalars (`x * 0 = 0`) the as-found reset and the fixed one coincide: the fix changes nothing there -/
theorem reset_eq_of_finite {K : Type} [MulZeroClass K] (c : Container K) (rd rr : Bool) :
    AsFound.reset c rd rr = c.reset rd rr := by
  have h : (timesZero : List K → List K) = zerosLike := funext fun l => by simp [timesZero, zerosLike]
  simp only [AsFound.reset, Container.reset, h]

/-- witness: a non-finite detector entry survives the as-found reset (and the next run starts from it) … -/
example : (AsFound.reset (α := Ext Int) ⟨[.nan, .fin 2], [.fin 3, .nan], none, [.fin 7]⟩)
    = ⟨[.fin 0, .fin 0], [.fin 0, .nan], none, [.fin 7]⟩ := rfl
/-- … so two containers of the same frame do NOT reset to the same container as found -/
example : AsFound.reset (α := Ext Int) ⟨[.fin 0], [.nan], none, []⟩ ≠ AsFound.reset ⟨[.fin 0], [.fin 1], none, []⟩ := by
  decide

end AsFound

/-! ### non-vacuity -/

-- hypotheses of C06_split / C06_history are satisfiable by a non-trivial history
example : (2 : Nat) ≤ 5 ∧ 5 ≤ 9 ∧ 9 - 2 ≤ 10 := by omega
example : List.IsChain (· ≤ ·) [0, 3, 3, 7, 10] ∧ [0, 3, 3, 7, 10].getLast (by simp) = 10 := by decide
example : runHistory 10 logBody [0, 3, 3, 7, 10] (0, []) = (10, [0, 1, 2, 3, 4, 5, 6, 7, 8, 9]) := rfl
-- as found, the loop bound is the total step count: a window longer than T is cut short (hypothesis c - a ≤ T)
example : customForward 4 false id logBody 3 9 [] = (7, [3, 4, 5, 6]) := rfl
-- sameFrame is satisfiable by containers with different (also non-finite) time-dependent state
example : sameFrame (α := Ext Int) ⟨[.fin 1, .nan], [.nan], none, [.fin 7]⟩ ⟨[.fin 0, .fin 5], [.fin 9], none, [.fin 7]⟩ := by
  unfold sameFrame; decide
-- the fixed reset zeroes non-finite detector entries too
example : (Container.reset (α := Ext Int) ⟨[.nan, .fin 2], [.fin 3, .nan], none, [.fin 7]⟩)
    = ⟨[.fin 0, .fin 0], [.fin 0, .fin 0], none, [.fin 7]⟩ := rfl

end Fdtdx.C06
