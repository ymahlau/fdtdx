/-
C08 — The solver is equivariant under cyclic permutation of the axes.

`rotF / rotV / rotC / rotM` (`FdtdxModel/C08.lean`) relabel arrays, vector fields, the configuration (shape, per-axis
halo rule, ghost multipliers, PEC/PMC wall flags, metric scales) and the materials (diagonal tensors, conductivities)
by x → y, y → z, z → x.  The theorems are about the shared Yee model, over ANY scalar type with the operations the
model uses (so in particular binary64 itself — nothing but the shape of the formulas is used, no algebraic law).

Each operation of the step commutes with the relabelling — the curls by unfolding, the wall masks because component `c`
of the scene is component `c+1 mod 3` of the relabelled one, the material updates because they act cell by cell and
component by component (`cellwise`) — hence so do the step (`C08_step_equivariant`, `C08_backward_equivariant`) and
runs of any length with step-indexed source terms.  The material updates are stated for a given curl (`updEwith_rot` …),
which serves the CPML step (`FdtdxProps/C08Cpml.lean`) as well; full 3×3 tensors are in `FdtdxProps/C08Aniso.lean`.
At the end: the raw Poynting record, `rot`³ = id, and the oriented (horizontal, vertical, propagation) triple of the
sources.  Not covered by a theorem (K on the real code only, see props/C08.json → not_shown): the construction of the
source terms from the source objects (`get_oriented_transverse_axes`, profiles).
-/
import FdtdxModel.C08

namespace Fdtdx.C08
open Fdtdx Fdtdx.Yee
set_option linter.unusedSectionVars false

section
variable {α : Type} [Add α] [Sub α] [Mul α] [Div α] [OfNat α 0] [OfNat α 1] [OfNat α 2]

theorem C08_curlE_equivariant (cf : Cfg α) (E : V3 α) : curlE (rotC cf) (rotV E) = rotV (curlE cf E) := rfl

theorem C08_curlH_equivariant (cf : Cfg α) (H : V3 α) : curlH (rotC cf) (rotV H) = rotV (curlH cf H) := rfl

theorem rotC_c (cf : Cfg α) : (rotC cf).c = cf.c := rfl
theorem rotC_eta0 (cf : Cfg α) : (rotC cf).eta0 = cf.eta0 := rfl

theorem addV_rot (A B : V3 α) : addV (rotV A) (rotV B) = rotV (addV A B) := rfl
theorem subV_rot (A B : V3 α) : subV (rotV A) (rotV B) = rotV (subV A B) := rfl

theorem or_rotate (a b c : Bool) : (a || b || c) = (b || c || a) := by rw [Bool.or_assoc, Bool.or_comm]

/-- the wall masks rotate with the component index: component `c` of the original scene is component `c+1 mod 3` of the
relabelled one.  Both sides test the same three walls, the relabelled scene starting one axis later. -/
theorem pecMask_rot (cf : Cfg α) (i j k : Nat) :
    pecMask (rotC cf) 1 i j k = pecMask cf 0 j k i ∧ pecMask (rotC cf) 2 i j k = pecMask cf 1 j k i
      ∧ pecMask (rotC cf) 0 i j k = pecMask cf 2 j k i :=
  ⟨or_rotate _ _ _, or_rotate _ _ _, or_rotate _ _ _⟩

theorem pmcMask_rot (cf : Cfg α) (i j k : Nat) :
    pmcMask (rotC cf) 1 i j k = pmcMask cf 0 j k i ∧ pmcMask (rotC cf) 2 i j k = pmcMask cf 1 j k i
      ∧ pmcMask (rotC cf) 0 i j k = pmcMask cf 2 j k i :=
  ⟨or_rotate _ _ _, or_rotate _ _ _, or_rotate _ _ _⟩

theorem maskV_rot (m m' : Nat → Nat → Nat → Nat → Bool)
    (h : ∀ i j k, m' 1 i j k = m 0 j k i ∧ m' 2 i j k = m 1 j k i ∧ m' 0 i j k = m 2 j k i) (V : V3 α) :
    maskV m' (rotV V) = rotV (maskV m V) := by
  unfold maskV rotV
  congr 1 <;> funext i j k <;> simp only [rotF, h i j k]

/-- **C08_walls_equivariant**: PEC / PMC tangential zeroing commutes with the relabelling -/
theorem C08_walls_equivariant (cf : Cfg α) (V : V3 α) :
    projE (rotC cf) (rotV V) = rotV (projE cf V) ∧ projH (rotC cf) (rotV V) = rotV (projH cf V) :=
  ⟨maskV_rot _ _ (pecMask_rot cf) V, maskV_rot _ _ (pmcMask_rot cf) V⟩

theorem optAt_rot (s : Option (V3 α)) (i j k : Nat) :
    optAt ((s.map rotV).map (·.x)) i j k = optAt (s.map (·.z)) j k i
      ∧ optAt ((s.map rotV).map (·.y)) i j k = optAt (s.map (·.x)) j k i
      ∧ optAt ((s.map rotV).map (·.z)) i j k = optAt (s.map (·.y)) j k i := by
  cases s <;> exact ⟨rfl, rfl, rfl⟩

/-- The four material updates (`updE1`, `updH1`, `revE1`, `revH1` as `f`) act cell by cell and component by component
on the field, the curl, the inverse material and the optional conductivity. -/
def cellwise (f : α → α → α → Option α → α) (F cu iv : V3 α) (sg : Option (V3 α)) : V3 α where
  x := fun i j k => f (F.x i j k) (cu.x i j k) (iv.x i j k) (optAt (sg.map (·.x)) i j k)
  y := fun i j k => f (F.y i j k) (cu.y i j k) (iv.y i j k) (optAt (sg.map (·.y)) i j k)
  z := fun i j k => f (F.z i j k) (cu.z i j k) (iv.z i j k) (optAt (sg.map (·.z)) i j k)

theorem cellwise_rot (f : α → α → α → Option α → α) (F cu iv : V3 α) (sg : Option (V3 α)) :
    cellwise f (rotV F) (rotV cu) (rotV iv) (sg.map rotV) = rotV (cellwise f F cu iv sg) := by
  cases sg <;> rfl

theorem fwdUpd_rot {proj proj' : V3 α → V3 α} (hp : ∀ V, proj' (rotV V) = rotV (proj V))
    (f : α → α → α → Option α → α) (F cu iv : V3 α) (sg : Option (V3 α)) (j : V3 α) :
    proj' (addV (cellwise f (rotV F) (rotV cu) (rotV iv) (sg.map rotV)) (rotV j))
      = rotV (proj (addV (cellwise f F cu iv sg) j)) := by
  rw [cellwise_rot, addV_rot, hp]

theorem revUpd_rot {proj proj' : V3 α → V3 α} (hp : ∀ V, proj' (rotV V) = rotV (proj V))
    (f : α → α → α → Option α → α) (F cu iv : V3 α) (sg : Option (V3 α)) (j : V3 α) :
    proj' (cellwise f (subV (rotV F) (rotV j)) (rotV cu) (rotV iv) (sg.map rotV))
      = rotV (proj (cellwise f (subV F j) cu iv sg)) := by
  rw [subV_rot, cellwise_rot, hp]

/-! The material updates for a given curl `cu` (shared with the CPML step, where the curl carries the PML terms). -/

theorem updEwith_rot (cf : Cfg α) (m : Mat α) (jE cu E : V3 α) :
    Cpml.updEwith (rotC cf) (rotM m) (rotV jE) (rotV cu) (rotV E) = rotV (Cpml.updEwith cf m jE cu E) :=
  fwdUpd_rot (fun V => (C08_walls_equivariant cf V).1) (updE1 cf.c cf.eta0) E cu m.invEps m.sigE jE

theorem updHwith_rot (cf : Cfg α) (m : Mat α) (jH cu H : V3 α) :
    Cpml.updHwith (rotC cf) (rotM m) (rotV jH) (rotV cu) (rotV H) = rotV (Cpml.updHwith cf m jH cu H) :=
  fwdUpd_rot (fun V => (C08_walls_equivariant cf V).2) (updH1 cf.c cf.eta0) H cu m.invMu m.sigH jH

theorem revHwith_rot (cf : Cfg α) (m : Mat α) (jH cu H : V3 α) :
    Cpml.revHwith (rotC cf) (rotM m) (rotV jH) (rotV cu) (rotV H) = rotV (Cpml.revHwith cf m jH cu H) :=
  revUpd_rot (fun V => (C08_walls_equivariant cf V).2) (revH1 cf.c cf.eta0) H cu m.invMu m.sigH jH

theorem revEwith_rot (cf : Cfg α) (m : Mat α) (jE cu E : V3 α) :
    Cpml.revEwith (rotC cf) (rotM m) (rotV jE) (rotV cu) (rotV E) = rotV (Cpml.revEwith cf m jE cu E) :=
  revUpd_rot (fun V => (C08_walls_equivariant cf V).1) (revE1 cf.c cf.eta0) E cu m.invEps m.sigE jE

/-! The half steps of `Yee` are these updates at the plain curl. -/

theorem stepE_rot (cf : Cfg α) (m : Mat α) (jE E H : V3 α) :
    stepE (rotC cf) (rotM m) (rotV jE) (rotV E) (rotV H) = rotV (stepE cf m jE E H) := by
  show Cpml.updEwith _ _ _ (curlH (rotC cf) (rotV H)) _ = rotV (Cpml.updEwith cf m jE (curlH cf H) E)
  rw [C08_curlH_equivariant, updEwith_rot]

theorem stepH_rot (cf : Cfg α) (m : Mat α) (jH E H : V3 α) :
    stepH (rotC cf) (rotM m) (rotV jH) (rotV E) (rotV H) = rotV (stepH cf m jH E H) := by
  show Cpml.updHwith _ _ _ (curlE (rotC cf) (rotV E)) _ = rotV (Cpml.updHwith cf m jH (curlE cf E) H)
  rw [C08_curlE_equivariant, updHwith_rot]

/-- **C08_step_equivariant**: one forward step of the relabelled scene is the relabelled forward step. -/
theorem C08_step_equivariant (cf : Cfg α) (m : Mat α) (jE jH E H : V3 α) :
    forward (rotC cf) (rotM m) (rotV jE) (rotV jH) (rotV E) (rotV H)
      = (rotV (forward cf m jE jH E H).1, rotV (forward cf m jE jH E H).2) := by
  simp only [forward, stepE_rot, stepH_rot]

theorem revStepH_rot (cf : Cfg α) (m : Mat α) (jH E H : V3 α) :
    revStepH (rotC cf) (rotM m) (rotV jH) (rotV E) (rotV H) = rotV (revStepH cf m jH E H) := by
  show Cpml.revHwith _ _ _ (curlE (rotC cf) (rotV E)) _ = rotV (Cpml.revHwith cf m jH (curlE cf E) H)
  rw [C08_curlE_equivariant, revHwith_rot]

theorem revStepE_rot (cf : Cfg α) (m : Mat α) (jE E H : V3 α) :
    revStepE (rotC cf) (rotM m) (rotV jE) (rotV E) (rotV H) = rotV (revStepE cf m jE E H) := by
  show Cpml.revEwith _ _ _ (curlH (rotC cf) (rotV H)) _ = rotV (Cpml.revEwith cf m jE (curlH cf H) E)
  rw [C08_curlH_equivariant, revEwith_rot]

/-- **C08_backward_equivariant**: one backward (time-reversed) step commutes with the relabelling. -/
theorem C08_backward_equivariant (cf : Cfg α) (m : Mat α) (jE jH E H : V3 α) :
    backward (rotC cf) (rotM m) (rotV jE) (rotV jH) (rotV E) (rotV H)
      = (rotV (backward cf m jE jH E H).1, rotV (backward cf m jE jH E H).2) := by
  simp only [backward, revStepH_rot, revStepE_rot]

/-- relabelling of a state (E, H) -/
def rotS (s : V3 α × V3 α) : V3 α × V3 α := (rotV s.1, rotV s.2)

/-- n forward steps starting at step `t`; the source terms of step `u` are `jE u`, `jH u` (any source set, switch,
temporal profile) -/
def fwdN (cf : Cfg α) (m : Mat α) (jE jH : Nat → V3 α) (t : Nat) : Nat → V3 α × V3 α → V3 α × V3 α
  | 0, s => s
  | n + 1, s => let s' := fwdN cf m jE jH t n s; forward cf m (jE (t + n)) (jH (t + n)) s'.1 s'.2

/-- n backward steps undoing steps t+n-1, …, t -/
def bwdN (cf : Cfg α) (m : Mat α) (jE jH : Nat → V3 α) (t : Nat) : Nat → V3 α × V3 α → V3 α × V3 α
  | 0, s => s
  | n + 1, s => bwdN cf m jE jH t n (backward cf m (jE (t + n)) (jH (t + n)) s.1 s.2)

/-- **C08_steps_equivariant**: a run of any length on the relabelled scene (shape, halo rules, walls, metric, materials,
source terms of every step, initial state) is the relabelled run. -/
theorem C08_steps_equivariant (cf : Cfg α) (m : Mat α) (jE jH : Nat → V3 α) (t n : Nat) (s : V3 α × V3 α) :
    fwdN (rotC cf) (rotM m) (fun u => rotV (jE u)) (fun u => rotV (jH u)) t n (rotS s)
      = rotS (fwdN cf m jE jH t n s) := by
  induction n with
  | zero => rfl
  | succ n ih =>
    simp only [fwdN, ih]
    exact C08_step_equivariant cf m _ _ _ _

theorem C08_backward_steps_equivariant (cf : Cfg α) (m : Mat α) (jE jH : Nat → V3 α) (t n : Nat) (s : V3 α × V3 α) :
    bwdN (rotC cf) (rotM m) (fun u => rotV (jE u)) (fun u => rotV (jH u)) t n (rotS s)
      = rotS (bwdN cf m jE jH t n s) := by
  induction n generalizing s with
  | zero => rfl
  | succ n ih => exact (congrArg (bwdN _ _ _ _ t n) (C08_backward_equivariant cf m _ _ s.1 s.2)).trans (ih _)

/-- **C08_poynting_equivariant**: the raw record of a Poynting-flux detector without co-location (E × H, cell by
cell) is relabelled like a vector field; a raw field record is `rotV` of the fields by definition. -/
theorem C08_poynting_equivariant (E H : V3 α) : crossV (rotV E) (rotV H) = rotV (crossV E H) := rfl

/-- **C08_rot_cube**: relabelling three times is the identity on fields, configurations and materials — `rot` is a
bijective relabelling, so the three orientations of a scene are the full orbit. -/
theorem C08_rot_cube (cf : Cfg α) (m : Mat α) (V : V3 α) :
    rotV (rotV (rotV V)) = V ∧ rotC (rotC (rotC cf)) = cf ∧ rotM (rotM (rotM m)) = m := by
  refine ⟨rfl, rfl, ?_⟩
  obtain ⟨ie, im, sE, sH⟩ := m
  cases sE <;> cases sH <;> rfl

end

/-! ### the oriented-axes helper -/

theorem succ_add_two_mod (a : Nat) : ((a + 1) % 3 + 2) % 3 = ((a + 2) % 3 + 1) % 3 := by
  rw [Nat.mod_add_mod, Nat.mod_add_mod]

/-- holds for every `a`: the triple is computed mod 3 -/
theorem hvp_succ (a : Nat) :
    hvp ((a + 1) % 3) = (((hvp a).1 + 1) % 3, ((hvp a).2.1 + 1) % 3, ((hvp a).2.2 + 1) % 3) :=
  Prod.ext rfl (Prod.ext (succ_add_two_mod a) rfl)

/-- **C08_hvp_shift**: relabelling the propagation axis shifts the whole right-handed (horizontal, vertical,
propagation) triple of `get_oriented_transverse_axes` cyclically — so azimuth/elevation rotations, the (horizontal,
vertical) layout of transverse profiles and the TFSF face pair are relabelled consistently. -/
theorem C08_hvp_shift (a : Nat) (ha : a < 3) :
    hvp ((a + 1) % 3) = (((hvp a).1 + 1) % 3, ((hvp a).2.1 + 1) % 3, ((hvp a).2.2 + 1) % 3) :=
  hvp_succ a

/-- the triple is a right-handed (even) permutation of (0,1,2) for every axis -/
theorem C08_hvp_cyclic (a : Nat) (ha : a < 3) :
    (hvp a = (1, 2, 0)) ∨ (hvp a = (2, 0, 1)) ∨ (hvp a = (0, 1, 2)) :=
  match a, ha with
  | 0, _ => .inl rfl
  | 1, _ => .inr (.inl rfl)
  | 2, _ => .inr (.inr rfl)

/-- the ascending pair of `get_transverse_axes` does NOT shift with the axis (it is (0,2) instead of (2,0) for y): using it
where an oriented pair is needed breaks the equivariance exactly for propagation along y -/
theorem C08_ascending_not_equivariant :
    (ascendingAxes 0 = ((hvp 0).1, (hvp 0).2.1)) ∧ (ascendingAxes 2 = ((hvp 2).1, (hvp 2).2.1))
      ∧ (ascendingAxes 1 ≠ ((hvp 1).1, (hvp 1).2.1)) := by decide

/-! ### non-vacuity: the relabelling is not the identity, and the equivariance statement is about different scenes -/

/-- a 2×3×4 box, periodic along x, PEC at the low y face, PMC at the high z face -/
def exCfg : Cfg Int :=
  { nx := 2, ny := 3, nz := 4,
    bx := ⟨true, 1, 1, false, false, false, false⟩, by_ := ⟨false, 1, 1, true, false, false, false⟩,
    bz := ⟨false, 1, 1, false, false, false, true⟩,
    sfx := fun _ => 1, sfy := fun _ => 2, sfz := fun _ => 3, sbx := fun _ => 1, sby := fun _ => 2, sbz := fun _ => 3,
    c := 1, eta0 := 1 }

example : (rotC exCfg).nx = 4 ∧ (rotC exCfg).ny = 2 ∧ (rotC exCfg).nz = 3 ∧ (rotC exCfg).by_.wrap = true
    ∧ (rotC exCfg).bz.pecLo = true ∧ (rotC exCfg).bx.pmcHi = true ∧ (rotC exCfg).sfy 0 = 1 := by decide

/-- the x-directed unit field at cell (1,2,3) becomes the y-directed unit field at cell (3,1,2) -/
def exV : V3 Int :=
  { x := fun i j k => if i = 1 ∧ j = 2 ∧ k = 3 then 1 else 0, y := fun _ _ _ => 0, z := fun _ _ _ => 0 }

example : (rotV exV).y 3 1 2 = 1 ∧ (rotV exV).x 3 1 2 = 0 ∧ (rotV exV).y 1 2 3 = 0 := by decide

/-- the PEC wall at the low y face (zeroing E_x, E_z at j = 0) becomes a wall at the low z face of the relabelled scene
(zeroing E_y, E_x at k = 0) -/
example : pecMask exCfg 0 1 0 2 = true ∧ pecMask (rotC exCfg) 1 2 1 0 = true ∧ pecMask (rotC exCfg) 2 2 1 0 = false := by
  decide

end Fdtdx.C08
