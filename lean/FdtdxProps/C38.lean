/-
C38 — Equivalent grid descriptions give identical simulations.

Theorems about `FdtdxModel/C38.lean` (+ the grid model of C37), any cell counts, any ordered field.  The uniform
policy, the quasi-uniform policy with the same spacing (even count) and the explicit grid with those edges resolve to
one edge list `uniformEdges`, whose widths all equal the spacing `h`; the centre only shifts it, and the solver's
quantities (widths, minimum width, extents, metric factors, edge average) see edge differences only.  On that axis
the grid is flagged uniform, both branches of `cfl_time_step` give `(cf/√3)·h/c`, the reference spacing is `h`, and
hence every metric factor is 1 and the edge average the arithmetic mean on either code path: the update equations
of the three descriptions coincide term by term.
-/
import FdtdxModel.C38
import FdtdxProps.C37

set_option linter.unusedSectionVars false

namespace Fdtdx.C38
open Fdtdx.C37

variable {K : Type} [Field K] [LinearOrder K] [IsStrictOrderedRing K]

/-! ### the resolved axis -/

theorem uniformEdges_length (c h : K) (n : Nat) : (uniformEdges (Nat.cast : Nat → K) c h n).length = n + 1 := by
  simp [uniformEdges]

theorem uniformEdges_edge (c h : K) (n i : Nat) (hi : i ≤ n) :
    edge (uniformEdges (Nat.cast : Nat → K) c h n) i = (c - (n : K) * h / 2) + h * (i : K) := by
  unfold edge uniformEdges
  have : i < n + 1 := by omega
  simp [this]

theorem uniformEdges_width (c h : K) (n i : Nat) (hi : i < n) :
    width (uniformEdges (Nat.cast : Nat → K) c h n) i = h := by
  rw [width, uniformEdges_edge c h n (i + 1) hi, uniformEdges_edge c h n i hi.le]
  push_cast; ring

/-- **shape of the resolved axis**: n+1 edges starting at center − n·h/2, all widths equal to h, centred on `center` -/
theorem C38_uniformEdges_spec (c h : K) (n : Nat) :
    (uniformEdges (Nat.cast : Nat → K) c h n).length = n + 1 ∧
    (∀ i, i ≤ n → edge (uniformEdges (Nat.cast : Nat → K) c h n) i = (c - (n : K) * h / 2) + h * (i : K)) ∧
    (∀ i, i < n → width (uniformEdges (Nat.cast : Nat → K) c h n) i = h) ∧
    edge (uniformEdges (Nat.cast : Nat → K) c h n) 0 + edge (uniformEdges (Nat.cast : Nat → K) c h n) n = 2 * c := by
  refine ⟨uniformEdges_length c h n, uniformEdges_edge c h n, uniformEdges_width c h n, ?_⟩
  rw [uniformEdges_edge c h n 0 (Nat.zero_le n), uniformEdges_edge c h n n le_rfl]
  push_cast; ring

theorem strictlyIncreasing_of_adjacent (e : List K)
    (h : ∀ i, i + 1 < e.length → edge e i < edge e (i + 1)) : strictlyIncreasing e = true := by
  induction e with
  | nil => rfl
  | cons a r ih =>
    cases r with
    | nil => rfl
    | cons b r =>
      simp only [strictlyIncreasing, Bool.and_eq_true, decide_eq_true_eq]
      exact ⟨by simpa using h 0 (by simp), ih fun i hi => by simpa using h (i + 1) (Nat.succ_lt_succ hi)⟩

theorem C38_uniformEdges_valid (c h : K) (n : Nat) (hh : 0 < h) (hn : 1 ≤ n) :
    validEdges (uniformEdges (Nat.cast : Nat → K) c h n) = true := by
  rw [validEdges, Bool.and_eq_true, decide_eq_true_eq, uniformEdges_length]
  refine ⟨by omega, strictlyIncreasing_of_adjacent _ fun i hi => ?_⟩
  rw [uniformEdges_length] at hi
  exact sub_pos.mp (hh.trans_eq (uniformEdges_width c h n i (by omega)).symm)

/-- **centre equivariance**: moving the policy's `center` by `t` moves every edge by `t` and changes no cell count — in
particular the number of cells of a volume declared by its physical length does not depend on the centre -/
theorem C38_center_equivariant (c t h : K) (n : Nat) :
    uniformEdges (Nat.cast : Nat → K) (c + t) h n = (uniformEdges (Nat.cast : Nat → K) c h n).map (· + t) ∧
    (uniformEdges (Nat.cast : Nat → K) (c + t) h n).length = (uniformEdges (Nat.cast : Nat → K) c h n).length := by
  constructor
  · unfold uniformEdges
    rw [List.map_map]
    apply List.map_congr_left
    intro i _
    simp only [Function.comp]
    ring
  · rw [uniformEdges_length, uniformEdges_length]

theorem resolveUniformAxis_ok (c h : K) (n : Nat) (hh : 0 < h) (hn : 1 ≤ n) :
    resolveUniformAxis (Nat.cast : Nat → K) c h (n : Int) = .ok (uniformEdges Nat.cast c h n) := by
  unfold resolveUniformAxis
  rw [if_neg (by simp [hh]), if_neg (by omega)]; simp

theorem resolveQuasiAxis_ok (c h : K) (n : Nat) (hh : 0 < h) (hn : 1 ≤ n) (hev : n % 2 = 0) :
    resolveQuasiAxis (Nat.cast : Nat → K) c h (n : Int) = .ok (uniformEdges Nat.cast c h n) := by
  unfold resolveQuasiAxis
  rw [if_neg (by simp [hh]), if_neg (by omega), if_neg (by omega)]; simp

/-- a volume declared by its length resolves, under either policy and for ANY centre, to the grid of
`round(length/spacing)` cells centred on `center` — the same edges as for centre 0, shifted -/
theorem C38_from_length_center (rnd : K → Int) (c h len : K) (hh : 0 < h) (n : Nat) (hn : 1 ≤ n)
    (hr : rnd (len / h) = (n : Int)) :
    resolveUniformFromLength (Nat.cast : Nat → K) rnd c h len = .ok ((uniformEdges Nat.cast 0 h n).map (· + c)) ∧
    (n % 2 = 0 → resolveQuasiFromLength (Nat.cast : Nat → K) rnd c h len
        = .ok ((uniformEdges Nat.cast 0 h n).map (· + c))) := by
  have he : uniformEdges (Nat.cast : Nat → K) c h n = (uniformEdges (Nat.cast : Nat → K) 0 h n).map (· + c) := by
    have := (C38_center_equivariant (0 : K) c h n).1
    rwa [zero_add] at this
  constructor
  · rw [resolveUniformFromLength, cellsFromLength, hr, resolveUniformAxis_ok c h n hh hn, he]
  · intro hev
    rw [resolveQuasiFromLength, cellsFromLength, hr, resolveQuasiAxis_ok c h n hh hn hev, he]

/-! ### the three descriptions -/

/-- **same edges**: for a positive spacing and an even positive cell count, the uniform policy, the quasi-uniform
policy (with that spacing on the axis) and the explicit grid with those edges all resolve to one and the same list. -/
theorem C38_three_descriptions_same_edges (c h : K) (n : Nat) (hh : 0 < h) (hn : 1 ≤ n) (hev : n % 2 = 0) :
    resolveUniformAxis (Nat.cast : Nat → K) c h (n : Int) = .ok (uniformEdges Nat.cast c h n) ∧
    resolveQuasiAxis (Nat.cast : Nat → K) c h (n : Int) = .ok (uniformEdges Nat.cast c h n) ∧
    resolveExplicitAxis (uniformEdges (Nat.cast : Nat → K) c h n) (n : Int) = .ok (uniformEdges Nat.cast c h n) := by
  refine ⟨resolveUniformAxis_ok c h n hh hn, resolveQuasiAxis_ok c h n hh hn hev, ?_⟩
  unfold resolveExplicitAxis
  rw [C38_uniformEdges_valid c h n hh hn, uniformEdges_length]
  simp

/-- odd counts: the uniform policy still resolves, the quasi-uniform policy refuses -/
theorem C38_quasi_rejects_odd (c h : K) (n : Nat) (hh : 0 < h) (hodd : n % 2 = 1) :
    resolveQuasiAxis (Nat.cast : Nat → K) c h (n : Int) = .error "err-odd" ∧
    resolveUniformAxis (Nat.cast : Nat → K) c h (n : Int) = .ok (uniformEdges Nat.cast c h n) := by
  constructor
  · unfold resolveQuasiAxis
    rw [if_neg (by simp [hh]), if_pos (by omega)]
  · exact resolveUniformAxis_ok c h n hh (by omega)

/-- non-positive spacing / cell count are rejected by both policies -/
theorem C38_policy_rejects (c h : K) (n : Int) :
    (h ≤ 0 → resolveUniformAxis (Nat.cast : Nat → K) c h n = .error "err-spacing" ∧
             resolveQuasiAxis (Nat.cast : Nat → K) c h n = .error "err-spacing") ∧
    (0 < h → n ≤ 0 → (∃ m, resolveUniformAxis (Nat.cast : Nat → K) c h n = .error m) ∧
                      (∃ m, resolveQuasiAxis (Nat.cast : Nat → K) c h n = .error m)) := by
  constructor
  · intro hh
    have : ¬ (0 < h) := not_lt.mpr hh
    simp [resolveUniformAxis, resolveQuasiAxis, this]
  · intro hh hn
    constructor
    · exact ⟨"err-shape", by unfold resolveUniformAxis; rw [if_neg (by simp [hh]), if_pos hn]⟩
    · unfold resolveQuasiAxis
      rw [if_neg (by simp [hh])]
      by_cases hodd : n % 2 ≠ 0
      · exact ⟨"err-odd", by rw [if_pos hodd]⟩
      · exact ⟨"invalid", by rw [if_neg hodd, if_pos hn]⟩

/-- **uniform verdict** of the resolved grid, for every tolerance and round-off floor ≥ 0, any shape -/
theorem C38_resolved_is_uniform (tol eps8 : K) (htol : 0 ≤ tol) (heps : 0 ≤ eps8) (cx cy cz h : K)
    (nx ny nz : Nat) (hnx : 1 ≤ nx) (rnd : K → K) :
    isUniform tol eps8 (uniformEdges (Nat.cast : Nat → K) cx h nx) (uniformEdges Nat.cast cy h ny)
      (uniformEdges Nat.cast cz h nz) = true ∧
    uniformSpacing rnd tol eps8 (uniformEdges (Nat.cast : Nat → K) cx h nx) (uniformEdges Nat.cast cy h ny)
      (uniformEdges Nat.cast cz h nz) = some (rnd h) := by
  have hw : ∀ (c : K) (n i : Nat), i + 1 < (uniformEdges (Nat.cast : Nat → K) c h n).length →
      width (uniformEdges (Nat.cast : Nat → K) c h n) i = h := by
    intro c n i hi
    rw [uniformEdges_length] at hi
    exact uniformEdges_width c h n i (by omega)
  obtain ⟨h1, h2⟩ := C37_uniform_of_equal_widths tol eps8 htol heps _ _ _ h (hw cx nx) (hw cy ny) (hw cz nz)
    (by rw [uniformEdges_length]; omega)
  exact ⟨h1, h2 rnd⟩

/-! ### the time step and the metric factors -/

/-- **same dt**: on an equal-width grid both branches of `cfl_time_step` give `(cf/√3)·h/c` -/
theorem C38_same_dt (sqrt : K → K) (hq : SqrtSpec sqrt) (cf c h : K) (hc : 0 < c) (hh : 0 < h) :
    cflTimeStep sqrt cf c (some h) h h h = (cf / sqrt 3) * h / c ∧
    cflTimeStep sqrt cf c none h h h = (cf / sqrt 3) * h / c := by
  have h3 := sqrt_pos_of sqrt hq 3 zero_lt_three
  constructor
  · show (cf / sqrt 3) * (if minOf3 h h h < h then minOf3 h h h else h) / c = _
    rw [show minOf3 h h h = h by simp [minOf3, minList], if_neg (lt_irrefl h)]
  · show cf / (c * sqrt (invMetric h h h)) = _
    rw [sqrt_invMetric_diag sqrt hq h hh]
    field_simp

theorem C38_reference_spacing (sqrt : K → K) (hq : SqrtSpec sqrt) (cf c h : K) (hc : 0 < c) (hh : 0 < h)
    (hcf : cf ≠ 0) (uni : Option K) (hu : uni = some h ∨ uni = none) :
    referenceSpacing c (cflTimeStep sqrt cf c uni h h h) (courantNumber sqrt cf) = h := by
  have h3 := sqrt_pos_of sqrt hq 3 zero_lt_three
  obtain ⟨d1, d2⟩ := C38_same_dt sqrt hq cf c h hc hh
  have : cflTimeStep sqrt cf c uni h h h = (cf / sqrt 3) * h / c := by
    rcases hu with rfl | rfl
    · exact d1
    · exact d2
  rw [this, referenceSpacing, courantNumber]
  field_simp

theorem metricScale_eq_one {ref : K} {e : List K} {i : Nat} (hr : ref ≠ 0) (hw : width e i = ref)
    (hp : prevWidth e i = ref) (nonuniform backward : Bool) : metricScale nonuniform ref e backward i = 1 := by
  unfold metricScale
  rw [hw, hp, half_eq, one_div_mul_eq_div, add_self_div_two, div_self hr]
  simp only [ite_self]

/-- **metric scale = 1**: on a resolved equal-width axis, for every cell, both stencils, and whether or not the grid is
flagged uniform. -/
theorem C38_metric_scale_one (sqrt : K → K) (hq : SqrtSpec sqrt) (cf c h ctr : K) (hc : 0 < c) (hh : 0 < h)
    (hcf : cf ≠ 0) (uni : Option K) (hu : uni = some h ∨ uni = none) (n i : Nat) (hi : i < n)
    (nonuniform backward : Bool) :
    metricScale nonuniform (referenceSpacing c (cflTimeStep sqrt cf c uni h h h) (courantNumber sqrt cf))
      (uniformEdges (Nat.cast : Nat → K) ctr h n) backward i = 1 := by
  rw [C38_reference_spacing sqrt hq cf c h hc hh hcf uni hu]
  exact metricScale_eq_one hh.ne' (uniformEdges_width ctr h n i hi) (uniformEdges_width ctr h n (i - 1) (by omega)) _ _

/-- the metric-aware curl term is then the raw finite difference … -/
theorem C38_curl_term (next cur : K) : curlTerm (1 : K) next cur = next - cur := by
  unfold curlTerm; ring

theorem backwardEdgeAverage_eq_mean {w : K} {e : List K} {i : Nat} (hw0 : w ≠ 0) (hw : width e i = w)
    (hp : prevWidth e i = w) (nonuniform : Bool) (cur prev : K) :
    backwardEdgeAverage nonuniform e i cur prev = (cur + prev) / 2 := by
  unfold backwardEdgeAverage
  rw [hw, hp, half_eq, ← add_mul, ← add_mul, add_halves, one_mul, ← mul_assoc, mul_div_cancel_right₀ _ hw0,
    mul_one_div, one_div_mul_eq_div]
  simp only [ite_self]

/-- … and the center→edge average the arithmetic mean, on either code path -/
theorem C38_edge_average (ctr h : K) (hh : 0 < h) (n i : Nat) (hi : i < n) (nonuniform : Bool) (cur prev : K) :
    backwardEdgeAverage nonuniform (uniformEdges (Nat.cast : Nat → K) ctr h n) i cur prev = (cur + prev) / 2 :=
  backwardEdgeAverage_eq_mean hh.ne' (uniformEdges_width ctr h n i hi)
    (uniformEdges_width ctr h n (i - 1) (by omega)) _ _ _

/-- an explicit grid with the same spacings but another origin (edges shifted by `t`) has the same widths -/
theorem C38_widths_translation_invariant (e : List K) (t : K) (i : Nat) (hi : i + 1 < e.length) :
    width (e.map (· + t)) i = width e i := by
  unfold width edge
  have h1 : i < e.length := by omega
  simp [hi, h1]

/-- **every consumer quantity of the model is translation invariant**: for the same mesh written with another origin
(`e.map (· + t)`: lower-corner style, arbitrary or negative offsets) the width list, the minimum width (hence both CFL
branches), extents, the metric factors of both stencils and the edge average are unchanged — they use edge differences only. -/
theorem C38_consumers_translation_invariant (e : List K) (t : K) :
    widths (e.map (· + t)) = widths e ∧
    minSpacing (e.map (· + t)) = minSpacing e ∧
    (∀ lo up, lo < e.length → up < e.length → extent (e.map (· + t)) lo up = extent e lo up) ∧
    (∀ (nonuni bw : Bool) (ref : K) i, i + 1 < e.length →
        metricScale nonuni ref (e.map (· + t)) bw i = metricScale nonuni ref e bw i) ∧
    (∀ (nonuni : Bool) (cur prev : K) i, i + 1 < e.length →
        backwardEdgeAverage nonuni (e.map (· + t)) i cur prev = backwardEdgeAverage nonuni e i cur prev) := by
  have hw : widths (e.map (· + t)) = widths e := by
    unfold widths
    rw [List.length_map]
    apply List.map_congr_left
    intro i hi
    rw [List.mem_range] at hi
    exact C38_widths_translation_invariant e t i (by omega)
  refine ⟨hw, by unfold minSpacing; rw [hw], ?_, ?_, ?_⟩
  · intro lo up hlo hup
    unfold extent edge
    simp [hlo, hup]
  · intro nonuni bw ref i hi
    unfold metricScale prevWidth
    rw [C38_widths_translation_invariant e t i hi, C38_widths_translation_invariant e t (i - 1) (by omega)]
  · intro nonuni cur prev i hi
    unfold backwardEdgeAverage prevWidth
    rw [C38_widths_translation_invariant e t i hi, C38_widths_translation_invariant e t (i - 1) (by omega)]

/-! ### non-vacuity -/

example : resolveUniformAxis (Nat.cast : Nat → ℚ) 0 (1 / 2) 4 = .ok [-1, -1 / 2, 0, 1 / 2, 1] := by decide +kernel
example : resolveQuasiAxis (Nat.cast : Nat → ℚ) 0 (1 / 2) 4 = .ok [-1, -1 / 2, 0, 1 / 2, 1] := by decide +kernel
example : resolveQuasiAxis (Nat.cast : Nat → ℚ) 0 (1 / 2) 3 = .error "err-odd" := by decide +kernel
example : resolveExplicitAxis ([-1, -1 / 2, 0, 1 / 2, 1] : List ℚ) 4 = .ok [-1, -1 / 2, 0, 1 / 2, 1] := by decide +kernel
example : resolveExplicitAxis ([-1, -1 / 2, 0, 1 / 2, 1] : List ℚ) 6 = .error "err-mismatch" := by decide +kernel
/-- a stretched axis does NOT have unit metric factors (the theorem is not vacuous) -/
example : metricScale true (1 : ℚ) [0, 1, 3] false 1 = 1 / 2 := by decide +kernel

end Fdtdx.C38
