/-
C36 — sufficiency of the coupled stability bound for a single Drude or Lorentz pole, per Fourier mode.

For one Fourier mode of the homogeneous periodic box the Yee curl-curl eigenvalue is `4 ν² σ` with
`ν² = courant_factor² /(ε∞ μ)` and a mode parameter `σ = (1/3) Σ sin²(k_i Δ/2) ∈ [0, 1]` (σ = 1 is the grid-Nyquist
mode of `FdtdxModel/C36.lean`).  The per-mode characteristic polynomial of `forward` is therefore
`charPoly (σ ν²) (1/ε∞) c1 c2 c3 z`.  With `h = γdt/2`, `D = 1 + h`, `a = ω0²dt²`, `κ = K dt²/ε∞`, `n = 4σν²` and the
stored coefficients `c1 = (2-a)/D`, `c2 = -(1-h)/D`, `c3 = K dt²/D` (`core_of_stored`), `D` times it is
  `(z-1)² (D z² - (2-a) z + (1-h) + κ z) + n z (D z² - (2-a) z + (1-h))`,
and the code's stability measure `M` enters only through (`measure_pole`, and `margin_eq` of `FdtdxProps/C36.lean`, which
at `σ = 1` is the necessity side)
  `(4-a)(4-n) - 4κ = 4 (4-a) ((1 - M) + (1-σ) ν²)`.

* lossless pole (`h = 0`, `4κ ≤ (4-a)(4-n)`): the quartic is self-reciprocal; in `X = 2 - z - 1/z` it is
  `X² - (a+κ+n) X + n a`, whose roots are real and lie in `[0, 4]`, so every root `z` has `|z| = 1`
  (`C36_lossless_core`); for the coefficients fdtdx stores (C35 model `coef`) of an undamped Drude or Lorentz pole of
  non-negative strength this holds for every mode `σ ∈ [0,1]` as soon as the measure is `≤ 1`, in particular whenever
  placement stays silent (`C36_lossless_sufficiency`, `C36_silent_is_stable`);
* damped pole (`h > 0`, strict bound, `n > 0`): with `ζ = (z-1)/(z+1)` a root outside the closed unit disc would be a
  root with `Re ζ > 0` of a real quartic (cubic for `a = 0`) whose Hurwitz determinants are `4h(a(4-n)² + 16κ)` and
  `256 h² n κ`; Routh–Hurwitz is proved by the continued-fraction expansion of even part / odd part
  (`hurwitz_quartic`, `hurwitz_cubic`, `C36_damped_core`, `C36_damped_drude_core`); for the stored coefficients with
  measure `< 1` and every mode `σ ∈ (0,1]`: `C36_damped_lorentz_sufficiency`, `C36_damped_drude_sufficiency`.
`C36_sufficiency_clauses` is the conjunction (one name for the axiom audit).

Still open (kept partial in props/C36.json): the boundary case measure = 1 with damping and the static mode σ = 0;
several poles; CCPR poles; inhomogeneous masks; and the step from "no per-mode root outside the unit circle" to the
factor-10 energy bound (needs semisimplicity at repeated unimodular roots / a discrete energy).
-/
import FdtdxProps.C36
import FdtdxProps.C35

namespace Fdtdx.C36
open Complex

/-! ### lossless pole: the self-reciprocal quartic -/

/-- `z + z⁻¹ = t` real with `|t| ≤ 2` puts `z` on the unit circle: `z` and `z⁻¹` are both roots of `w² - t w + 1`,
and by the Jury conditions neither lies outside the closed unit disc -/
private theorem unit_of_add_inv {t : ℝ} (ht : |t| ≤ 2) {z : ℂ} (hz0 : z ≠ 0) (hz : z + z⁻¹ = t) : ‖z‖ = 1 := by
  have jury : ∀ w : ℂ, w ≠ 0 → w + w⁻¹ = t → ‖w‖ ≤ 1 := fun w hw0 hw =>
    C35.C35_jury_roots_complex t (-1) (by simp) (by linarith [ht]) w
      (by rw [← hw, add_mul, inv_mul_cancel₀ hw0]; push_cast; ring)
  have h2 := jury z⁻¹ (inv_ne_zero hz0) (by rwa [inv_inv, add_comm])
  rw [norm_inv, inv_le_one₀ (norm_pos_iff.mpr hz0)] at h2
  exact le_antisymm (jury z hz0 hz) h2

/-- a complex root `X` of the real quadratic `X² - (a + κ + n) X + n a` is real and lies in `[0, 4]`: the
discriminant is `(a - n)² + κ² + 2κ(a + n) ≥ 0`, the coefficients alternate in sign, and so do those of the
quadratic in `4 - X`, `Y² - (8 - (a + κ + n)) Y + (4 - a)(4 - n) - 4κ` -/
private theorem reduced_root_real (a κ n : ℝ) (ha : 0 ≤ a) (ha4 : a < 4) (hκ : 0 ≤ κ) (hn : 0 ≤ n)
    (hb : 4 * κ ≤ (4 - a) * (4 - n)) (X : ℂ) (hX : X ^ 2 - ((a + κ + n : ℝ) : ℂ) * X + ((n * a : ℝ) : ℂ) = 0) :
    ∃ x : ℝ, X = x ∧ 0 ≤ x ∧ x ≤ 4 := by
  have hre := congrArg re hX
  have him := congrArg im hX
  simp only [sq, add_re, sub_re, mul_re, add_im, sub_im, mul_im, ofReal_re, ofReal_im, zero_re, zero_im, zero_mul,
    sub_zero, add_zero] at hre him
  have hv : X.im = 0 := by
    by_contra hv
    have hu : 2 * X.re = a + κ + n := mul_left_cancel₀ hv (by linear_combination him)
    have hd : 4 * (X.im * X.im) + ((a - n) ^ 2 + κ ^ 2 + 2 * κ * (a + n)) = 0 := by
      linear_combination (-4) * hre + (2 * X.re - (a + κ + n)) * hu
    have := mul_self_pos.mpr hv
    linarith [sq_nonneg (a - n), sq_nonneg κ, mul_nonneg (mul_nonneg zero_le_two hκ) (add_nonneg ha hn)]
  rw [hv] at hre
  have hn4 : 0 ≤ 4 - n :=
    nonneg_of_mul_nonneg_right (le_trans (mul_nonneg (by norm_num) hκ) hb) (sub_pos.mpr ha4)
  have han : a * n ≤ 4 * 4 := mul_le_mul ha4.le (sub_nonneg.mp hn4) hn (by norm_num)
  exact ⟨X.re, Complex.ext rfl hv,
    C35.root_nonneg (add_nonneg (add_nonneg ha hκ) hn) (mul_nonneg hn ha) (by linear_combination hre),
    sub_nonneg.mp (C35.root_nonneg (s := 8 - (a + κ + n)) (by linarith) (sub_nonneg.mpr hb)
      (by linear_combination hre))⟩

/-- C36 (sufficiency, core): the self-reciprocal per-mode quartic of a lossless pole has all roots on the unit
circle as soon as `4κ ≤ (4 - a)(4 - n)`. -/
theorem C36_lossless_core (a κ n : ℝ) (ha : 0 ≤ a) (ha4 : a < 4) (hκ : 0 ≤ κ) (hn : 0 ≤ n)
    (hb : 4 * κ ≤ (4 - a) * (4 - n)) (z : ℂ)
    (hz : (z - 1) * (z - 1) * (z * z - ((2 - a : ℝ) : ℂ) * z + 1 + (κ : ℂ) * z)
            + (n : ℂ) * z * (z * z - ((2 - a : ℝ) : ℂ) * z + 1) = 0) : ‖z‖ = 1 := by
  have hz0 : z ≠ 0 := by
    rintro rfl; simp at hz
  -- in `X = 2 - z - 1/z` the quartic is `z² (X² - (a + κ + n) X + n a)`
  have hX : (2 - z - z⁻¹) ^ 2 - ((a + κ + n : ℝ) : ℂ) * (2 - z - z⁻¹) + ((n * a : ℝ) : ℂ) = 0 := by
    refine (mul_left_inj' (pow_ne_zero 2 hz0)).mp (Eq.trans ?_ (hz.trans (zero_mul _).symm))
    push_cast; field_simp; ring
  -- `X = x` is real in `[0, 4]`, so `z + 1/z = 2 - x ∈ [-2, 2]`
  obtain ⟨x, hx, h0, h4⟩ := reduced_root_real a κ n ha ha4 hκ hn hb _ hX
  exact unit_of_add_inv (t := 2 - x) (abs_le.mpr ⟨by linarith, by linarith⟩) hz0
    (by push_cast; linear_combination -hx)

/-! ### damped poles: bilinear map ζ = (z-1)/(z+1) and Routh–Hurwitz by continued fractions

For `Re ζ > 0` the even and odd parts of a Hurwitz polynomial are run through the Euclidean algorithm; at every level
`s F = c ζ G + R` with `s, c > 0`, so `F / G = (c/s) ζ + (1/s) (G / R)⁻¹` keeps a positive real part, and a sum
`F + G` with `Re (F / G) > 0` cannot vanish. -/

private theorem inv_re_pos {w : ℂ} (h : 0 < w.re) : 0 < (w⁻¹).re := by
  rw [Complex.inv_re]
  exact div_pos h (Complex.normSq_pos.mpr fun h0 => by simp [h0] at h)

private theorem cauer_base {ζ : ℂ} {c r : ℝ} (hc : 0 < c) (hr : 0 < r) (hζ : 0 < ζ.re) :
    0 < ((c : ℂ) * ζ / (r : ℂ)).re := by
  have : (c : ℂ) * ζ / r = ((c / r : ℝ) : ℂ) * ζ := by push_cast; ring
  rw [this, re_ofReal_mul]
  exact mul_pos (div_pos hc hr) hζ

private theorem cauer_step {ζ F G R : ℂ} {s c : ℝ} (hs : 0 < s) (hc : 0 < c) (hζ : 0 < ζ.re)
    (h : 0 < (G / R).re) (e : (s : ℂ) * F = c * ζ * G + R) : 0 < (F / G).re := by
  have hG : G ≠ 0 := by
    rintro rfl; simp at h
  have hs' : (s : ℂ) ≠ 0 := ofReal_ne_zero.mpr hs.ne'
  have : F / G = ((c / s : ℝ) : ℂ) * ζ + ((1 / s : ℝ) : ℂ) * (G / R)⁻¹ := by
    rw [inv_div]; push_cast; field_simp; linear_combination e
  rw [this, add_re, re_ofReal_mul, re_ofReal_mul]
  exact add_pos (mul_pos (div_pos hc hs) hζ) (mul_pos (one_div_pos.mpr hs) (inv_re_pos h))

private theorem add_ne_zero_of_div_re_pos {F G : ℂ} (h : 0 < (F / G).re) : F + G ≠ 0 := by
  intro h0
  have hG : G ≠ 0 := by
    rintro rfl; simp at h
  rw [eq_neg_of_add_eq_zero_left h0, neg_div, div_self hG] at h
  norm_num at h

/-- Routh–Hurwitz for a real quartic, by the continued-fraction (Cauer) expansion of even part / odd part:
no root in the open right half-plane. -/
theorem hurwitz_quartic (a4 a3 a2 a1 a0 : ℝ) (h4 : 0 < a4) (h3 : 0 < a3) (h1 : 0 < a1) (h0 : 0 < a0)
    (hβ : 0 < a2 * a3 - a4 * a1) (hdet : 0 < a1 * (a2 * a3 - a4 * a1) - a3 * a3 * a0)
    (ζ : ℂ) (hζ : 0 < ζ.re) :
    (a4 : ℂ) * ζ ^ 4 + a3 * ζ ^ 3 + a2 * ζ ^ 2 + a1 * ζ + a0 ≠ 0 := by
  set β := a2 * a3 - a4 * a1 with hβd
  set δ := a1 * β - a3 * a3 * a0 with hδd
  have r1 : 0 < ((δ : ℂ) * ζ / ((δ * (a3 * a0) : ℝ) : ℂ)).re := cauer_base hdet (mul_pos hdet (mul_pos h3 h0)) hζ
  have r2 : 0 < (((β : ℂ) * ζ ^ 2 + a3 * a0) / ((δ : ℂ) * ζ)).re :=
    cauer_step hdet hβ hζ r1 (by push_cast; ring)
  have r3 : 0 < (((a3 : ℂ) * ζ ^ 3 + a1 * ζ) / ((β : ℂ) * ζ ^ 2 + a3 * a0)).re :=
    cauer_step hβ h3 hζ r2 (by push_cast [hδd]; ring)
  have r4 : 0 < (((a4 : ℂ) * ζ ^ 4 + a2 * ζ ^ 2 + a0) / ((a3 : ℂ) * ζ ^ 3 + a1 * ζ)).re :=
    cauer_step h3 h4 hζ r3 (by push_cast [hβd]; ring)
  exact fun h => add_ne_zero_of_div_re_pos r4 (by linear_combination h)

/-- Routh–Hurwitz for a real cubic (same continued-fraction argument) -/
theorem hurwitz_cubic (b3 b2 b1 b0 : ℝ) (h3 : 0 < b3) (h2 : 0 < b2) (h0 : 0 < b0)
    (hβ : 0 < b1 * b2 - b3 * b0) (ζ : ℂ) (hζ : 0 < ζ.re) :
    (b3 : ℂ) * ζ ^ 3 + b2 * ζ ^ 2 + b1 * ζ + b0 ≠ 0 := by
  set β := b1 * b2 - b3 * b0 with hβd
  have r1 : 0 < ((β : ℂ) * ζ / ((β * b0 : ℝ) : ℂ)).re := cauer_base hβ (mul_pos hβ h0) hζ
  have r2 : 0 < (((b2 : ℂ) * ζ ^ 2 + b0) / ((β : ℂ) * ζ)).re := cauer_step hβ h2 hζ r1 (by push_cast; ring)
  have r3 : 0 < (((b3 : ℂ) * ζ ^ 3 + b1 * ζ) / ((b2 : ℂ) * ζ ^ 2 + b0)).re :=
    cauer_step h2 h3 hζ r2 (by push_cast [hβd]; ring)
  exact fun h => add_ne_zero_of_div_re_pos r3 (by linear_combination h)

/-- `ζ = (z - 1)/(z + 1)` maps the outside of the closed unit disc into the open right half-plane:
`Re ζ = (|z|² - 1)/|z + 1|²` -/
private theorem cayley_re_pos {z : ℂ} (h : 1 < ‖z‖) : z + 1 ≠ 0 ∧ 0 < ((z - 1) / (z + 1)).re := by
  have hz1 : z + 1 ≠ 0 := by
    intro h0
    rw [eq_neg_of_add_eq_zero_left h0] at h; simp at h
  have hN : 1 < z.re * z.re + z.im * z.im := by
    rw [← Complex.normSq_apply, Complex.normSq_eq_norm_sq]; exact one_lt_pow₀ h two_ne_zero
  refine ⟨hz1, ?_⟩
  rw [Complex.div_re, ← add_div]
  apply div_pos _ (Complex.normSq_pos.mpr hz1)
  simp; linarith

/-- the per-mode polynomial of a damped pole in `ζ = (z - 1)/(z + 1)` -/
private theorem cayley_quartic (a κ n h : ℝ) {z : ℂ} (hz1 : z + 1 ≠ 0) :
    ((((4 - a) * (4 - n) - 4 * κ : ℝ) : ℂ) * ((z - 1) / (z + 1)) ^ 4
        + ((4 * h * (4 - n) : ℝ) : ℂ) * ((z - 1) / (z + 1)) ^ 3
        + ((4 * (a + κ + n) - 2 * (n * a) : ℝ) : ℂ) * ((z - 1) / (z + 1)) ^ 2
        + ((4 * h * n : ℝ) : ℂ) * ((z - 1) / (z + 1)) + ((n * a : ℝ) : ℂ)) * (z + 1) ^ 4
      = 16 * ((z - 1) * (z - 1) * (((1 + h : ℝ) : ℂ) * (z * z) - ((2 - a : ℝ) : ℂ) * z + ((1 - h : ℝ) : ℂ) + (κ : ℂ) * z)
            + (n : ℂ) * z * (((1 + h : ℝ) : ℂ) * (z * z) - ((2 - a : ℝ) : ℂ) * z + ((1 - h : ℝ) : ℂ))) := by
  push_cast
  field_simp
  ring

/-- damped pole with `a = ω0²dt² ≥ 0`: a root outside the closed unit disc would give a root `ζ` of the transformed
quartic with `Re ζ > 0`; its Hurwitz determinants are `4h(a(4-n)² + 16κ)` and `256 h² n κ`, and for `a = 0` it is `ζ`
times a cubic with determinant `64 h κ` -/
private theorem damped_core (a κ n h : ℝ) (ha : 0 ≤ a) (ha4 : a < 4) (hκ : 0 < κ) (hn : 0 < n) (hh : 0 < h)
    (hb : 4 * κ < (4 - a) * (4 - n)) (z : ℂ)
    (hz : (z - 1) * (z - 1) * (((1 + h : ℝ) : ℂ) * (z * z) - ((2 - a : ℝ) : ℂ) * z + ((1 - h : ℝ) : ℂ) + (κ : ℂ) * z)
            + (n : ℂ) * z * (((1 + h : ℝ) : ℂ) * (z * z) - ((2 - a : ℝ) : ℂ) * z + ((1 - h : ℝ) : ℂ)) = 0) :
    ‖z‖ ≤ 1 := by
  by_contra hcon
  obtain ⟨hz1, hζ⟩ := cayley_re_pos (not_le.mp hcon)
  have h0 := cayley_quartic a κ n h hz1
  rw [hz, mul_zero, mul_eq_zero, or_iff_left (pow_ne_zero 4 hz1)] at h0
  have p4 : 0 < 4 - n :=
    pos_of_mul_pos_right ((mul_pos (by norm_num) hκ).trans hb) (sub_pos.mpr ha4).le
  have q4 : 0 < (4 - a) * (4 - n) - 4 * κ := sub_pos.mpr hb
  have q3 : 0 < 4 * h * (4 - n) := mul_pos (mul_pos four_pos hh) p4
  have q1 : 0 < 4 * h * n := mul_pos (mul_pos four_pos hh) hn
  rcases ha.eq_or_lt with rfl | ha
  · refine hurwitz_cubic _ _ (4 * (κ + n)) _ q4 q3 q1 ?_ _ hζ
      (mul_left_cancel₀ (ne_of_apply_ne re hζ.ne') ?_)
    · rw [show _ - _ = 64 * h * κ by ring]; positivity
    · push_cast at h0 ⊢
      linear_combination h0
  · refine hurwitz_quartic _ _ _ _ _ q4 q3 q1 (mul_pos hn ha) ?_ ?_ _ hζ h0
    · rw [show _ - _ = 4 * h * (a * (4 - n) ^ 2 + 16 * κ) by ring]; positivity
    · rw [show _ - _ = 256 * h ^ 2 * n * κ by ring]; positivity

/-- C36 (sufficiency, damped Lorentz pole, core): with damping `h = γdt/2 > 0`, `0 < a = ω0²dt² < 4`, `κ > 0`,
`n = 4σν² > 0` and the strict bound `4κ < (4-a)(4-n)`, the per-mode characteristic polynomial (times `D = 1+h`) has no
root outside the closed unit disc.  (Bilinear map ζ = (z-1)/(z+1), then Routh–Hurwitz.) -/
theorem C36_damped_core (a κ n h : ℝ) (ha : 0 < a) (ha4 : a < 4) (hκ : 0 < κ) (hn : 0 < n) (hh : 0 < h)
    (hb : 4 * κ < (4 - a) * (4 - n)) (z : ℂ)
    (hz : (z - 1) * (z - 1) * (((1 + h : ℝ) : ℂ) * (z * z) - ((2 - a : ℝ) : ℂ) * z + ((1 - h : ℝ) : ℂ) + (κ : ℂ) * z)
            + (n : ℂ) * z * (((1 + h : ℝ) : ℂ) * (z * z) - ((2 - a : ℝ) : ℂ) * z + ((1 - h : ℝ) : ℂ)) = 0) :
    ‖z‖ ≤ 1 :=
  damped_core a κ n h ha.le ha4 hκ hn hh hb z hz

/-- C36 (sufficiency, damped Drude pole, core): `a = 0` -/
theorem C36_damped_drude_core (κ n h : ℝ) (hκ : 0 < κ) (hn : 0 < n) (hh : 0 < h)
    (hb : 4 * κ < 4 * (4 - n)) (z : ℂ)
    (hz : (z - 1) * (z - 1) * (((1 + h : ℝ) : ℂ) * (z * z) - 2 * z + ((1 - h : ℝ) : ℂ) + (κ : ℂ) * z)
            + (n : ℂ) * z * (((1 + h : ℝ) : ℂ) * (z * z) - 2 * z + ((1 - h : ℝ) : ℂ)) = 0) :
    ‖z‖ ≤ 1 := by
  refine damped_core 0 κ n h le_rfl (by norm_num) hκ hn hh ?_ z ?_
  · rw [sub_zero]; exact hb
  · rw [sub_zero, ofReal_ofNat]; exact hz

/-! ### the coefficients fdtdx stores for one pole with `b = 0`

With `D = 1 + h`, `h = γdt/2`, `a = ω0²dt²`, `k = K dt²` they are `c1 = (2 - a)/D`, `c2 = -(1 - h)/D`, `c3 = k/D`,
`c4 = 0`. -/

private theorem stored_c3 (u : C35.Uni ℝ) (dt : ℝ) (hb0 : u.b = 0) :
    (C35.coef u dt).c3 = u.a * (dt * dt) / (1 + u.g * dt / 2) := by
  rw [C35.coef_c3, hb0, zero_mul, sub_zero]

/-- the code's measure for one pole: `(cf²/μ + K dt²/(4 - ω0²dt²))/ε∞` -/
private theorem measure_pole (cf eps mu dt : ℝ) (u : C35.Uni ℝ) (p pp : ℝ) (hD : 1 + u.g * dt / 2 ≠ 0)
    (hb0 : u.b = 0) :
    measure cf eps mu [⟨(C35.coef u dt).c1, (C35.coef u dt).c2, (C35.coef u dt).c3, (C35.coef u dt).c4, p, pp⟩]
      = (cf * cf * (1 / mu) + u.a * (dt * dt) / (4 - u.w0 * u.w0 * (dt * dt))) / eps := by
  have hc4 : (C35.coef u dt).c4 = 0 := by rw [C35.coef_c4, hb0, zero_mul, zero_div]
  rw [hc4, measure_single, C35.one_add_c1_sub_c2 u dt hD, stored_c3 u dt hb0, div_div_div_cancel_right₀ hD]

/-- `D = 1 + h` times the per-mode characteristic polynomial with `c1 = (2-a)/D`, `c2 = -(1-h)/D`, `c3 = k/D` -/
private theorem core_of_stored {a h k c1 c2 c3 : ℝ} (ie ν : ℝ) (hD : 1 + h ≠ 0) (h1 : c1 = (2 - a) / (1 + h))
    (h2 : c2 = -(1 - h) / (1 + h)) (h3 : c3 = k / (1 + h)) (z : ℂ)
    (hz : charPoly (ν : ℂ) (ie : ℂ) (c1 : ℂ) (c2 : ℂ) (c3 : ℂ) z = 0) :
    (z - 1) * (z - 1) * (((1 + h : ℝ) : ℂ) * (z * z) - ((2 - a : ℝ) : ℂ) * z + ((1 - h : ℝ) : ℂ) + ((k * ie : ℝ) : ℂ) * z)
      + ((4 * ν : ℝ) : ℂ) * z * (((1 + h : ℝ) : ℂ) * (z * z) - ((2 - a : ℝ) : ℂ) * z + ((1 - h : ℝ) : ℂ)) = 0 := by
  have e1 : (c1 : ℂ) * (1 + h) = 2 - a := by exact_mod_cast (eq_div_iff hD).mp h1
  have e2 : (c2 : ℂ) * (1 + h) = -(1 - h) := by exact_mod_cast (eq_div_iff hD).mp h2
  have e3 : (c3 : ℂ) * (1 + h) = k := by exact_mod_cast (eq_div_iff hD).mp h3
  unfold charPoly at hz
  push_cast
  linear_combination (1 + h : ℂ) * hz + ((z - 1) ^ 2 * z + 4 * ν * z ^ 2) * e1 + ((z - 1) ^ 2 + 4 * ν * z) * e2
    - (z - 1) ^ 2 * ie * z * e3

/-- C36 (sufficiency, lossless single pole): with the coefficients fdtdx stores for an undamped Drude (`ω0 = 0`) or
Lorentz pole of non-negative strength, a stability measure `≤ 1` implies that for every Fourier mode (`σ ∈ [0,1]`)
every root of the per-mode characteristic polynomial of `forward` lies on the unit circle. -/
theorem C36_lossless_sufficiency (cf eps mu dt σ : ℝ) (u : C35.Uni ℝ) (p pp : ℝ)
    (heps : 0 < eps) (hmu : 0 < mu) (hdt : 0 < dt)
    (hg : u.g = 0) (hb0 : u.b = 0) (ha0 : 0 ≤ u.a) (hw0 : 0 ≤ u.w0) (hw : u.w0 * dt < 2)
    (hσ0 : 0 ≤ σ) (hσ1 : σ ≤ 1)
    (hm : measure cf eps mu
      [⟨(C35.coef u dt).c1, (C35.coef u dt).c2, (C35.coef u dt).c3, (C35.coef u dt).c4, p, pp⟩] ≤ 1)
    (z : ℂ)
    (hz : charPoly ((σ * (cf * cf * (1 / mu) * (1 / eps)) : ℝ) : ℂ) ((1 / eps : ℝ) : ℂ)
      (((C35.coef u dt).c1 : ℝ) : ℂ) (((C35.coef u dt).c2 : ℝ) : ℂ) (((C35.coef u dt).c3 : ℝ) : ℂ) z = 0) :
    ‖z‖ = 1 := by
  have hD : 1 + u.g * dt / 2 ≠ 0 := by
    rw [hg, zero_mul, zero_div, add_zero]; exact one_ne_zero
  have ha4 := C35.sq_lt_four (mul_nonneg hw0 hdt.le) hw
  have hν : 0 ≤ cf * cf * (1 / mu) * (1 / eps) :=
    mul_nonneg (mul_nonneg (mul_self_nonneg cf) (one_div_pos.mpr hmu).le) (one_div_pos.mpr heps).le
  have hcore := core_of_stored (1 / eps) _ hD rfl rfl (stored_c3 u dt hb0) z hz
  rw [hg, zero_mul, zero_div, add_zero, sub_zero, ofReal_one, one_mul] at hcore
  refine C36_lossless_core _ _ _ (mul_nonneg (mul_self_nonneg _) (mul_self_nonneg _)) ha4
    (mul_nonneg (mul_nonneg ha0 (mul_self_nonneg dt)) (one_div_pos.mpr heps).le)
    (mul_nonneg (by norm_num) (mul_nonneg hσ0 hν)) ?_ z hcore
  rw [measure_pole cf eps mu dt u p pp hD hb0] at hm
  rw [← sub_nonneg, margin_eq _ _ _ eps σ (sub_pos.mpr ha4).ne']
  exact mul_nonneg (mul_nonneg (by norm_num) (sub_pos.mpr ha4).le)
    (add_nonneg (sub_nonneg.mpr hm) (mul_nonneg (sub_nonneg.mpr hσ1) hν))

/-- … in particular for every medium about which placement stays silent (`warns = false`, margin ≥ 0). -/
theorem C36_silent_is_stable (cf eps mu dt σ margin : ℝ) (u : C35.Uni ℝ) (p pp : ℝ)
    (heps : 0 < eps) (hmu : 0 < mu) (hdt : 0 < dt) (hmargin : 0 ≤ margin)
    (hg : u.g = 0) (hb0 : u.b = 0) (ha0 : 0 ≤ u.a) (hw0 : 0 ≤ u.w0) (hw : u.w0 * dt < 2)
    (hσ0 : 0 ≤ σ) (hσ1 : σ ≤ 1)
    (hsilent : warns cf eps mu margin
      [⟨(C35.coef u dt).c1, (C35.coef u dt).c2, (C35.coef u dt).c3, (C35.coef u dt).c4, p, pp⟩] = false)
    (z : ℂ)
    (hz : charPoly ((σ * (cf * cf * (1 / mu) * (1 / eps)) : ℝ) : ℂ) ((1 / eps : ℝ) : ℂ)
      (((C35.coef u dt).c1 : ℝ) : ℂ) (((C35.coef u dt).c2 : ℝ) : ℂ) (((C35.coef u dt).c3 : ℝ) : ℂ) z = 0) :
    ‖z‖ = 1 := by
  refine C36_lossless_sufficiency cf eps mu dt σ u p pp heps hmu hdt hg hb0 ha0 hw0 hw hσ0 hσ1 ?_ z hz
  simp only [warns, decide_eq_false_iff_not, not_lt] at hsilent
  linarith

/-- damped pole with `ω0 ≥ 0`, `γ > 0`, strength `> 0` and measure `< 1`: for every mode `σ ∈ (0, 1]` no root of the
per-mode characteristic polynomial lies outside the closed unit disc -/
private theorem damped_sufficiency (cf eps mu dt σ : ℝ) (u : C35.Uni ℝ) (p pp : ℝ)
    (heps : 0 < eps) (hmu : 0 < mu) (hdt : 0 < dt) (hcf : 0 < cf)
    (hg : 0 < u.g) (hb0 : u.b = 0) (ha0 : 0 < u.a) (hw0 : 0 ≤ u.w0) (hw : u.w0 * dt < 2)
    (hσ0 : 0 < σ) (hσ1 : σ ≤ 1)
    (hm : measure cf eps mu
      [⟨(C35.coef u dt).c1, (C35.coef u dt).c2, (C35.coef u dt).c3, (C35.coef u dt).c4, p, pp⟩] < 1)
    (z : ℂ)
    (hz : charPoly ((σ * (cf * cf * (1 / mu) * (1 / eps)) : ℝ) : ℂ) ((1 / eps : ℝ) : ℂ)
      (((C35.coef u dt).c1 : ℝ) : ℂ) (((C35.coef u dt).c2 : ℝ) : ℂ) (((C35.coef u dt).c3 : ℝ) : ℂ) z = 0) :
    ‖z‖ ≤ 1 := by
  have hh : 0 < u.g * dt / 2 := by positivity
  have hD : 1 + u.g * dt / 2 ≠ 0 := (add_pos one_pos hh).ne'
  have ha4 := C35.sq_lt_four (mul_nonneg hw0 hdt.le) hw
  have hν : 0 < cf * cf * (1 / mu) * (1 / eps) := by positivity
  refine damped_core _ _ _ _ (mul_nonneg (mul_self_nonneg _) (mul_self_nonneg _)) ha4 (by positivity) (by positivity)
    hh ?_ z (core_of_stored (1 / eps) _ hD rfl rfl (stored_c3 u dt hb0) z hz)
  rw [measure_pole cf eps mu dt u p pp hD hb0] at hm
  rw [← sub_pos, margin_eq _ _ _ eps σ (sub_pos.mpr ha4).ne']
  exact mul_pos (mul_pos (by norm_num) (sub_pos.mpr ha4))
    (add_pos_of_pos_of_nonneg (sub_pos.mpr hm) (mul_nonneg (sub_nonneg.mpr hσ1) hν.le))

/-- C36 (sufficiency, damped Lorentz pole): with the coefficients fdtdx stores for a damped Lorentz pole
(`γ > 0`, `ω0 > 0`, strength `> 0`), a stability measure `< 1` implies that for every Fourier mode `σ ∈ (0, 1]`
no root of the per-mode characteristic polynomial of `forward` lies outside the closed unit disc. -/
theorem C36_damped_lorentz_sufficiency (cf eps mu dt σ : ℝ) (u : C35.Uni ℝ) (p pp : ℝ)
    (heps : 0 < eps) (hmu : 0 < mu) (hdt : 0 < dt) (hcf : 0 < cf)
    (hg : 0 < u.g) (hb0 : u.b = 0) (ha0 : 0 < u.a) (hw0 : 0 < u.w0) (hw : u.w0 * dt < 2)
    (hσ0 : 0 < σ) (hσ1 : σ ≤ 1)
    (hm : measure cf eps mu
      [⟨(C35.coef u dt).c1, (C35.coef u dt).c2, (C35.coef u dt).c3, (C35.coef u dt).c4, p, pp⟩] < 1)
    (z : ℂ)
    (hz : charPoly ((σ * (cf * cf * (1 / mu) * (1 / eps)) : ℝ) : ℂ) ((1 / eps : ℝ) : ℂ)
      (((C35.coef u dt).c1 : ℝ) : ℂ) (((C35.coef u dt).c2 : ℝ) : ℂ) (((C35.coef u dt).c3 : ℝ) : ℂ) z = 0) :
    ‖z‖ ≤ 1 :=
  damped_sufficiency cf eps mu dt σ u p pp heps hmu hdt hcf hg hb0 ha0 hw0.le hw hσ0 hσ1 hm z hz

/-- C36 (sufficiency, damped Drude pole): the same for `ω0 = 0`, `γ > 0`, `ω_p > 0`. -/
theorem C36_damped_drude_sufficiency (cf eps mu dt σ : ℝ) (u : C35.Uni ℝ) (p pp : ℝ)
    (heps : 0 < eps) (hmu : 0 < mu) (hdt : 0 < dt) (hcf : 0 < cf)
    (hg : 0 < u.g) (hb0 : u.b = 0) (ha0 : 0 < u.a) (hw0 : u.w0 = 0)
    (hσ0 : 0 < σ) (hσ1 : σ ≤ 1)
    (hm : measure cf eps mu
      [⟨(C35.coef u dt).c1, (C35.coef u dt).c2, (C35.coef u dt).c3, (C35.coef u dt).c4, p, pp⟩] < 1)
    (z : ℂ)
    (hz : charPoly ((σ * (cf * cf * (1 / mu) * (1 / eps)) : ℝ) : ℂ) ((1 / eps : ℝ) : ℂ)
      (((C35.coef u dt).c1 : ℝ) : ℂ) (((C35.coef u dt).c2 : ℝ) : ℂ) (((C35.coef u dt).c3 : ℝ) : ℂ) z = 0) :
    ‖z‖ ≤ 1 :=
  damped_sufficiency cf eps mu dt σ u p pp heps hmu hdt hcf hg hb0 ha0 hw0.ge
    (by rw [hw0, zero_mul]; norm_num) hσ0 hσ1 hm z hz

/-! ### non-vacuity: the materials of the harness (`MM_LIB`, damping set to 0), courant_factor 0.99 -/

/-- "au": ε∞ = 9, Drude (ω_p dt)² = 8  →  measure (0.9801 + 2)/9 ≤ 1 -/
example : measure (99 / 100 : ℝ) 9 1
    [⟨(C35.coef ⟨0, 0, 8, 0⟩ (1 : ℝ)).c1, (C35.coef ⟨0, 0, 8, 0⟩ (1 : ℝ)).c2, (C35.coef ⟨0, 0, 8, 0⟩ (1 : ℝ)).c3,
      (C35.coef ⟨0, 0, 8, 0⟩ (1 : ℝ)).c4, 0, 0⟩] ≤ 1 := by
  rw [measure_pole _ _ _ _ _ _ _ (by norm_num) rfl]; norm_num

/-- "si": ε∞ = 12, Lorentz ω0 dt = 6/5, Δε = 6  →  measure (0.9801 + 3.375)/12 ≤ 1 -/
example : measure (99 / 100 : ℝ) 12 1
    [⟨(C35.coef (C35.lorentz (6 / 5) 0 6) (1 : ℝ)).c1, (C35.coef (C35.lorentz (6 / 5) 0 6) (1 : ℝ)).c2,
      (C35.coef (C35.lorentz (6 / 5) 0 6) (1 : ℝ)).c3, (C35.coef (C35.lorentz (6 / 5) 0 6) (1 : ℝ)).c4, 0, 0⟩] ≤ 1 := by
  simp only [C35.lorentz]
  rw [measure_pole _ _ _ _ _ _ _ (by norm_num) rfl]; norm_num

/-- the hypothesis is sharp: the same gold pole on ε∞ = 2.25 (the mis-paired cells of the seeded defects) violates it -/
example : ¬ measure (99 / 100 : ℝ) (9 / 4) 1
    [⟨(C35.coef ⟨0, 0, 8, 0⟩ (1 : ℝ)).c1, (C35.coef ⟨0, 0, 8, 0⟩ (1 : ℝ)).c2, (C35.coef ⟨0, 0, 8, 0⟩ (1 : ℝ)).c3,
      (C35.coef ⟨0, 0, 8, 0⟩ (1 : ℝ)).c4, 0, 0⟩] ≤ 1 := by
  rw [measure_pole _ _ _ _ _ _ _ (by norm_num) rfl]; norm_num

/-! ### non-vacuity for the damped theorems: harness materials with their actual damping γdt = 0.05 -/

/-- "au" (Drude, (ω_p dt)² = 8, γdt = 1/20, ε∞ = 9): measure < 1 -/
example : measure (99 / 100 : ℝ) 9 1
    [⟨(C35.coef ⟨0, 1 / 20, 8, 0⟩ (1 : ℝ)).c1, (C35.coef ⟨0, 1 / 20, 8, 0⟩ (1 : ℝ)).c2,
      (C35.coef ⟨0, 1 / 20, 8, 0⟩ (1 : ℝ)).c3, (C35.coef ⟨0, 1 / 20, 8, 0⟩ (1 : ℝ)).c4, 0, 0⟩] < 1 := by
  rw [measure_pole _ _ _ _ _ _ _ (by norm_num) rfl]; norm_num

/-- "si" (Lorentz, ω0 dt = 6/5, γdt = 1/20, Δε = 6, ε∞ = 12): measure < 1 -/
example : measure (99 / 100 : ℝ) 12 1
    [⟨(C35.coef (C35.lorentz (6 / 5) (1 / 20) 6) (1 : ℝ)).c1, (C35.coef (C35.lorentz (6 / 5) (1 / 20) 6) (1 : ℝ)).c2,
      (C35.coef (C35.lorentz (6 / 5) (1 / 20) 6) (1 : ℝ)).c3, (C35.coef (C35.lorentz (6 / 5) (1 / 20) 6) (1 : ℝ)).c4, 0, 0⟩] < 1 := by
  simp only [C35.lorentz]
  rw [measure_pole _ _ _ _ _ _ _ (by norm_num) rfl]; norm_num

/-! ### one handle for the axiom audit -/
theorem C36_sufficiency_clauses :
    (type_of% @C36_lossless_core) ∧ (type_of% @C36_lossless_sufficiency) ∧ (type_of% @C36_silent_is_stable) ∧
    (type_of% @hurwitz_quartic) ∧ (type_of% @hurwitz_cubic) ∧ (type_of% @C36_damped_core) ∧
    (type_of% @C36_damped_drude_core) ∧ (type_of% @C36_damped_lorentz_sufficiency) ∧
    (type_of% @C36_damped_drude_sufficiency) :=
  ⟨@C36_lossless_core, @C36_lossless_sufficiency, @C36_silent_is_stable, @hurwitz_quartic, @hurwitz_cubic,
   @C36_damped_core, @C36_damped_drude_core, @C36_damped_lorentz_sufficiency, @C36_damped_drude_sufficiency⟩

end Fdtdx.C36
