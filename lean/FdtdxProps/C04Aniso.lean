/-
C04 (instantiation, full-tensor tier) — the abstract gradient-equality theorems of `FdtdxProps/C04.lean` for the any-tier
Yee step of `FdtdxModel/YeeAniso.lean` (no absorbing layers).

`anisoSys` — state = `(E, H)`, parameters = the material arrays `MatA K` of ANY tier (scalar / 1 / 3 / 9 leading components;
in particular a full, not necessarily symmetric 3×3 inverse permittivity and / or inverse permeability tensor per cell),
forward step = `YeeAniso.forwardA` (uniform or spacing-weighted neighbour averages `aw`) with the additive source terms
`jE t m`, `jH t m` of step `t`, reverse step = `YeeAniso.backwardA` with the same terms.  The invertibility hypothesis of
the abstract theorem is DISCHARGED for lossless materials (σ_E = σ_H = none) by `C02_aniso_lossless_roundtrip`
(walls preserved by `forwardA_walls`):

  C04Aniso_vjp_equal / C04Aniso_end_to_end   for every grid shape, halo mix (zero / periodic / Bloch multipliers), PEC / PMC
      walls, metric, averaging widths, lossless materials of any tier, every source family, every number of steps T, every
      number of slices k ≥ 1 / every valid checkpoint list, every per-step reverse-mode rule and every incoming cotangent,
      the time-reversed accumulation equals the stored-trajectory accumulation.  No invertibility hypothesis is left.
  C04Aniso_reconstruction                    the reverse loop ends in the initial state (= `C02_aniso_lossless_roundtrip_steps`).

Scope.  (1) PML-free: the known finding of C04 about a full inverse-permittivity tensor next to absorbing layers concerns the
CPML step and is outside this instantiation.  (2) LOSSY full tensors are excluded on purpose: the reverse step is then not
an inverse (`C02.aniso_lossy_roundtrip_fails`); what it does reconstruct is stated in
`C02.aniso_lossy_reconstructs_local_E` / `_H` (FdtdxProps/C02AnisoLossy.lean).  (3) As in `C04Yee`, the rule is ANY family of functions of step index, state and
materials; it is not constructed as the transpose of `forwardA`.
-/
import FdtdxProps.C04
import FdtdxProps.C02Aniso

namespace Fdtdx.C04Aniso
open Fdtdx Fdtdx.Yee Fdtdx.YeeAniso Fdtdx.C01 Fdtdx.C02 Fdtdx.C04

section
variable {K : Type} [Field K] {CS CP : Type}

/-- reverse-mode data of one any-tier time step (cf. `C04Yee.Rule`; the parameters are `MatA K`) -/
structure RuleA (K : Type) (CS CP : Type) where
  aT : Nat → V3 K × V3 K → MatA K → CS → CS
  bT : Nat → V3 K × V3 K → MatA K → CS → CP
  add : CP → CP → CP

/-- the abstract system of `FdtdxModel/C04.lean` instantiated with the any-tier Yee step -/
def anisoSys (cf : Cfg K) (aw : Option (AW K)) (jE jH : Nat → MatA K → V3 K) (r : RuleA K CS CP) :
    Sys (V3 K × V3 K) (V3 K × V3 K) (MatA K) CS CP :=
  { f := fun t s m => forwardA cf aw m (jE t.toNat m) (jH t.toNat m) s.1 s.2
    g := fun t s m => backwardA cf aw m (jE t.toNat m) (jH t.toNat m) s.1 s.2
    vjpS := fun t s m c => r.aT t.toNat s m c
    vjpP := fun t s m c => r.bT t.toNat s m c
    addP := r.add
    getF := fun s => s
    setF := fun _ f => f }

/-- the trajectory of `anisoSys` is C02Aniso's `fwdNA` from step 0 -/
theorem aniso_traj {cf : Cfg K} {aw : Option (AW K)} {jE jH : Nat → MatA K → V3 K} {r : RuleA K CS CP} {m : MatA K}
    {s0 : V3 K × V3 K} (n : Nat) :
    traj (anisoSys cf aw jE jH r) m s0 n = fwdNA cf aw m (fun t => jE t m) (fun t => jH t m) 0 n s0 := by
  induction n with
  | zero => rfl
  | succ n ih => simp [traj, fwdNA, anisoSys, ← ih]

/-- the hypotheses of the abstract theorem hold for the lossless any-tier step: exact reconstruction along the run -/
theorem aniso_hyp {cf : Cfg K} {aw : Option (AW K)} {jE jH : Nat → MatA K → V3 K} {r : RuleA K CS CP} {m : MatA K}
    {s0 : V3 K × V3 K} (hE : m.sigE = none) (hH : m.sigH = none) (hw : WallOK cf s0.1 s0.2) (T : Nat) :
    HypTraj (anisoSys cf aw jE jH r) m s0 T (fun a b => a = b) (fun c : CP => c) r.add :=
  HypTraj.of_inverse _ m s0 T
    (fun n _ => C02_aniso_lossless_roundtrip cf aw m (jE n m) (jH n m) _ _ hE hH
      (by rw [aniso_traj]; exact fwdNA_walls cf aw m _ _ 0 n _ _ hw))
    (fun _ => rfl)

/-- **C04Aniso_vjp_equal** — reverse loop of `fdtd_bwd` over the lossless any-tier step, any valid checkpoint list. -/
theorem C04Aniso_vjp_equal (cf : Cfg K) (aw : Option (AW K)) (jE jH : Nat → MatA K → V3 K) (r : RuleA K CS CP) (m : MatA K)
    (s0 : V3 K × V3 K) (hE : m.sigE = none) (hH : m.sigH = none) (hw : WallOK cf s0.1 s0.2) (T : Nat)
    (cks : List (Int × (V3 K × V3 K))) (hck : CksOK (anisoSys cf aw jE jH r) m s0 cks) (cs : CS) (cp0 : CP) :
    (fdtdBwd (anisoSys cf aw jE jH r) m cks (initCarry T (traj (anisoSys cf aw jE jH r) m s0 T) cs cp0)).cp
      = gradExact (anisoSys cf aw jE jH r) m s0 T cs cp0 :=
  C04_vjp_equal_traj (aniso_hyp hE hH hw T) cks hck _ rfl cs cp0

/-- **C04Aniso_end_to_end** — for every configuration, every lossless material of any tier (full 3×3 tensors included),
every source family, every `T`, every number of slices `k ≥ 1`, every rule and every incoming cotangent: the gradient
accumulated by the time-reversed method equals the gradient accumulated over the stored forward trajectory. -/
theorem C04Aniso_end_to_end (cf : Cfg K) (aw : Option (AW K)) (jE jH : Nat → MatA K → V3 K) (r : RuleA K CS CP) (m : MatA K)
    (s0 : V3 K × V3 K) (hE : m.sigE = none) (hH : m.sigH = none) (hw : WallOK cf s0.1 s0.2) (T k : Nat) (hk : 1 ≤ k)
    (cs : CS) (cp0 : CP) :
    gradReversible (anisoSys cf aw jE jH r) m s0 T k cs cp0 = gradExact (anisoSys cf aw jE jH r) m s0 T cs cp0 :=
  C04_end_to_end_traj (aniso_hyp hE hH hw T) rfl k hk cs cp0

/-- **C04Aniso_reconstruction** — the state the reverse loop ends with is the initial state; the n-step identity is
`C02_aniso_lossless_roundtrip_steps`. -/
theorem C04Aniso_reconstruction (cf : Cfg K) (aw : Option (AW K)) (jE jH : Nat → MatA K → V3 K) (r : RuleA K CS CP)
    (m : MatA K) (s0 : V3 K × V3 K) (hE : m.sigE = none) (hH : m.sigH = none) (hw : WallOK cf s0.1 s0.2) (T : Nat)
    (cks : List (Int × (V3 K × V3 K))) (hck : CksOK (anisoSys cf aw jE jH r) m s0 cks) (cs : CS) (cp0 : CP) :
    (fdtdBwd (anisoSys cf aw jE jH r) m cks (initCarry T (traj (anisoSys cf aw jE jH r) m s0 T) cs cp0)).s = s0 ∧
    bwdNA cf aw m (fun t => jE t m) (fun t => jH t m) 0 T (traj (anisoSys cf aw jE jH r) m s0 T) = s0 := by
  refine ⟨(fdtdBwd_traj (aniso_hyp hE hH hw T) cks hck _ rfl cs cp0).2, ?_⟩
  rw [aniso_traj]
  exact C02_aniso_lossless_roundtrip_steps cf aw m _ _ 0 T s0.1 s0.2 hE hH hw

end

/-! ### non-vacuity: C01's 2×3×2 domain (periodic x, PEC y) with the full non-symmetric tensor `exMatA` of C02Aniso -/

/-- probe rule: the sensitivity of `E'_x(1,1,1)` to the xz entry of the inverse-permittivity tensor at that cell,
c · avg(curl_H(H)_z at the x location) — it reads the AVERAGED curl of the current H, so it matters at which state it is
evaluated -/
def exRuleA : RuleA ℚ ℚ ℚ :=
  { aT := fun _ _ _ c => c
    bT := fun _ s _ c => c * exCfg.c * avgE exCfg none 2 0 (curlH exCfg s.2).z 1 1 1
    add := fun a b => a + b }

def exSrcEA : Nat → MatA ℚ → V3 ℚ := fun t m => ⟨fun i j k => (t + 1) * (m.invEps.expand i j k).xy, fun _ _ _ => 0, fun _ _ _ => 0⟩
def exSrcHA : Nat → MatA ℚ → V3 ℚ := fun _ _ => constV 0

theorem exWallA : WallOK exCfg exE exH := ex_wallOK

/-- the material is a genuine full tensor (update_E takes the 9-component branch) and lossless -/
example : exMatA.fullE = true ∧ exMatA.sigE = none ∧ exMatA.sigH = none := by decide

/-- the probe rule is state dependent -/
example : exRuleA.bT 0 (exE, exH) exMatA 1 ≠ exRuleA.bT 0 (exE, constV 0) exMatA 1 := by
  decide +kernel

/-- the theorem applied: all `T`, all `k ≥ 1`, all cotangents, on the concrete full-tensor configuration -/
example (T k : Nat) (hk : 1 ≤ k) (cs cp0 : ℚ) :
    gradReversible (anisoSys exCfg none exSrcEA exSrcHA exRuleA) exMatA (exE, exH) T k cs cp0
      = gradExact (anisoSys exCfg none exSrcEA exSrcHA exRuleA) exMatA (exE, exH) T cs cp0 :=
  C04Aniso_end_to_end exCfg none exSrcEA exSrcHA exRuleA exMatA (exE, exH) rfl rfl exWallA T k hk cs cp0

end Fdtdx.C04Aniso
