/-
C40 — Functional updates never mutate their input.

Property theorems about `FdtdxModel/C40.lean` (`asetHeap` = `TreeClass.aset` on a heap of objects, lists, tuples,
dicts and atoms), for every heap, every path (any length, any mix of attribute / index / key operations, valid or
not), every new value and both settings of `create_new_ok`.  A call only appends cells (`aset_ext`): every old address
keeps its node and its value, and the returned root is a NEW address with the constructor and class of the input.  Read
through `deref`, the call computes the pure update `updTree` of the input's value at the path and raises exactly when
that update is undefined (`aset_spec`); the one-level laws `C40_put_get` / `C40_put_other` / `C40_put_ctor` give
`updTree` its meaning.  The path parser reads back every rendered list of well-formed operations, so distinct lists have
distinct paths.

`deref`, `updTree`, `WF`, `Ext` are defined in `FdtdxLemmas/C40.lean`.
-/
import FdtdxLemmas.C40
import FdtdxLemmas.C40Parse

namespace Fdtdx.C40

/-! ### one-level laws of the primitives (any child type) -/

/-- which slot of a node an operation addresses (negative list indices are normalised) -/
def slot {β : Type} (n : NodeF β) (op : Op) : Option Key :=
  match n, op with
  | .obj _ _, .attr nm => some (.s nm)
  | .list xs, .idx i => (pyIndex xs.length i).map fun j => Key.i j
  | .tuple xs, .idx i => (pyIndex xs.length i).map fun j => Key.i j
  | .dict _, .idx i => some (.i i)
  | .dict _, .key k => some (.s k)
  | _, _ => none

/-- C40_put_get: after the rebuild step the addressed child is the new value. -/
theorem C40_put_get {β : Type} (n n' : NodeF β) (op : Op) (b : β) (m : Bool) (h : setChild n op b = some n') :
    descend n' op m = .child b := by
  apply setChild_cases (h := h) <;> intros
  · simp only [descend, assocGet_set_same]
  · rename_i hp
    simp only [descend, List.length_set, hp, List.getElem?_set_self (pyIndex_lt hp)]
  · simp only [descend, assocGet_set_same]
  · simp only [descend, assocGet_set_same]

/-- C40_put_other: every other slot of the node reads as before (siblings are shared, not copied or changed). -/
theorem C40_put_other {β : Type} (n n' : NodeF β) (op op' : Op) (b : β) (m : Bool)
    (h : setChild n op b = some n') (hne : slot n op' ≠ slot n op) : descend n' op' m = descend n op' m := by
  revert hne
  apply setChild_cases (h := h) <;> intros <;> rename_i hne <;> cases op' <;> simp only [descend, List.length_set]
  · rw [assocGet_set_other]
    exact fun e => hne (congrArg (fun s => some (Key.s s)) e)
  · rename_i xs i j hp i'
    cases hp' : pyIndex xs.length i' with
    | none => rfl
    | some j' =>
      have : j ≠ j' := fun e => hne (by simp only [slot, hp, hp', e])
      simp only [List.getElem?_set_ne this]
  · rw [assocGet_set_other]
    exact fun e => hne (congrArg some e)
  · rw [assocGet_set_other]
    nofun
  · rw [assocGet_set_other]
    nofun
  · rw [assocGet_set_other]
    exact fun e => hne (congrArg some e)

/-- C40_put_ctor: the copy has the constructor and class of the original node. -/
theorem C40_put_ctor {β : Type} (n n' : NodeF β) (op : Op) (b : β) (h : setChild n op b = some n') :
    n'.ctor = n.ctor := (setChild_spec h).1

/-! ### the heap never changes below its old size -/

/-- a successful call ends by allocating the rebuilt node on top of the heap `h1` reached so far -/
theorem alloc_eq_some {h1 h' : Heap} {r' : Nat} {o : Option Node} (e : o.map h1.alloc = some (h', r')) :
    ∃ n', o = some n' ∧ h' = (h1.alloc n').1 ∧ r' = h1.size := by
  cases o with
  | none => cases e
  | some n' => exact ⟨n', rfl, (congrArg Prod.fst (Option.some.inj e)).symm, (congrArg Prod.snd (Option.some.inj e)).symm⟩

theorem rebuild_ext {h h1 h' : Heap} {a x r' : Nat} {op : Op} (ex : Ext h h1)
    (e : (setChild (h.node a) op x).map h1.alloc = some (h', r')) :
    Ext h h' ∧ r' + 1 = h'.size ∧ h.size ≤ r' ∧ (h'.node r').ctor = (h.node a).ctor := by
  obtain ⟨n', hs, rfl, rfl⟩ := alloc_eq_some e
  exact ⟨ex.trans (alloc_ext h1 n'), (alloc_size h1 n').symm, ex.size_le,
    (alloc_node h1 n').symm ▸ (setChild_spec hs).1⟩

/-- a successful call only appends cells; the returned root is the last of them and has the constructor and class of
the node it was rebuilt from -/
theorem aset_ext (h : Heap) (v : Nat) (c : Bool) : ∀ (ops : List Op) (a : Nat) (h' : Heap) (r' : Nat),
    asetHeap h v c ops a = some (h', r') →
      Ext h h' ∧ r' + 1 = h'.size ∧ h.size ≤ r' ∧ (h'.node r').ctor = (h.node a).ctor
  | [], _, _, _, e => by cases e
  | [op], a, h', r', e => by
    rw [asetHeap] at e
    split at e
    · cases e
    · exact rebuild_ext (Ext.refl h) e
  | op :: op2 :: rest, a, h', r', e => by
    rw [asetHeap] at e
    split at e
    · split at e
      · exact rebuild_ext (aset_ext h v c _ _ _ _ ‹_›).1 e
      · cases e
    · cases e

/-- C40_frame: every pre-existing address keeps its node — nothing reachable from the input was written to. -/
theorem C40_frame (h h' : Heap) (v a r' : Nat) (c : Bool) (ops : List Op)
    (e : asetHeap h v c ops a = some (h', r')) : ∀ b, b < h.size → h'.node b = h.node b :=
  fun b hb => (aset_ext h v c ops a h' r' e).1.node b hb

/-- C40_same_type: the result is a fresh address (not the input) with the same constructor and class. -/
theorem C40_same_type (h h' : Heap) (v a r' : Nat) (c : Bool) (ops : List Op)
    (e : asetHeap h v c ops a = some (h', r')) :
    h.size ≤ r' ∧ r' < h'.size ∧ (h'.node r').ctor = (h.node a).ctor := by
  obtain ⟨_, h2, h3, h4⟩ := aset_ext h v c ops a h' r' e
  exact ⟨h3, h2 ▸ Nat.lt_succ_self r', h4⟩

/-! ### the result is the pure update -/

theorem descend_deref {h : Heap} (hwf : WF h) {a : Nat} (ha : a < h.size) (op : Op) (m : Bool) :
    descend (deref h a).node op m = (descend (h.node a) op m).map (deref h) := by
  rw [node_deref h hwf a ha, descend_map]

/-- the rebuild step of the heap model, read through `deref`, is the rebuild step of `updTree`: `a` is a node of the
original heap `h`, the new child `x` lives in the heap `h1` reached so far -/
theorem rebuild_spec {h h1 : Heap} (hwf : WF h) (hwf1 : WF h1) (ex : Ext h h1) {a x : Nat} (ha : a < h.size)
    (hx : x < h1.size) (op : Op) :
    (setChild (deref h a).node op (deref h1 x)).map Tree.mk =
        ((setChild (h.node a) op x).map h1.alloc).map (fun p => deref p.1 p.2) ∧
      ∀ h' r', (setChild (h.node a) op x).map h1.alloc = some (h', r') → WF h' := by
  have hkid : ∀ k : Nat, k ∈ (h.node a).kids → k < h.size := fun k hk => Nat.lt_trans (hwf a ha k hk) ha
  have hN : (deref h a).node = (h.node a).map (deref h1) :=
    (node_deref h hwf a ha).trans (NodeF.map_congr fun k hk => (deref_ext hwf ex k (hkid k hk)).symm)
  rw [hN, setChild_map]
  cases hs : setChild (h.node a) op x with
  | none => exact ⟨rfl, fun _ _ e => by cases e⟩
  | some n' =>
    have hk' : ∀ k : Nat, k ∈ n'.kids → k < h1.size := fun k hk =>
      ((setChild_spec hs).2 k hk).elim (fun hk => Nat.lt_of_lt_of_le (hkid k hk) ex.size_le) (fun e => e ▸ hx)
    refine ⟨congrArg some (deref_alloc h1 hwf1 n' hk').symm, fun h' r' e => ?_⟩
    obtain ⟨_, e', rfl, rfl⟩ := alloc_eq_some e
    exact Option.some.inj e' ▸ alloc_wf h1 n' hwf1 hk'

/-- read through `deref`, the heap model computes `updTree` — success, failure and value — and keeps the heap well formed -/
theorem aset_spec (h : Heap) (hwf : WF h) (v : Nat) (hv : v < h.size) (c : Bool) :
    ∀ (ops : List Op) (a : Nat), a < h.size →
      updTree (deref h v) c ops (deref h a) = (asetHeap h v c ops a).map (fun p => deref p.1 p.2) ∧
      ∀ h' r', asetHeap h v c ops a = some (h', r') → WF h'
  | [], _, _ => ⟨rfl, fun _ _ e => by cases e⟩
  | [op], a, ha => by
    rw [updTree, asetHeap, descend_deref hwf ha]
    cases descend (h.node a) op c with
    | err => exact ⟨rfl, fun _ _ e => by cases e⟩
    | fresh | child _ => exact rebuild_spec hwf hwf (Ext.refl h) ha hv op
  | op :: op2 :: rest, a, ha => by
    rw [updTree, asetHeap, descend_deref hwf ha]
    cases hd : descend (h.node a) op false with
    | err | fresh => exact ⟨rfl, fun _ _ e => by cases e⟩
    | child c0 =>
      have hc0 : c0 < h.size := Nat.lt_trans (hwf a ha c0 (descend_kid hd)) ha
      obtain ⟨ihU, ihW⟩ := aset_spec h hwf v hv c (op2 :: rest) c0 hc0
      simp only [Res.map, ihU]
      cases hin : asetHeap h v c (op2 :: rest) c0 with
      | none => exact ⟨rfl, fun _ _ e => by cases e⟩
      | some p =>
        obtain ⟨ex, hsz, _, _⟩ := aset_ext h v c _ c0 p.1 p.2 hin
        exact rebuild_spec hwf (ihW _ _ hin) ex ha (hsz ▸ Nat.lt_succ_self _) op

/-- C40_result_is_update: the returned object's value is the input's value updated at the path, nothing else. -/
theorem C40_result_is_update (h h' : Heap) (hwf : WF h) (v a r' : Nat) (hv : v < h.size) (ha : a < h.size)
    (c : Bool) (ops : List Op) (e : asetHeap h v c ops a = some (h', r')) :
    updTree (deref h v) c ops (deref h a) = some (deref h' r') :=
  (aset_spec h hwf v hv c ops a ha).1.trans (congrArg (Option.map _) e)

/-- C40_original_unchanged: the value reachable from any old address — in particular from the input object `a`
and from the new value `v` — is the same after the call. -/
theorem C40_original_unchanged (h h' : Heap) (hwf : WF h) (v a r' : Nat) (c : Bool) (ops : List Op)
    (e : asetHeap h v c ops a = some (h', r')) : ∀ b, b < h.size → deref h' b = deref h b :=
  fun b hb => deref_ext hwf (aset_ext h v c ops a h' r' e).1 b hb

/-- C40_error_iff: `aset` raises exactly when the pure update at that path is undefined. -/
theorem C40_error_iff (h : Heap) (hwf : WF h) (v a : Nat) (hv : v < h.size) (ha : a < h.size)
    (c : Bool) (ops : List Op) :
    asetHeap h v c ops a = none ↔ updTree (deref h v) c ops (deref h a) = none := by
  rw [(aset_spec h hwf v hv c ops a ha).1, Option.map_eq_none_iff]

/-! ### named error cases -/

/-- a missing attribute without `create_new_ok` raises -/
theorem C40_error_missing_attr (h : Heap) (v a : Nat) (cls : Nat) (fs : List (String × Addr)) (nm : String)
    (hn : h.node a = .obj cls fs) (hm : assocGet fs nm = none) : asetHeap h v false [.attr nm] a = none := by
  simp [asetHeap, hn, descend, hm]

/-- … and with `create_new_ok` it is appended, the other attributes keep their addresses -/
theorem C40_create_attr (h : Heap) (v a : Nat) (cls : Nat) (fs : List (String × Addr)) (nm : String)
    (hn : h.node a = .obj cls fs) (hm : assocGet fs nm = none) :
    asetHeap h v true [.attr nm] a = some (h.alloc (.obj cls (assocSet fs nm v))) := by
  simp [asetHeap, hn, descend, hm, setChild]

/-- an index outside `-len ≤ i < len` raises, with or without `create_new_ok` -/
theorem C40_error_bad_index (h : Heap) (v a : Nat) (c : Bool) (xs : List Addr) (i : Int)
    (hn : h.node a = .list xs) (hi : i < -(xs.length : Int) ∨ (xs.length : Int) ≤ i) :
    asetHeap h v c [.idx i] a = none := by
  have : pyIndex xs.length i = none := by
    unfold pyIndex
    rw [if_neg (by omega), if_neg (by omega)]
  simp [asetHeap, hn, descend, this]

/-- a step that is not the last one must reach an existing child, whatever `create_new_ok` says -/
theorem C40_error_inner (h : Heap) (v a : Nat) (c : Bool) (op op2 : Op) (rest : List Op)
    (hd : ∀ c0, descend (h.node a) op false ≠ .child c0) : asetHeap h v c (op :: op2 :: rest) a = none := by
  rw [asetHeap]
  cases hc : descend (h.node a) op false with
  | child c0 => exact absurd hc (hd c0)
  | fresh | err => rfl

/-- a tuple cannot be updated through, although the descent succeeds -/
theorem C40_error_tuple (h : Heap) (v a : Nat) (c : Bool) (xs : List Addr) (i : Int)
    (hn : h.node a = .tuple xs) : asetHeap h v c [.idx i] a = none := by
  simp only [asetHeap, hn, setChild]
  split <;> rfl

/-! ### the path parser: `parse (render ops) = ops` -/

/-- one turn of the loop on a rendered operation: first or not, the separator test leaves `renderOp op ++ renderTail rest`,
from which `stepOp` reads `op` back -/
theorem parse_step {first : Bool} {cs : List Char} {op : Op} {rest : List Op} (hw : wfOp op = true)
    (hne : cs.isEmpty = false) (hsep : sep first cs = some (renderOp op ++ renderTail rest)) (fuel : Nat) (acc : List Op) :
    parseLoop (fuel + 1) first cs acc = parseLoop fuel false (renderTail rest) (op :: acc) := by
  rw [parseLoop, hne, Bool.and_false, if_neg Bool.false_ne_true, hsep]
  simp only [stepOp_render op hw rest]

/-- the loop reads back the operations after the first -/
theorem parse_tail : ∀ (ops acc : List Op) (fuel : Nat), ops.all wfOp = true → ops.length < fuel →
    parseLoop fuel false (renderTail ops) acc = some (acc.reverse ++ ops)
  | [], acc, fuel + 1, _, _ => by
    rw [parseLoop, List.append_nil]
    rfl
  | op :: rest, acc, fuel + 1, hw, hf => by
    rw [List.all_cons, Bool.and_eq_true] at hw
    obtain ⟨x, xs, hx⟩ := List.exists_cons_of_ne_nil (renderOp_ne_nil op hw.1)
    have hsep : sep false (renderTail (op :: rest)) = some (renderOp op ++ renderTail rest) := by
      simp only [renderTail, sep, hx, List.cons_append, List.isEmpty_cons, Bool.false_eq_true, if_false]
    rw [parse_step hw.1 rfl hsep, parse_tail rest (op :: acc) fuel hw.2 (Nat.lt_of_succ_lt_succ hf), List.reverse_cons,
      List.append_assoc]
    rfl

theorem renderTail_length (ops : List Op) : ops.length ≤ (renderTail ops).length := by
  induction ops with
  | nil => exact Nat.le_refl 0
  | cons op rest ih => simp only [renderTail, List.length_cons, List.length_append]; omega

/-- C40_parse_render: every non-empty list of well-formed operations is read back exactly from its rendering
(`a->b->[0]->['k']`): the parser and the documented syntax agree, for paths of any length. -/
theorem C40_parse_render (ops : List Op) (hne : ops ≠ []) (hw : ops.all wfOp = true) :
    parseChars (renderChars ops) = some ops := by
  obtain ⟨op, rest, rfl⟩ := List.exists_cons_of_ne_nil hne
  rw [List.all_cons, Bool.and_eq_true] at hw
  obtain ⟨x, xs, hx⟩ := List.exists_cons_of_ne_nil (renderOp_ne_nil op hw.1)
  have hemp : (renderChars (op :: rest)).isEmpty = false := by rw [renderChars, hx]; rfl
  have hlen := renderTail_length rest
  rw [parseChars, hemp, if_neg Bool.false_ne_true, parse_step hw.1 hemp rfl]
  exact parse_tail rest [op] _ hw.2 (by rw [renderChars, List.length_append]; omega)

/-- the same on strings, as `TreeClass.aset` receives the path -/
theorem C40_parse_render_string (ops : List Op) (hne : ops ≠ []) (hw : ops.all wfOp = true) :
    parseOps (renderPath ops) = some ops := by
  unfold parseOps renderPath
  rw [String.toList_ofList]
  exact C40_parse_render ops hne hw

/-- C40_render_injective: two different well-formed operation lists never render to the same path. -/
theorem C40_render_injective (ops ops' : List Op) (h1 : ops ≠ []) (h2 : ops' ≠ []) (w1 : ops.all wfOp = true)
    (w2 : ops'.all wfOp = true) (h : renderPath ops = renderPath ops') : ops = ops' := by
  have a := C40_parse_render_string ops h1 w1
  have b := C40_parse_render_string ops' h2 w2
  rw [h, b] at a
  exact (Option.some.inj a).symm

/-! #### the well-formedness predicate is what the parser needs: names outside it are rejected or mis-read
(replayed on the real `_parse_operations` by the harness, stream `not-wf`) -/

example : wfOp (.key "a]b") = false ∧ parseChars (renderChars [.attr "x", .key "a]b"]) = none := by decide +kernel
example : wfOp (.key "a[b") = false ∧ parseChars (renderChars [.attr "x", .key "a[b"]) = none := by decide +kernel
example : wfOp (.key "it's") = false ∧ parseChars (renderChars [.attr "x", .key "it's"]) = none := by decide +kernel
example : wfOp (.attr "a b") = false ∧ parseChars (renderChars [.attr "a b"]) = none := by decide +kernel
example : wfOp (.attr "1a") = false ∧ parseChars (renderChars [.attr "1a"]) = none := by decide +kernel
/-- an attribute name containing the separator is silently read as two attributes -/
example : wfOp (.attr "a->b") = false ∧ parseChars (renderChars [.attr "a->b"]) = some [.attr "a", .attr "b"] := by decide +kernel
/-- keys may contain the separator, blanks, or be empty -/
example : [Op.attr "cfg", .idx (-12), .key "a->b c", .key "", .idx 0].all wfOp = true ∧
    renderPath [.attr "cfg", .idx (-12), .key "a->b c", .key "", .idx 0] = "cfg->[-12]->['a->b c']->['']->[0]" := by decide +kernel

/-! ### non-vacuity: a concrete well-formed heap, a path of length 3 with a negative index, and its result -/

/-- `K(a=[1, {"k": 2}], b=1)` at address 4, a new value at address 5 -/
def h0 : Heap := ⟨[.leaf "1", .leaf "2", .dict [(.s "k", 1)], .list [0, 2], .obj 7 [("a", 3), ("b", 0)], .leaf "9"]⟩

example : WF h0 := by
  unfold WF
  decide +kernel

example : asetHeap h0 5 false [.attr "a", .idx (-1), .key "k"] 4 =
    some (⟨h0.cells ++ [.dict [(.s "k", 5)], .list [0, 6], .obj 7 [("a", 7), ("b", 0)]]⟩, 8) := by
  decide +kernel

example : asetHeap h0 5 false [.attr "a", .idx 2] 4 = none := by decide +kernel
example : asetHeap h0 5 false [.attr "zz"] 4 = none := by decide +kernel
example : (asetHeap h0 5 true [.attr "zz"] 4).isSome = true := by decide +kernel
example : (5 : Nat) < h0.size ∧ (4 : Nat) < h0.size := by decide +kernel

end Fdtdx.C40
