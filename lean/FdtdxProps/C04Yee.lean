/-
C04 (instantiation) — the abstract gradient-equality theorems of `FdtdxProps/C04.lean` for the CONCRETE solver steps.

`FdtdxProps/C04.lean` proves "reversible gradient = exact reverse-mode gradient" for an abstract step under the
hypothesis that the reverse step reconstructs the forward state.  Here that hypothesis is DISCHARGED:

* `yeeSys`  — state = Yee `(E, H)`, parameters = the material arrays `Mat K` (inverse permittivity / permeability and the
  conductivities), forward step = `Yee.forward` with the additive source terms `jE t m`, `jH t m` of step `t` (they may
  depend on the materials, as `Source.update_E` scales with `inv_permittivities`), reverse step = `Yee.backward` with the
  same terms.  Invertibility along the run is C02 (`C02_roundtrip`, walls preserved by `C01_walls_preserved`);
  `C04Yee_reconstruction` re-states it as the n-step identity `C02_roundtrip_steps`.
      C04Yee_vjp_equal / C04Yee_end_to_end : for EVERY grid shape, halo mix, PEC/PMC walls, metric, diagonal materials with
      `FactorOK` (in particular every lossless medium: `factorOK_of_lossless`), every source family, every number of
      steps T, every number of slices k ≥ 1 / every valid checkpoint list, every per-step reverse-mode rule and every
      incoming cotangent, the time-reversed accumulation equals the stored-trajectory accumulation.  NO hypothesis
      about invertibility is left.
* `pmlSys`  — state = `(E, H, ψ-fields)` of the CPML model, forward = `Cpml.forwardP`, reverse = `Cpml.backwardP` fed with the
  lossless recording of the forward run (the interface slices of the state after the step being undone) and the ψ
  fields it carries.  Reconstruction of the interior is C03 (`C03_reverse_step`, `psi_zero_at_interface`).
      C04Pml_vjp_equal / C04Pml_end_to_end : the same statement under a projection π of the parameter cotangent, with
      the reconstruction hypotheses discharged and ONE assumption left on the rule (`RuleInterior`): Aᵀ and π∘Bᵀ
      take the same values at states that agree outside the absorbing layers.

**Loss functionals.**  A "rule" is the reverse-mode data of one step: `aT t s m : CS → CS` (cotangent of the state
through step `t`) and `bT t s m : CS → CP` (its contribution to the parameter cotangent), ANY functions of the step
index, the state the step starts from and the materials — in particular the true transposed derivative of the step.
`CS` is any type: with `CS = (cotangent of E,H) × (cotangent of all detector records)` and `aT` adding, at step `t`,
the cotangent of the records written at `t`, every scalar function of the detector outputs and of the final fields
is covered (detector updates are affine in the detector state, so their VJP does not read it).  The incoming
cotangent `cs`, `cp0` is arbitrary = the gradient of any differentiable loss at the final state.

**What is not here** (precisely): the rule is not *constructed* as the transpose of `Yee.forward` (the adjoint curls
with swapped halos / walls are not defined anywhere in the tree), so (a) nothing is said about the rule being the
derivative — the theorem holds for every rule, which is stronger for the equality but means C10's affine theorems are
not needed in the Yee case; (b) in the PML case `RuleInterior` cannot be derived, for two reasons.  (1) C10Pml gives that the step is affine in
the state (so the true A does not depend on the state at all) and the material update is cell-local, but turning this
into statements about `aT`, `bT` needs the transposed operators as definitions.  (2) `RuleInterior` is phrased with the
agreement C03 EXPORTS (E and H equal on cells outside every layer); the true Bᵀ at an interior cell next to a layer also
reads H on the interface cells behind it (∂E'/∂ε⁻¹ = c·curl_H(H), backward differences) and, for μ⁻¹, the freshly
updated E on its forward neighbours.  C03 proves agreement there internally (`hHgood`: H on HGood cells, `hErk`: E on
Known cells after `restore`) but its theorems `C03_reverse_step` / `C03_full_backward` state only the interior part, so
the stronger invariant (E on Known, H on HGood) would have to be exported from C03 before `RuleInterior` can be
weakened to what the true rule satisfies.
-/
import FdtdxProps.C04
import FdtdxProps.C02
import FdtdxProps.C03

namespace Fdtdx.C04Yee
open Fdtdx Fdtdx.Yee Fdtdx.Cpml Fdtdx.C01 Fdtdx.C02 Fdtdx.C04

section
variable {K : Type} [Field K] {CS CP CP' : Type}

/-- reverse-mode data of one time step on a state type `St` (see the header) -/
structure Rule (K : Type) (St CS CP : Type) where
  aT : Nat → St → Mat K → CS → CS
  bT : Nat → St → Mat K → CS → CP
  add : CP → CP → CP

/-! ### the Yee step -/

/-- the abstract system of `FdtdxModel/C04.lean` instantiated with the shared Yee model -/
def yeeSys (cf : Cfg K) (jE jH : Nat → Mat K → V3 K) (r : Rule K (V3 K × V3 K) CS CP) :
    Sys (V3 K × V3 K) (V3 K × V3 K) (Mat K) CS CP :=
  { f := fun t s m => forward cf m (jE t.toNat m) (jH t.toNat m) s.1 s.2
    g := fun t s m => backward cf m (jE t.toNat m) (jH t.toNat m) s.1 s.2
    vjpS := fun t s m c => r.aT t.toNat s m c
    vjpP := fun t s m c => r.bT t.toNat s m c
    addP := r.add
    getF := fun s => s
    setF := fun _ f => f }

/-- the trajectory of `yeeSys` is C02's `fwdN` from step 0 -/
theorem yee_traj {cf : Cfg K} {jE jH : Nat → Mat K → V3 K} {r : Rule K (V3 K × V3 K) CS CP} {m : Mat K}
    {s0 : V3 K × V3 K} (n : Nat) :
    traj (yeeSys cf jE jH r) m s0 n = fwdN cf m (fun t => jE t m) (fun t => jH t m) 0 n s0 := by
  induction n with
  | zero => rfl
  | succ n ih => simp [traj, fwdN, yeeSys, ← ih]

/-- every lossless medium satisfies `FactorOK` -/
theorem factorOK_of_lossless (cf : Cfg K) (m : Mat K) (hE : m.sigE = none) (hH : m.sigH = none) : FactorOK cf m := by
  constructor <;> intro i j k s hs <;> simp [hE, hH, optAt] at hs

/-- the hypotheses of the abstract theorem hold for the Yee step: exact reconstruction along the run, from C02 -/
theorem yee_hyp {cf : Cfg K} {jE jH : Nat → Mat K → V3 K} {r : Rule K (V3 K × V3 K) CS CP} {m : Mat K}
    {s0 : V3 K × V3 K} (hf : FactorOK cf m) (hw : WallOK cf s0.1 s0.2) (T : Nat) :
    HypTraj (yeeSys cf jE jH r) m s0 T (fun a b => a = b) (fun c : CP => c) r.add :=
  HypTraj.of_inverse _ m s0 T
    (fun n _ => C02_roundtrip cf m (jE n m) (jH n m) _ _ hf (by rw [yee_traj]; exact fwdN_walls cf m _ _ 0 n _ _ hw))
    (fun _ => rfl)

/-- **C04Yee_vjp_equal** — reverse loop of `fdtd_bwd` over the Yee step, any valid checkpoint list. -/
theorem C04Yee_vjp_equal (cf : Cfg K) (jE jH : Nat → Mat K → V3 K) (r : Rule K (V3 K × V3 K) CS CP) (m : Mat K)
    (s0 : V3 K × V3 K) (hf : FactorOK cf m) (hw : WallOK cf s0.1 s0.2) (T : Nat)
    (cks : List (Int × (V3 K × V3 K))) (hck : CksOK (yeeSys cf jE jH r) m s0 cks) (cs : CS) (cp0 : CP) :
    (fdtdBwd (yeeSys cf jE jH r) m cks (initCarry T (traj (yeeSys cf jE jH r) m s0 T) cs cp0)).cp
      = gradExact (yeeSys cf jE jH r) m s0 T cs cp0 :=
  C04_vjp_equal_traj (yee_hyp hf hw T) cks hck _ rfl cs cp0

/-- **C04Yee_end_to_end** — for every Yee configuration with `FactorOK`, every source family, every number of steps `T`,
every number of slices `k ≥ 1`, every rule and every incoming cotangent: the gradient accumulated by the
time-reversed method (`_reversible_slice_boundaries`, `segmented_forward`, checkpoints, reverse loop) equals the
gradient accumulated over the stored forward trajectory. -/
theorem C04Yee_end_to_end (cf : Cfg K) (jE jH : Nat → Mat K → V3 K) (r : Rule K (V3 K × V3 K) CS CP) (m : Mat K)
    (s0 : V3 K × V3 K) (hf : FactorOK cf m) (hw : WallOK cf s0.1 s0.2) (T k : Nat) (hk : 1 ≤ k) (cs : CS) (cp0 : CP) :
    gradReversible (yeeSys cf jE jH r) m s0 T k cs cp0 = gradExact (yeeSys cf jE jH r) m s0 T cs cp0 :=
  C04_end_to_end_traj (yee_hyp hf hw T) rfl k hk cs cp0

/-- **C04Yee_reconstruction** — the state the reverse loop ends with is the initial state; this is the n-step identity
`C02_roundtrip_steps` (T backward steps after T forward steps). -/
theorem C04Yee_reconstruction (cf : Cfg K) (jE jH : Nat → Mat K → V3 K) (r : Rule K (V3 K × V3 K) CS CP) (m : Mat K)
    (s0 : V3 K × V3 K) (hf : FactorOK cf m) (hw : WallOK cf s0.1 s0.2) (T : Nat)
    (cks : List (Int × (V3 K × V3 K))) (hck : CksOK (yeeSys cf jE jH r) m s0 cks) (cs : CS) (cp0 : CP) :
    (fdtdBwd (yeeSys cf jE jH r) m cks (initCarry T (traj (yeeSys cf jE jH r) m s0 T) cs cp0)).s = s0 ∧
    bwdN cf m (fun t => jE t m) (fun t => jH t m) 0 T (traj (yeeSys cf jE jH r) m s0 T) = s0 := by
  refine ⟨(fdtdBwd_traj (yee_hyp hf hw T) cks hck _ rfl cs cp0).2, ?_⟩
  rw [yee_traj]
  exact C02_roundtrip_steps cf m _ _ 0 T s0.1 s0.2 hf hw

/-! ### the CPML step -/

abbrev PState (K : Type) := V3 K × V3 K × List (PmlSt K)

/-- the abstract system instantiated with the CPML model: the reverse step restores the interface slices from the
lossless recording of the forward run from `s0` (the state after the step being undone) and keeps the ψ fields it
carries (those of the end of the forward pass — the code does not reverse them) -/
def pmlSys (cf : Cfg K) (jE jH : Nat → Mat K → V3 K) (sim reset : Bool) (s0 : PState K)
    (r : Rule K (PState K) CS CP) : Sys (PState K) (PState K) (Mat K) CS CP :=
  { f := fun t s m => forwardP cf m (jE t.toNat m) (jH t.toNat m) sim s.2.2 s.1 s.2.1
    g := fun t s m =>
      let R := C03.fwdRun cf m (fun u => jE u m) (fun u => jH u m) sim s0 (t.toNat + 1)
      let b := backwardP cf m (jE t.toNat m) (jH t.toNat m) s.2.2 R.1 R.2.1 reset s.1 s.2.1
      (b.1, b.2, s.2.2)
    vjpS := fun t s m c => r.aT t.toNat s m c
    vjpP := fun t s m c => r.bT t.toNat s m c
    addP := r.add
    getF := fun s => s
    setF := fun _ f => f }

theorem pml_traj {cf : Cfg K} {jE jH : Nat → Mat K → V3 K} {sim reset : Bool} {s0 : PState K}
    {r : Rule K (PState K) CS CP} {m : Mat K} (n : Nat) :
    traj (pmlSys cf jE jH sim reset s0 r) m s0 n = C03.fwdRun cf m (fun u => jE u m) (fun u => jH u m) sim s0 n := by
  induction n with
  | zero => rfl
  | succ n ih => simp [traj, C03.fwdRun, pmlSys, ← ih]

/-- equal E, H outside the absorbing layers -/
def InteriorAgree (cf : Cfg K) (ps : List (Pml K)) (a b : PState K) : Prop :=
  ∀ i j k, C03.Interior cf ps i j k → C03.agree a.1 b.1 i j k ∧ C03.agree a.2.1 b.2.1 i j k

/-- the reconstructed state `a` is as good as the true one `b`: it agrees with it outside the absorbing layers and its own
ψ fields vanish on the interface (what `C03_reverse_step` asks of the state it starts from) -/
def pmlAgree (cf : Cfg K) (ps : List (Pml K)) (a b : PState K) : Prop :=
  InteriorAgree cf ps a b ∧ C03.ListOK cf ps a.2.2

theorem pmlAgree_refl {cf : Cfg K} {ps : List (Pml K)} {a : PState K} (h : C03.ListOK cf ps a.2.2) : pmlAgree cf ps a a :=
  ⟨fun _ _ _ _ => ⟨⟨rfl, rfl, rfl⟩, ⟨rfl, rfl, rfl⟩⟩, h⟩

/-- the assumption left on the rule in the PML case (see the header) -/
structure RuleInterior (cf : Cfg K) (ps : List (Pml K)) (r : Rule K (PState K) CS CP) (π : CP → CP')
    (addP' : CP' → CP' → CP') : Prop where
  aT : ∀ n a b m c, InteriorAgree cf ps a b → r.aT n a m c = r.aT n b m c
  bT : ∀ n a b m c, InteriorAgree cf ps a b → π (r.bT n a m c) = π (r.bT n b m c)
  add : ∀ a b, π (r.add a b) = addP' (π a) (π b)

theorem pml_hyp {cf : Cfg K} {jE jH : Nat → Mat K → V3 K} {sim reset : Bool} {ps : List (Pml K)} {s0 : PState K}
    {r : Rule K (PState K) CS CP} {π : CP → CP'} {addP' : CP' → CP' → CP'} {m : Mat K}
    (hf : FactorOK cf m) (hw : WallOK cf s0.1 s0.2.1) (hs : C03.StaticOK cf ps) (hl : C03.ListOK cf ps s0.2.2)
    (hr : RuleInterior cf ps r π addP') (T : Nat) :
    HypTraj (pmlSys cf jE jH sim reset s0 r) m s0 T (pmlAgree cf ps) π addP' :=
  { vjpS_agree := fun n _ ŝ c e => hr.aT n _ _ m c e.1
    vjpP_agree := fun n _ ŝ c e => hr.bT n _ _ m c e.1
    g_agree := fun n _ ŝ e => by
      have hlB := e.2
      have hag := e.1
      rw [pml_traj] at hag ⊢
      have hstep := C03.C03_reverse_step cf m (jE n m) (jH n m) sim reset ps
        (C03.fwdRun cf m (fun u => jE u m) (fun u => jH u m) sim s0 n).2.2 ŝ.2.2
        (C03.fwdRun cf m (fun u => jE u m) (fun u => jH u m) sim s0 n).1
        (C03.fwdRun cf m (fun u => jE u m) (fun u => jH u m) sim s0 n).2.1 ŝ.1 ŝ.2.1 hf
        (C03.wallOK_fwdRun cf m _ _ sim s0 hw n) hs
        (C03.psi_zero_at_interface cf m _ _ sim ps s0 hs hl n) hlB hag
      exact ⟨fun i j k hi => by simpa [pmlSys, C03.fwdRun] using hstep i j k hi, hlB⟩
    setF_agree := fun n _ ŝ _ => by
      rw [pml_traj]
      exact pmlAgree_refl (C03.psi_zero_at_interface cf m _ _ sim ps s0 hs hl n)
    π_add := hr.add }

/-- **C04Pml_end_to_end** — with absorbing layers on any subset of faces (any thicknesses, clean inner face), any other
faces, any sources, lossless recording: the π-part of the time-reversed gradient equals the π-part of the
stored-trajectory gradient, for every `T`, every `k ≥ 1`, every cotangent — the interior reconstruction being C03's. -/
theorem C04Pml_end_to_end (cf : Cfg K) (jE jH : Nat → Mat K → V3 K) (sim reset : Bool) (ps : List (Pml K)) (s0 : PState K)
    (r : Rule K (PState K) CS CP) (π : CP → CP') (addP' : CP' → CP' → CP') (m : Mat K)
    (hf : FactorOK cf m) (hw : WallOK cf s0.1 s0.2.1) (hs : C03.StaticOK cf ps) (hl : C03.ListOK cf ps s0.2.2)
    (hr : RuleInterior cf ps r π addP') (T k : Nat) (hk : 1 ≤ k) (cs : CS) (cp0 : CP) :
    π (gradReversible (pmlSys cf jE jH sim reset s0 r) m s0 T k cs cp0)
      = π (gradExact (pmlSys cf jE jH sim reset s0 r) m s0 T cs cp0) := by
  refine C04_end_to_end_traj (pml_hyp hf hw hs hl hr T) ?_ k hk cs cp0
  rw [pml_traj]
  exact pmlAgree_refl (C03.psi_zero_at_interface cf m _ _ sim ps s0 hs hl T)

/-- **C04Pml_vjp_equal** — the reverse loop alone, from any final state that agrees with the true one outside the layers,
any valid checkpoint list. -/
theorem C04Pml_vjp_equal (cf : Cfg K) (jE jH : Nat → Mat K → V3 K) (sim reset : Bool) (ps : List (Pml K)) (s0 : PState K)
    (r : Rule K (PState K) CS CP) (π : CP → CP') (addP' : CP' → CP' → CP') (m : Mat K)
    (hf : FactorOK cf m) (hw : WallOK cf s0.1 s0.2.1) (hs : C03.StaticOK cf ps) (hl : C03.ListOK cf ps s0.2.2)
    (hr : RuleInterior cf ps r π addP') (T : Nat) (cks : List (Int × PState K))
    (hck : CksOK (pmlSys cf jE jH sim reset s0 r) m s0 cks) (sT : PState K)
    (hT : pmlAgree cf ps sT (traj (pmlSys cf jE jH sim reset s0 r) m s0 T)) (cs : CS) (cp0 : CP) :
    π (fdtdBwd (pmlSys cf jE jH sim reset s0 r) m cks (initCarry T sT cs cp0)).cp
      = π (gradExact (pmlSys cf jE jH sim reset s0 r) m s0 T cs cp0) :=
  C04_vjp_equal_traj (pml_hyp hf hw hs hl hr T) cks hck sT hT cs cp0

end

/-! ### non-vacuity on concrete small configurations -/

/-- C01's 2×3×2 domain (periodic x, PEC y, open z), lossless ε = 1/2; probe rule: the true sensitivity of `E'_x(1,1,1)` to
`inv_permittivity_x(1,1,1)`, which reads the curl of the CURRENT H — so it matters at which state it is evaluated -/
def exRule : Rule ℚ (V3 ℚ × V3 ℚ) ℚ ℚ :=
  { aT := fun _ _ _ c => c
    bT := fun _ s _ c => c * exCfg.c * (curlH exCfg s.2).x 1 1 1
    add := fun a b => a + b }

def exSrcE : Nat → Mat ℚ → V3 ℚ := fun t m => ⟨fun i j k => (t + 1) * m.invEps.x i j k, fun _ _ _ => 0, fun _ _ _ => 0⟩
def exSrcH : Nat → Mat ℚ → V3 ℚ := fun _ _ => constV 0

example : FactorOK exCfg exMat := factorOK_of_lossless exCfg exMat rfl rfl

theorem exWall : WallOK exCfg exE exH := ex_wallOK

/-- the probe rule is state dependent: evaluated at a wrong state it gives a different number -/
example : exRule.bT 0 (exE, exH) exMat 1 ≠ exRule.bT 0 (exE, constV 0) exMat 1 := by
  decide +kernel

/-- the theorem applied: all `T`, all `k ≥ 1`, all cotangents, on the concrete configuration -/
example (T k : Nat) (hk : 1 ≤ k) (cs cp0 : ℚ) :
    gradReversible (yeeSys exCfg exSrcE exSrcH exRule) exMat (exE, exH) T k cs cp0
      = gradExact (yeeSys exCfg exSrcE exSrcH exRule) exMat (exE, exH) T cs cp0 :=
  C04Yee_end_to_end exCfg exSrcE exSrcH exRule exMat (exE, exH) (factorOK_of_lossless _ _ rfl rfl) exWall T k hk cs cp0

/-- C03's 5×4×4 volume with a PML of thickness 2 at min x and 1 at max y; probe rule reading H at the interior cell (2,1,3) -/
def exRuleP : Rule ℚ (PState ℚ) ℚ ℚ :=
  { aT := fun _ _ _ c => c
    bT := fun _ s _ c => c * s.2.1.x 2 1 3
    add := fun a b => a + b }

theorem exInterior : C03.Interior C03.exCf [C03.exP1, C03.exP2] 2 1 3 := by
  refine ⟨by decide, by decide, by decide, ?_⟩
  intro q hq
  rcases List.mem_pair.mp hq with rfl | rfl <;> decide

/-- the assumption on the rule is satisfiable (and by a rule that does read the reconstructed state) -/
example : RuleInterior C03.exCf [C03.exP1, C03.exP2] exRuleP (fun c : ℚ => c) (fun a b => a + b) :=
  { aT := fun _ _ _ _ _ _ => rfl
    bT := fun _ a b _ c h => by
      have := (h 2 1 3 exInterior).2.1
      simp only [exRuleP]; rw [this]
    add := fun _ _ => rfl }

end Fdtdx.C04Yee
