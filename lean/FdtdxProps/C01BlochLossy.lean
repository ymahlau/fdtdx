/-
C01 (Bloch faces, lossy media) — with a non-negative electric conductivity the sesquilinear energy only decreases.

`FdtdxProps/C01Bloch.lean` gives, over any star field, the exact balance of one source-free step

  Q(E',H') = Q(E,H) − D,   D = ⟨a·ε·(E'+E), E'+E⟩ = Σ wE · (a·ε) · star(E'+E)·(E'+E),   a = c·σ·η₀·ε⁻¹/2

(`C01_bloch_lossy_decrement`).  Here the scalar field additionally carries the order of a star-ordered ring
(`0 ≤ z` iff `z = star s · s`; for ℂ: `z ≤ w` iff `re z ≤ re w ∧ im z = im w`, for ℝ the usual order).  With
`0 ≤ c, σ, η₀, widths` every summand of `D` is a non-negative real (`C01_bloch_dissipation_nonneg`), so `Q` does not
increase in a step, `n ↦ Q(run n s)` is antitone, and over ℂ `re Q` does not increase while `im Q` does not change
(`C01_bloch_lossy_complex`) — for every grid shape, every mix of zero / periodic / Bloch halos (`star pm = pp`) and
PEC / PMC walls, every metric, every real diagonal ε, μ (no sign condition on them) and every wall-satisfying state.
In a star-ordered ring `0 ≤ x` implies `star x = x`, so the hypotheses `0 ≤ σ`, `0 ≤ η₀` say "real and ≥ 0".
-/
import FdtdxProps.C01Bloch
import Mathlib.Algebra.Order.Star.Basic
import Mathlib.Algebra.Order.BigOperators.Ring.Finset
import Mathlib.Order.Monotone.Basic
import Mathlib.Analysis.Complex.Basic

open Finset
namespace Fdtdx.C01
open Fdtdx Fdtdx.Yee

section
variable {K : Type} [Field K] [StarRing K] [CharZero K] [PartialOrder K] [IsOrderedRing K] [StarOrderedRing K]

/-- widths are non-negative (hence real) -/
structure WidthsNonnegS (W : Widths K) : Prop where
  wx : ∀ i, 0 ≤ W.wx i
  wy : ∀ i, 0 ≤ W.wy i
  wz : ∀ i, 0 ≤ W.wz i
  dx : ∀ i, 0 ≤ W.dx i
  dy : ∀ i, 0 ≤ W.dy i
  dz : ∀ i, 0 ≤ W.dz i

/-- the conductivity array is non-negative (hence real) -/
structure NonnegV (A : V3 K) : Prop where
  x : ∀ i j k, 0 ≤ A.x i j k
  y : ∀ i j k, 0 ≤ A.y i j k
  z : ∀ i j k, 0 ≤ A.z i j k

omit [CharZero K] [IsOrderedRing K] in
theorem NonnegV.real {A : V3 K} (h : NonnegV A) : FixV (starRingEnd K) A :=
  ⟨fun i j k => (h.x i j k).isSelfAdjoint.star_eq, fun i j k => (h.y i j k).isSelfAdjoint.star_eq,
    fun i j k => (h.z i j k).isSelfAdjoint.star_eq⟩

/-- `1/2 = 2 · (star (1/2) · (1/2))` is non-negative in a star-ordered field -/
theorem half_nonnegS : (0 : K) ≤ 2⁻¹ := by
  have e : (2 : K)⁻¹ = 2 * (star (2 : K)⁻¹ * (2 : K)⁻¹) := by
    rw [star_inv₀, star_ofNat, ← mul_assoc, mul_inv_cancel₀ two_ne_zero, one_mul]
  rw [e]
  exact mul_nonneg zero_le_two (star_mul_self_nonneg _)

/-- **C01_bloch_dissipation_nonneg**: the dissipation term `⟨a·ε·G, G⟩` is a sum of non-negative terms
(`a·ε = c·σ·η₀/2 ≥ 0`, staggered volumes ≥ 0, `star G·G ≥ 0`), for every field `G`. -/
theorem C01_bloch_dissipation_nonneg (cf : Cfg K) (W : Widths K) (m : Mat K) (eps mu : V3 K) (sig G : V3 K)
    (hmat : MatOK m eps mu) (hW : WidthsNonnegS W) (hc : 0 ≤ cf.c) (heta : 0 ≤ cf.eta0) (hsig : NonnegV sig) :
    0 ≤ pairEs cf W (mulV (mulV (lossFactor cf m sig) eps) G) G := by
  rw [pairEs_eq]
  refine dissipation_nonneg (starRingEnd K) star_mul_self_nonneg (fun _ hq => hq.isSelfAdjoint.star_eq)
    half_nonnegS cf _ m eps mu sig G hmat (fun i j k => ?_) hc heta
    (fun i j k => ⟨hsig.x i j k, hsig.y i j k, hsig.z i j k⟩)
  exact ⟨mul_nonneg (mul_nonneg (hW.wx i) (hW.dy j)) (hW.dz k),
    mul_nonneg (mul_nonneg (hW.dx i) (hW.wy j)) (hW.dz k), mul_nonneg (mul_nonneg (hW.dx i) (hW.dy j)) (hW.wz k)⟩

/-- the scene of the lossy theorems: metric, Bloch halos, real data with `ε·ε⁻¹ = μ·μ⁻¹ = 1`, electric conductivity
`sig ≥ 0` only, non-zero update divisors, and `c`, `η₀`, widths `≥ 0` -/
structure LossyBloch (cf : Cfg K) (W : Widths K) (ref : K) (m : Mat K) (eps mu sig : V3 K) : Prop where
  metric : MetricOK cf W ref
  halos : HalosBloch cf
  scales : ScalesReal cf
  real : RealData cf W m eps mu
  mat : MatOK m eps mu
  sigE : m.sigE = some sig
  sigH : m.sigH = none
  div : ∀ i j k, 1 + (lossFactor cf m sig).x i j k ≠ 0 ∧ 1 + (lossFactor cf m sig).y i j k ≠ 0
    ∧ 1 + (lossFactor cf m sig).z i j k ≠ 0
  widths : WidthsNonnegS W
  c : 0 ≤ cf.c
  eta : 0 ≤ cf.eta0
  sig : NonnegV sig

variable {cf : Cfg K} {W : Widths K} {ref : K} {m : Mat K} {eps mu sig : V3 K}

/-- **C01_bloch_lossy_nonincreasing**: Bloch / periodic / zero halos, PEC / PMC walls, complex fields, real
materials, non-negative electric conductivity: the sesquilinear energy never increases from one step to the next. -/
theorem C01_bloch_lossy_nonincreasing (S : LossyBloch cf W ref m eps mu sig) {E H : V3 K} (hw : WallOK cf E H) :
    energyC cf W eps mu (forward cf m zeroV zeroV E H).1 (forward cf m zeroV zeroV E H).2
      ≤ energyC cf W eps mu E H := by
  rw [C01_bloch_lossy_decrement cf W ref m eps mu E H sig S.metric S.halos S.scales S.real S.mat hw S.sigE S.sigH
    S.eta.isSelfAdjoint.star_eq S.sig.real S.div]
  exact sub_le_self _ (C01_bloch_dissipation_nonneg cf W m eps mu sig _ S.mat S.widths S.c S.eta S.sig)

/-- **C01_bloch_lossy_steps**: for every number of steps `n`, the energy after `n+1` steps is at most the energy
after `n` steps, which is at most the initial energy; the walls stay satisfied. -/
theorem C01_bloch_lossy_steps (S : LossyBloch cf W ref m eps mu sig) {E H : V3 K} (hw : WallOK cf E H) (n : Nat) :
    energyC cf W eps mu (run cf m (n + 1) (E, H)).1 (run cf m (n + 1) (E, H)).2
        ≤ energyC cf W eps mu (run cf m n (E, H)).1 (run cf m n (E, H)).2
      ∧ energyC cf W eps mu (run cf m n (E, H)).1 (run cf m n (E, H)).2 ≤ energyC cf W eps mu E H
      ∧ WallOK cf (run cf m n (E, H)).1 (run cf m n (E, H)).2 := by
  have inv := run_invariant cf m (fun E' H' => energyC cf W eps mu E' H' ≤ energyC cf W eps mu E H)
    (fun _ _ hw' h => le_trans (C01_bloch_lossy_nonincreasing S hw') h) (le_refl _) hw n
  exact ⟨C01_bloch_lossy_nonincreasing S inv.2, inv⟩

/-- **C01_bloch_lossy_antitone**: the energy as a function of the step count is antitone. -/
theorem C01_bloch_lossy_antitone (S : LossyBloch cf W ref m eps mu sig) {E H : V3 K} (hw : WallOK cf E H) :
    Antitone fun n => energyC cf W eps mu (run cf m n (E, H)).1 (run cf m n (E, H)).2 :=
  antitone_nat_of_succ_le fun n => (C01_bloch_lossy_steps S hw n).1

end

/-! ### the complex reading, and non-vacuity over ℂ: Bloch phase i on the x axis, σ = 1 > 0 -/
section complex
open Complex
open scoped ComplexOrder

/-- **C01_bloch_lossy_complex**: over ℂ (order `z ≤ w ↔ re z ≤ re w ∧ im z = im w`) the real part of the energy does
not increase over `k` further steps and its imaginary part does not change. -/
theorem C01_bloch_lossy_complex (cf : Cfg ℂ) (W : Widths ℂ) (ref : ℂ) (m : Mat ℂ) (eps mu : V3 ℂ) (E H : V3 ℂ)
    (sig : V3 ℂ)
    (hm : MetricOK cf W ref) (hh : HalosBloch cf) (hs : ScalesReal cf) (hr : RealData cf W m eps mu)
    (hmat : MatOK m eps mu) (hw : WallOK cf E H)
    (hsE : m.sigE = some sig) (hsH : m.sigH = none)
    (hdiv : ∀ i j k, 1 + (lossFactor cf m sig).x i j k ≠ 0 ∧ 1 + (lossFactor cf m sig).y i j k ≠ 0
      ∧ 1 + (lossFactor cf m sig).z i j k ≠ 0)
    (hW : WidthsNonnegS W) (hc : 0 ≤ cf.c) (heta : 0 ≤ cf.eta0) (hsig : NonnegV sig) (n k : Nat) :
    (energyC cf W eps mu (run cf m (n + k) (E, H)).1 (run cf m (n + k) (E, H)).2).re
        ≤ (energyC cf W eps mu (run cf m n (E, H)).1 (run cf m n (E, H)).2).re
      ∧ (energyC cf W eps mu (run cf m (n + k) (E, H)).1 (run cf m (n + k) (E, H)).2).im
        = (energyC cf W eps mu (run cf m n (E, H)).1 (run cf m n (E, H)).2).im :=
  Complex.le_def.mp
    (C01_bloch_lossy_antitone ⟨hm, hh, hs, hr, hmat, hsE, hsH, hdiv, hW, hc, heta, hsig⟩ hw (Nat.le_add_right n k))

noncomputable def lW : Widths ℂ := ⟨fun _ => 1, fun _ => 1, fun _ => 1, fun _ => 1, fun _ => 1, fun _ => 1⟩
noncomputable def lSig : V3 ℂ := constV 1
/-- ε⁻¹ = 2 (ε = 1/2), μ⁻¹ = 1, electric conductivity `lSig`, no magnetic conductivity -/
noncomputable def lMat : Mat ℂ := ⟨constV 2, constV 1, some lSig, none⟩
/-- a genuinely complex state (PEC walls in y and z already applied to E) -/
noncomputable def lE : V3 ℂ := projE bCfg ⟨fun i j k => i + 2 * j + 3 * k + 1 + I, fun i j k => i * j + k + 2 * I, fun _ _ _ => 5 - I⟩
noncomputable def lH : V3 ℂ := ⟨fun i j _ => i - j * I, fun _ _ k => k + 1, fun i _ _ => 3 - i + I⟩

private theorem l_metric : MetricOK bCfg lW 1 := by constructor <;> intro i <;> simp [bCfg, lW]
private theorem l_halos : HalosBloch bCfg := by constructor <;> intro _ <;> simp [bCfg, bxBC, bzero]
private theorem l_scales : ScalesReal bCfg := by constructor <;> intro _ <;> simp [bCfg]
private theorem l_real : RealData bCfg lW lMat (constV (1 / 2)) (constV 1) := by
  constructor <;> intros <;> simp [bCfg, lW, lMat, constV]
private theorem l_mat : MatOK lMat (constV (1 / 2)) (constV 1) := by
  constructor <;> intro i j k <;> norm_num [lMat, constV]
-- `lE` is a wall projection; `bCfg` has no PMC face, so its PMC mask evaluates to `false`
private theorem l_wall : WallOK bCfg lE lH :=
  ⟨fun _ _ _ h => if_pos h, fun _ _ _ h => if_pos h, fun _ _ _ h => if_pos h,
    fun _ _ _ h => (Bool.false_ne_true h).elim, fun _ _ _ h => (Bool.false_ne_true h).elim,
    fun _ _ _ h => (Bool.false_ne_true h).elim⟩
/-- the divisor `1 + a = 1 + (1/2)·1·1·2/2 = 3/2` -/
private theorem l_div : ∀ i j k, 1 + (lossFactor bCfg lMat lSig).x i j k ≠ 0
    ∧ 1 + (lossFactor bCfg lMat lSig).y i j k ≠ 0 ∧ 1 + (lossFactor bCfg lMat lSig).z i j k ≠ 0 := by
  intro i j k; norm_num [lossFactor, bCfg, lMat, lSig, constV]
private theorem l_widths : WidthsNonnegS lW := by constructor <;> intro _ <;> simp [lW]
private theorem l_c : 0 ≤ bCfg.c := by simp [bCfg]
private theorem l_eta : 0 ≤ bCfg.eta0 := by simp [bCfg]
private theorem l_sig : NonnegV lSig := by constructor <;> intro _ _ _ <;> simp [lSig, constV]

/-- every hypothesis of the lossy Bloch theorems holds for this scene: phase `i ≠ 1` on x, σ = 1 ≠ 0, a state with
non-zero imaginary parts that survives the wall projection -/
example (n : Nat) :
    energyC bCfg lW (constV (1 / 2)) (constV 1) (run bCfg lMat (n + 1) (lE, lH)).1 (run bCfg lMat (n + 1) (lE, lH)).2
      ≤ energyC bCfg lW (constV (1 / 2)) (constV 1) (run bCfg lMat n (lE, lH)).1 (run bCfg lMat n (lE, lH)).2 :=
  (C01_bloch_lossy_steps ⟨l_metric, l_halos, l_scales, l_real, l_mat, rfl, rfl, l_div, l_widths, l_c, l_eta, l_sig⟩
    l_wall n).1
example : bxBC.pp = I ∧ bxBC.pp ≠ 1 ∧ lSig.x 0 0 0 = 1 := by
  refine ⟨rfl, ?_, rfl⟩
  simp only [bxBC]; intro h; have := congrArg Complex.im h; simp at this
example : (lE.x 1 1 1).im = 1 ∧ lE.x 1 0 1 = 0 := by
  simp [lE, projE, maskV, pecMask, bCfg, bxBC, bzero, onWall]
end complex

end Fdtdx.C01
