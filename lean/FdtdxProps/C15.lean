/-
C15 — Detectors record the co-located fields of their region.

About `FdtdxModel/C15.lean`, for all grid shapes, box positions and sizes, fields and widths:
  `C15_record_eq_full_E/_H`: what `update_detector_states` hands to an exact detector is the full-domain interpolation
  restricted to the box, whether the `is_interior` fast path or the fallback is taken (bare operations suffice);
  without exact interpolation it is the raw slice; the H record is the co-location of (H_prev + H)/2.
  The stencils on a uniform grid, the weighted edge average as linear interpolation in physical coordinates, and the
  halo rule (identity inside, zero, periodic wrap, parity × mirror partner on an electric symmetry plane) with its
  consequence that the plane row of the reduced domain records what the unreduced mirror-symmetric domain would.
-/
import FdtdxModel.C15
import Mathlib.Tactic.Ring
import Mathlib.Algebra.Field.Basic

namespace Fdtdx.C15

/-! ### the halo rule -/

section halo
variable {α : Type} [Neg α] [OfNat α 0]

/-- mirror partner of the cell behind an electric plane: 2nd cell for on-plane components, 1st otherwise -/
def partner (ft : Ft) (c a : Nat) : Int := if onPlane ft c a then 1 else 0

/-! what one axis resolves an index to -/

theorem resolve_inside {ax : Ax} {ft : Ft} {c a : Nat} {i : Int} (h : 0 ≤ i ∧ i < ax.n) :
    resolve ax ft c a i = .at false i := by
  simp [resolve, h]

theorem resolve_high_wrap {ax : Ax} {ft : Ft} {c a : Nat} (hw : ax.wrap = true) :
    resolve ax ft c a ax.n = .at false 0 := by
  simp [resolve, resHigh, hw]

theorem resolve_low_wrap {ax : Ax} {ft : Ft} {c a : Nat} (hw : ax.wrap = true) (hs : ax.sym = 0) :
    resolve ax ft c a (-1) = .at false ((ax.n : Int) - 1) := by
  simp [resolve, hw, hs]
  omega

theorem resolve_mirror {ax : Ax} {ft : Ft} {c a : Nat} (hs : ax.sym = -1) (hn : 2 ≤ ax.n) :
    resolve ax ft c a (-1) = .at (oddPEC ft c a) (partner ft c a) := by
  unfold resolve partner
  by_cases hp : onPlane ft c a = true
  · have h1 : (1 : Int) < ax.n := by omega
    simp [hs, hp, h1]
  · have h0 : 0 < ax.n := by omega
    simp [hs, hp, h0]

/-! the padded array in terms of what its three indices resolve to -/

theorem padded_at {cfg : Cfg} {ft : Ft} {c : Nat} {f : F3 α} {i j k i' j' k' : Int} {b0 b1 b2 : Bool}
    (h0 : resolve cfg.1 ft c 0 i = .at b0 i') (h1 : resolve cfg.2.1 ft c 1 j = .at b1 j')
    (h2 : resolve cfg.2.2 ft c 2 k = .at b2 k') :
    padded cfg ft c f i j k = sgn ((b0 != b1) != b2) (f i' j' k') := by
  simp only [padded, h0, h1, h2]

theorem padded_zero {cfg : Cfg} {ft : Ft} {c : Nat} {f : F3 α} {i : Int} (j k : Int)
    (h0 : resolve cfg.1 ft c 0 i = .zero) : padded cfg ft c f i j k = 0 := by
  simp only [padded, h0]

/-- inside the domain the padded array is the array. -/
theorem C15_halo_inside (cfg : Cfg) (ft : Ft) (c : Nat) (f : F3 α) (i j k : Int)
    (hi : 0 ≤ i ∧ i < cfg.1.n) (hj : 0 ≤ j ∧ j < cfg.2.1.n) (hk : 0 ≤ k ∧ k < cfg.2.2.n) :
    padded cfg ft c f i j k = f i j k :=
  padded_at (resolve_inside hi) (resolve_inside hj) (resolve_inside hk)

/-- no wrap and no electric plane on axis 0 → the low halo is zero (also: magnetic plane). -/
theorem C15_halo_zero_low (cfg : Cfg) (ft : Ft) (c : Nat) (f : F3 α) (j k : Int)
    (h : cfg.1.sym ≠ -1) (hz : cfg.1.wrap = false ∨ cfg.1.sym ≠ 0) :
    padded cfg ft c f (-1) j k = 0 :=
  padded_zero j k (by unfold resolve; rcases hz with hz | hz <;> simp [h, hz])

/-- no wrap on axis 0 → the high halo is zero. -/
theorem C15_halo_zero_high (cfg : Cfg) (ft : Ft) (c : Nat) (f : F3 α) (j k : Int) (hw : cfg.1.wrap = false) :
    padded cfg ft c f cfg.1.n j k = 0 :=
  padded_zero j k (by simp [resolve, resHigh, hw])

/-- periodic axis 0 without symmetry → the low halo is the last cell. -/
theorem C15_halo_wrap_low (cfg : Cfg) (ft : Ft) (c : Nat) (f : F3 α) (j k : Int)
    (hw : cfg.1.wrap = true) (hs : cfg.1.sym = 0)
    (hj : 0 ≤ j ∧ j < cfg.2.1.n) (hk : 0 ≤ k ∧ k < cfg.2.2.n) :
    padded cfg ft c f (-1) j k = f ((cfg.1.n : Int) - 1) j k :=
  padded_at (resolve_low_wrap hw hs) (resolve_inside hj) (resolve_inside hk)

/-- periodic axis 0 → the high halo is the first cell. -/
theorem C15_halo_wrap_high (cfg : Cfg) (ft : Ft) (c : Nat) (f : F3 α) (j k : Int)
    (hw : cfg.1.wrap = true) (hj : 0 ≤ j ∧ j < cfg.2.1.n) (hk : 0 ≤ k ∧ k < cfg.2.2.n) :
    padded cfg ft c f cfg.1.n j k = f 0 j k :=
  padded_at (resolve_high_wrap hw) (resolve_inside hj) (resolve_inside hk)

/-- axis 0: on an electric symmetry plane the halo is parity × mirror partner. -/
theorem C15_mirror_halo (cfg : Cfg) (ft : Ft) (c : Nat) (f : F3 α) (j k : Int)
    (hs : cfg.1.sym = -1) (hn : 2 ≤ cfg.1.n)
    (hj : 0 ≤ j ∧ j < cfg.2.1.n) (hk : 0 ≤ k ∧ k < cfg.2.2.n) :
    padded cfg ft c f (-1) j k = sgn (oddPEC ft c 0) (f (partner ft c 0) j k) := by
  rw [padded_at (resolve_mirror hs hn) (resolve_inside hj) (resolve_inside hk), Bool.bne_false, Bool.bne_false]

theorem C15_mirror_halo_y (cfg : Cfg) (ft : Ft) (c : Nat) (f : F3 α) (i k : Int)
    (hs : cfg.2.1.sym = -1) (hn : 2 ≤ cfg.2.1.n)
    (hi : 0 ≤ i ∧ i < cfg.1.n) (hk : 0 ≤ k ∧ k < cfg.2.2.n) :
    padded cfg ft c f i (-1) k = sgn (oddPEC ft c 1) (f i (partner ft c 1) k) := by
  rw [padded_at (resolve_inside hi) (resolve_mirror hs hn) (resolve_inside hk), Bool.false_bne, Bool.bne_false]

theorem C15_mirror_halo_z (cfg : Cfg) (ft : Ft) (c : Nat) (f : F3 α) (i j : Int)
    (hs : cfg.2.2.sym = -1) (hn : 2 ≤ cfg.2.2.n)
    (hi : 0 ≤ i ∧ i < cfg.1.n) (hj : 0 ≤ j ∧ j < cfg.2.1.n) :
    padded cfg ft c f i j (-1) = sgn (oddPEC ft c 2) (f i j (partner ft c 2)) := by
  rw [padded_at (resolve_inside hi) (resolve_inside hj) (resolve_mirror hs hn), Bool.bne_false, Bool.false_bne]

/-- the parity table of an electric wall: tangential E and normal H are odd, and exactly the odd components are
the ones sampled on the plane -/
theorem oddPEC_eq_onPlane (ft : Ft) (c a : Nat) : oddPEC ft c a = onPlane ft c a := by
  cases ft <;> rfl

example : oddPEC .E 1 0 = true ∧ oddPEC .E 0 0 = false ∧ oddPEC .H 0 0 = true ∧ oddPEC .H 2 0 = false := by decide

theorem interior_iff (b : Box) (cfg : Cfg) :
    b.interior cfg = true ↔ (1 ≤ b.s0 ∧ b.e0 ≤ (cfg.1.n : Int) - 1) ∧ (1 ≤ b.s1 ∧ b.e1 ≤ (cfg.2.1.n : Int) - 1)
      ∧ (1 ≤ b.s2 ∧ b.e2 ≤ (cfg.2.2.n : Int) - 1) := by
  simp [Box.interior, and_assoc]

theorem block_index {s e n i a : Int} (hs : 1 ≤ s) (he : e ≤ n - 1) (hi : 0 ≤ i ∧ i < e - s)
    (ha : a = 0 ∨ a = 1 ∨ a = 2) : s - 1 + (i + a) = s + i + a - 1 ∧ 0 ≤ s + i + a - 1 ∧ s + i + a - 1 < n := by
  omega

/-- the haloed block of an interior box, read at a stencil point, is the padded array there -/
theorem block_eq_padded {cfg : Cfg} (ft : Ft) {c : Nat} (f : F3 α) {b : Box} (hin : b.interior cfg = true)
    {i j k : Int} (hi : 0 ≤ i ∧ i < b.e0 - b.s0) (hj : 0 ≤ j ∧ j < b.e1 - b.s1) (hk : 0 ≤ k ∧ k < b.e2 - b.s2)
    {a a' d : Int} (ha : a = 0 ∨ a = 1 ∨ a = 2) (ha' : a' = 0 ∨ a' = 1 ∨ a' = 2) (hd : d = 0 ∨ d = 1 ∨ d = 2) :
    f (b.s0 - 1 + (i + a)) (b.s1 - 1 + (j + a')) (b.s2 - 1 + (k + d))
      = padded cfg ft c f (b.s0 + i + a - 1) (b.s1 + j + a' - 1) (b.s2 + k + d - 1) := by
  obtain ⟨⟨s0, e0⟩, ⟨s1, e1⟩, ⟨s2, e2⟩⟩ := (interior_iff b cfg).1 hin
  obtain ⟨x, x0, x1⟩ := block_index s0 e0 hi ha
  obtain ⟨y, y0, y1⟩ := block_index s1 e1 hj ha'
  obtain ⟨z, z0, z1⟩ := block_index s2 e2 hk hd
  rw [x, y, z, C15_halo_inside cfg ft c f _ _ _ ⟨x0, x1⟩ ⟨y0, y1⟩ ⟨z0, z1⟩]

end halo

/-! ### interior fast path = restriction of the full-domain interpolation -/

/-- `interpolate_fields` only reads its inputs at the stencil points -/
theorem interp_congr {α : Type} [Add α] [Mul α] [Div α] [OfNat α 2] (nu : Bool) (W W' : Wts α) (P Q : Nat → F3 α)
    (c : Nat) (i j k i' j' k' : Int)
    (hcx : W.cx i = W'.cx i') (hpx : W.px i = W'.px i') (hcy : W.cy j = W'.cy j') (hpy : W.py j = W'.py j')
    (h : ∀ c (a b d : Int), (a = 0 ∨ a = 1) → (b = 0 ∨ b = 1) → (d = 1 ∨ d = 2) →
      P c (i + a) (j + b) (k + d) = Q c (i' + a) (j' + b) (k' + d)) :
    interpE nu W P c i j k = interpE nu W' Q c i' j' k' ∧ interpH nu W P c i j k = interpH nu W' Q c i' j' k' := by
  have e := fun a b ha hb c => And.intro (h c a b 1 ha hb (.inl rfl)) (h c a b 2 ha hb (.inr rfl))
  have e11 := e 1 1 (.inr rfl) (.inr rfl)
  have e01 := e 0 1 (.inl rfl) (.inr rfl)
  have e10 := e 1 0 (.inr rfl) (.inl rfl)
  have e00 := e 0 0 (.inl rfl) (.inl rfl)
  simp only [Int.add_zero] at e01 e10 e00
  simp only [interpE, interpH, hcx, hpx, hcy, hpy, e11, e01, e10, e00, and_self]

section dispatch
variable {α : Type} [Add α] [Mul α] [Div α] [Neg α] [OfNat α 0] [OfNat α 2]

/-- for every box inside the domain — interior or touching any face, edge or corner — the
E record of an exact detector is the full-domain interpolation restricted to the box. -/
theorem C15_record_eq_full_E (cfg : Cfg) (nu : Bool) (w : Widths α) (b : Box) (E : Nat → F3 α) (c : Nat)
    (i j k : Int) (hi : 0 ≤ i ∧ i < b.e0 - b.s0) (hj : 0 ≤ j ∧ j < b.e1 - b.s1) (hk : 0 ≤ k ∧ k < b.e2 - b.s2) :
    recE cfg nu w true b E c i j k = fullE cfg nu w E c (b.s0 + i) (b.s1 + j) (b.s2 + k) := by
  unfold recE
  by_cases hin : b.interior cfg = true
  · simp only [Bool.not_true, Bool.false_eq_true, if_false, hin, if_true]
    unfold blockE fullE
    refine (interp_congr nu _ _ _ _ c _ _ _ _ _ _ (by rfl) (by rfl) (by rfl) (by rfl) ?_).1
    intro c a a' d ha ha' hd
    exact block_eq_padded .E (E c) hin hi hj hk (ha.imp_right .inl) (ha'.imp_right .inl) (.inr hd)
  · simp [hin]

theorem C15_record_eq_full_H (cfg : Cfg) (nu : Bool) (w : Widths α) (b : Box) (H Hprev : Nat → F3 α) (c : Nat)
    (i j k : Int) (hi : 0 ≤ i ∧ i < b.e0 - b.s0) (hj : 0 ≤ j ∧ j < b.e1 - b.s1) (hk : 0 ≤ k ∧ k < b.e2 - b.s2) :
    recH cfg nu w true b H Hprev c i j k = fullH cfg nu w H Hprev c (b.s0 + i) (b.s1 + j) (b.s2 + k) := by
  unfold recH
  by_cases hin : b.interior cfg = true
  · simp only [Bool.not_true, Bool.false_eq_true, if_false, hin, if_true]
    unfold blockH fullH
    refine (interp_congr nu _ _ _ _ c _ _ _ _ _ _ (by rfl) (by rfl) (by rfl) (by rfl) ?_).2
    intro c a a' d ha ha' hd
    exact block_eq_padded .H (havg H Hprev c) hin hi hj hk (ha.imp_right .inl) (ha'.imp_right .inl) (.inr hd)
  · simp [hin]

/-- both dispatch branches are inhabited: an interior box and a corner box of a 5×4×6 domain -/
example : (Box.mk 1 3 1 2 2 5).interior (⟨5, true, 0⟩, ⟨4, false, 0⟩, ⟨6, false, -1⟩) = true
    ∧ (Box.mk 0 3 1 4 2 6).interior (⟨5, true, 0⟩, ⟨4, false, 0⟩, ⟨6, false, -1⟩) = false
    ∧ (Box.mk 0 3 1 4 2 6).valid (⟨5, true, 0⟩, ⟨4, false, 0⟩, ⟨6, false, -1⟩) = true := by decide

/-- without exact interpolation the detector sees the raw components of its region. -/
theorem C15_nonexact_raw_E (cfg : Cfg) (nu : Bool) (w : Widths α) (b : Box) (E : Nat → F3 α) (c : Nat) (i j k : Int) :
    recE cfg nu w false b E c i j k = E c (b.s0 + i) (b.s1 + j) (b.s2 + k) := by
  simp [recE]

theorem C15_nonexact_raw_H (cfg : Cfg) (nu : Bool) (w : Widths α) (b : Box) (H Hprev : Nat → F3 α) (c : Nat)
    (i j k : Int) : recH cfg nu w false b H Hprev c i j k = H c (b.s0 + i) (b.s1 + j) (b.s2 + k) := by
  simp [recH]

end dispatch

/-! ### stencil formulas (over a field of characteristic ≠ 2) -/

section stencil
variable {K : Type} [Field K]

/-- the exact H record is the co-location of A = (H_prev + H)/2 — it depends on the two adjacent
half-steps only through their average, and a field with H_prev = H = A records the same. -/
theorem C15_H_time_centred (h2 : (2 : K) ≠ 0) (cfg : Cfg) (nu : Bool) (w : Widths K) (b : Box) (H Hprev : Nat → F3 K) :
    recH cfg nu w true b H Hprev = recH cfg nu w true b (havg H Hprev) (havg H Hprev) := by
  have : havg (havg H Hprev) (havg H Hprev) = havg H Hprev := by
    funext c i j k
    simp only [havg]
    rw [← two_mul, mul_div_cancel_left₀ _ h2]
  funext c i j k
  simp only [recH, blockH, fullH, this, Bool.not_true, Bool.false_eq_true, if_false]

/-- the weighted edge average in closed form. -/
theorem C15_bea_nonuniform (h2 : (2 : K) ≠ 0) (wc wp cur prev : K) :
    bea true wc wp cur prev = (wp * cur + wc * prev) / (wc + wp) := by
  simp only [bea, if_true]
  rw [show cur * (wp / 2) + prev * (wc / 2) = (wp * cur + wc * prev) / 2 by ring,
    show wc / 2 + wp / 2 = (wc + wp) / 2 by ring, div_div_div_cancel_right₀ h2]

/-- the weighted average is linear interpolation in physical coordinates: for samples of an affine
function at the two cell centres (x + wc/2 and x - wp/2) it returns the function at the edge x. -/
theorem C15_bea_affine (h2 : (2 : K) ≠ 0) (wc wp a b x : K) (hw : wc + wp ≠ 0) :
    bea true wc wp (a * (x + wc / 2) + b) (a * (x - wp / 2) + b) = a * x + b := by
  rw [C15_bea_nonuniform h2, div_eq_iff hw]
  ring

/-- on equal widths the weighted average is the arithmetic mean of the uniform branch. -/
theorem C15_bea_equal_widths (h2 : (2 : K) ≠ 0) (wd cur prev : K) (hw : wd ≠ 0) :
    bea true wd wd cur prev = bea false wd wd cur prev := by
  have : wd + wd ≠ 0 := by
    rw [← two_mul]
    exact mul_ne_zero h2 hw
  rw [C15_bea_nonuniform h2]
  simp only [bea, Bool.false_eq_true, if_false]
  rw [div_eq_div_iff this h2]
  ring

example : (1 : ℚ) + 3 ≠ 0 := by norm_num

theorem mean_mean (a b c d : K) : ((a + b) / 2 + (c + d) / 2) / 2 = (a + b + c + d) / 4 := by
  rw [← add_div, div_div, ← add_assoc]
  norm_num

/-- on a uniform grid, in terms of the padded components `P c = padded cfg .E c (E c)`:
Ex ← 4-point mean over (i-1..i) × (k..k+1), Ey ← 4-point mean over (j-1..j) × (k..k+1), Ez ← itself. -/
theorem C15_stencil_E (h2 : (2 : K) ≠ 0) (cfg : Cfg) (w : Widths K) (E : Nat → F3 K) (i j k : Int) :
    let P := fun c => padded cfg .E c (E c)
    fullE cfg false w E 0 i j k = (P 0 i j k + P 0 (i - 1) j k + P 0 i j (k + 1) + P 0 (i - 1) j (k + 1)) / 4
    ∧ fullE cfg false w E 1 i j k = (P 1 i j k + P 1 i (j - 1) k + P 1 i j (k + 1) + P 1 i (j - 1) (k + 1)) / 4
    ∧ fullE cfg false w E 2 i j k = P 2 i j k := by
  have s2 : ∀ x : Int, x + 2 - 1 = x + 1 := fun x => by omega
  simp only [fullE, interpE, bea, Bool.false_eq_true, if_false, add_sub_cancel_right, s2, mean_mean, and_self]

/-- Hx ← 2-point mean over (j-1..j), Hy ← 2-point mean over (i-1..i),
Hz ← 8-point mean over (i-1..i) × (j-1..j) × (k..k+1); all of the time-centred A = (H_prev + H)/2. -/
theorem C15_stencil_H (h2 : (2 : K) ≠ 0) (cfg : Cfg) (w : Widths K) (H Hprev : Nat → F3 K) (i j k : Int) :
    let P := fun c => padded cfg .H c (havg H Hprev c)
    fullH cfg false w H Hprev 0 i j k = (P 0 i j k + P 0 i (j - 1) k) / 2
    ∧ fullH cfg false w H Hprev 1 i j k = (P 1 i j k + P 1 (i - 1) j k) / 2
    ∧ fullH cfg false w H Hprev 2 i j k =
        (P 2 i j k + P 2 (i - 1) j k + P 2 i (j - 1) k + P 2 (i - 1) (j - 1) k
          + P 2 i j (k + 1) + P 2 (i - 1) j (k + 1) + P 2 i (j - 1) (k + 1) + P 2 (i - 1) (j - 1) (k + 1)) / 8 := by
  have s2 : ∀ x : Int, x + 2 - 1 = x + 1 := fun x => by omega
  simp only [fullH, interpH, bea, Bool.false_eq_true, if_false, add_sub_cancel_right, s2, mean_mean, true_and]
  rw [← add_div, div_div]
  norm_num [add_assoc]

/-- axis 0, uniform grid: let `G` be a field on the UNREDUCED domain that has
the mirror symmetry of an electric plane through the node row 0 (`G c (-1) = parity · G c partner`, the instance of
the symmetry the stencil needs) and let the reduced run hold its kept half.  Then the Ex/Ey/Ez values recorded on the
plane row `i = 0` are the co-location of `G` itself — the halo supplies exactly the discarded neighbour. -/
theorem C15_plane_row_records_full_domain (cfg : Cfg) (w : Widths K) (G : Nat → F3 K) (c : Nat) (j k : Int)
    (hs : cfg.1.sym = -1) (hn : 2 ≤ cfg.1.n)
    (hj : 1 ≤ j ∧ j < cfg.2.1.n) (hk : 0 ≤ k ∧ k + 1 < cfg.2.2.n)
    (hsym : ∀ c j k, G c (-1) j k = sgn (oddPEC .E c 0) (G c (partner .E c 0) j k)) :
    fullE cfg false w G c 0 j k = interpE false (fullW w) (fun c p q r => G c (p - 1) (q - 1) (r - 1)) c 0 j k := by
  unfold fullE
  refine (interp_congr false _ _ _ _ c _ _ _ _ _ _ (by rfl) (by rfl) (by rfl) (by rfl) ?_).1
  intro c a b d ha hb hd
  rcases ha with rfl | rfl
  · have e : (0 : Int) + 0 - 1 = -1 := rfl
    rw [e, C15_mirror_halo cfg .E c (G c) _ _ hs hn (by omega) (by omega), hsym]
  · rw [C15_halo_inside] <;> omega

/-- the symmetry hypothesis is satisfiable by a non-zero field: Ex even and constant, Ey/Ez odd and linear in i -/
example : ∃ G : Nat → F3 ℚ, (∀ c j k, G c (-1) j k = sgn (oddPEC .E c 0) (G c (partner .E c 0) j k)) ∧ G 1 1 0 0 ≠ 0 := by
  refine ⟨fun c i _ _ => if c = 0 then 1 else (i : ℚ), ?_, by norm_num⟩
  intro c j k
  by_cases hc : c = 0
  · subst hc; simp [oddPEC, sgn]
  · simp [oddPEC, partner, onPlane, sgn, hc]

end stencil

end Fdtdx.C15
