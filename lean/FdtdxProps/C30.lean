/-
C30 — Recorded boundary data decompresses to what was recorded.

Theorems about `FdtdxModel/C30.lean` for all T, k ≥ 1, start < T, every t with start ≤ t < T, every value history
and any scalar type.  At a saved step `decompress` returns the record (`C30_saved_exact`); at any other step it is
the linear interpolation between the records of the two ENCLOSING saved steps p < t < n (both saved, nothing saved
strictly between), with factor (t-p)/(n-p) (`C30_between_lerp`); the enclosing pair is unique, so this is the
property's statement.  Behind both: `C30_index_roundtrip`, saved t → saveTime (arrIdx t) = t (compress never
overwrites another step's record).  `C30_widening_*` put a DtypeConversion with an exact retraction in front.

Refutation witnesses for the tree as found, before the two fixes: the `AsFound` examples at the end.
-/
import FdtdxModel.C30
import Mathlib.Tactic.Ring
import Mathlib.Algebra.Field.Basic
import Mathlib.Algebra.Order.Field.Basic
import Mathlib.Tactic.IntervalCases

namespace Fdtdx.C30

/-! ### arithmetic of the index maps

Every step from the start on is written `s + (q*k + r)` with `r < k`; `saved` and `arrIdx` are computed once on
that form, and all later arithmetic is linear in the atoms `q*k`, `r`, `s`, `T`. -/

theorem saved_iff (c : Cfg) (t : Nat) :
    saved c t = true ↔ c.s ≤ t ∧ t < c.T ∧ ((t - c.s) % c.k = 0 ∨ t + 1 = c.T) := by
  simp [saved, and_assoc]

theorem exists_quot_rem {k s t : Nat} (hk : 1 ≤ k) (hst : s ≤ t) :
    ∃ q r, r < k ∧ t = s + (q * k + r) :=
  ⟨(t - s) / k, (t - s) % k, Nat.mod_lt _ hk, by have := Nat.div_add_mod' (t - s) k; omega⟩

theorem saved_at (c : Cfg) (q : Nat) {r : Nat} (hr : r < c.k) :
    saved c (c.s + (q * c.k + r)) = true ↔
      c.s + (q * c.k + r) < c.T ∧ (r = 0 ∨ c.s + (q * c.k + r) + 1 = c.T) := by
  simp [saved_iff, Nat.mul_add_mod_self_right, Nat.mod_eq_of_lt hr]

theorem arrIdx_at (c : Cfg) (q : Nat) {r : Nat} (hr : r < c.k) :
    arrIdx c (c.s + (q * c.k + r)) = if c.s + (q * c.k + r) + 1 = c.T ∧ r ≠ 0 then q + 1 else q := by
  have hd : (q * c.k + r) / c.k = q := Nat.div_eq_of_lt_le (by omega) (by rw [Nat.succ_mul]; omega)
  simp [arrIdx, Nat.mul_add_mod_self_right, Nat.mod_eq_of_lt hr, hd]

theorem saveTime_regular (c : Cfg) (i : Nat) (h : c.s + i * c.k < c.T) : saveTime c i = c.s + i * c.k := by
  rw [saveTime]; omega

theorem saveTime_last (c : Cfg) (q : Nat) {r : Nat} (hr : r ≤ c.k) (hT : c.s + (q * c.k + r) + 1 = c.T) :
    saveTime c (q + 1) = c.s + (q * c.k + r) := by
  rw [saveTime, Nat.succ_mul]; omega

/-- C30_index_roundtrip: the index map is a left inverse of the save-time table on saved steps. -/
theorem C30_index_roundtrip (c : Cfg) (hk : 1 ≤ c.k) (t : Nat) (hs : saved c t = true) :
    saveTime c (arrIdx c t) = t := by
  obtain ⟨q, r, hr, rfl⟩ := exists_quot_rem hk ((saved_iff c t).mp hs).1
  rw [saved_at c q hr] at hs
  rw [arrIdx_at c q hr]
  split <;> rename_i h
  · exact saveTime_last c q (Nat.le_of_lt hr) h.1
  · obtain rfl : r = 0 := Decidable.by_contra fun h0 => hs.2.elim h0 fun hT => h ⟨hT, h0⟩
    exact saveTime_regular c q hs.1

/-! ### compress: after the run, slot `i` holds the record of `saveTime i` -/

/-- slot `i` is the slot of a saved step -/
def goodSlot (c : Cfg) (i : Nat) : Prop := saved c (saveTime c i) = true ∧ arrIdx c (saveTime c i) = i

instance (c : Cfg) (i : Nat) : Decidable (goodSlot c i) := by unfold goodSlot; infer_instance

/-- the slots of the regular steps `s + i*k` below `T` -/
theorem goodSlot_regular (c : Cfg) (hk : 1 ≤ c.k) (i : Nat) (h : c.s + i * c.k < c.T) : goodSlot c i := by
  rw [goodSlot, saveTime_regular c i h, ← Nat.add_zero (i * c.k), saved_at c i hk, arrIdx_at c i hk]
  exact ⟨⟨h, Or.inl rfl⟩, if_neg fun h => h.2 rfl⟩

/-- the slot of the last step `T - 1` when it is not a regular one -/
theorem goodSlot_last (c : Cfg) (q : Nat) {r : Nat} (hr0 : r ≠ 0) (hr : r < c.k)
    (hT : c.s + (q * c.k + r) + 1 = c.T) : goodSlot c (q + 1) := by
  rw [goodSlot, saveTime_last c q (Nat.le_of_lt hr) hT, saved_at c q hr, arrIdx_at c q hr]
  exact ⟨⟨Nat.lt_of_succ_le (Nat.le_of_eq hT), Or.inr hT⟩, if_pos ⟨hT, hr0⟩⟩

theorem saved_into_iff (c : Cfg) (hk : 1 ≤ c.k) (n i : Nat) :
    saved c n = true ∧ i = arrIdx c n ↔ saveTime c i = n ∧ goodSlot c i := by
  constructor
  · rintro ⟨hs, rfl⟩
    have hrt := C30_index_roundtrip c hk n hs
    exact ⟨hrt, by rw [goodSlot, hrt]; exact ⟨hs, rfl⟩⟩
  · rintro ⟨rfl, hs, hi⟩
    exact ⟨hs, hi.symm⟩

theorem compressUpTo_apply {α : Type} (c : Cfg) (hk : 1 ≤ c.k) (rec init : Nat → α) (n i : Nat) :
    compressUpTo c rec init n i = if saveTime c i < n ∧ goodSlot c i then rec (saveTime c i) else init i := by
  induction n with
  | zero => simp [compressUpTo]
  | succ n ih =>
    have hstep : compressUpTo c rec init (n + 1) i =
        if saved c n = true ∧ i = arrIdx c n then rec n else compressUpTo c rec init n i := by
      simp only [compressUpTo, compressStep]; split <;> simp [*]
    -- step `n` writes slot `i` exactly when `n` is the save time of that good slot
    rw [hstep, ih]
    simp only [saved_into_iff c hk]
    by_cases hg : goodSlot c i
    · simp only [hg, and_true]
      rcases Nat.lt_trichotomy (saveTime c i) n with h | h | h
      · rw [if_neg (Nat.ne_of_lt h), if_pos h, if_pos (Nat.lt_succ_of_lt h)]
      · rw [if_pos h, if_pos (Nat.lt_succ_of_le (Nat.le_of_eq h)), h]
      · rw [if_neg (Nat.ne_of_gt h), if_neg (Nat.lt_asymm h), if_neg (by omega)]
    · simp only [hg, and_false, if_false]

/-! ### the enclosing saved steps of a step that was not saved -/

/-- `p < t < n` are the saved steps enclosing `t` -/
structure Encloses (c : Cfg) (p t n : Nat) : Prop where
  saved_p : saved c p = true
  saved_n : saved c n = true
  lt_p : p < t
  lt_n : t < n
  none_between : ∀ u, p < u → u < n → saved c u = false

/-- the steps `s + (q*k + r)`, `0 < r < m`, of the window between the save times `s + q*k` of slot `q` and
`s + (q*k + m)` of slot `q + 1`, where `m ≤ k` -/
theorem window_encloses (c : Cfg) (hk : 1 ≤ c.k) (q m : Nat) (hmk : m ≤ c.k)
    (hn : saveTime c (q + 1) = c.s + (q * c.k + m)) (hg1 : goodSlot c (q + 1))
    (r : Nat) (hr0 : r ≠ 0) (hrm : r < m) :
    Encloses c (saveTime c q) (c.s + (q * c.k + r)) (saveTime c (q + 1))
      ∧ goodSlot c q ∧ goodSlot c (q + 1) := by
  have hnT : c.s + (q * c.k + m) < c.T := hn ▸ ((saved_iff c _).mp hg1.1).2.1
  have hqT : c.s + q * c.k < c.T := by omega
  have hp := saveTime_regular c q hqT
  have hg0 := goodSlot_regular c hk q hqT
  refine ⟨⟨hg0.1, hg1.1, by omega, by omega, fun u h1 h2 => ?_⟩, hg0, hg1⟩
  obtain ⟨r', rfl⟩ : ∃ r', u = c.s + (q * c.k + r') := ⟨u - c.s - q * c.k, by omega⟩
  rw [Bool.eq_false_iff, Ne, saved_at c q (by omega)]
  omega

/-- geometry of the slot pair used by `decompress` for an unsaved step `t = s + (q*k + r)`: `0 < r`, `t` is not
the last step, the slots are `q` and `q + 1`, and the next save time is `s + (q+1)*k` or `T - 1`. -/
theorem slots_enclose (c : Cfg) (hk : 1 ≤ c.k) (t : Nat) (hst : c.s ≤ t) (htT : t < c.T)
    (hns : saved c t = false) :
    Encloses c (saveTime c (arrIdx c t)) t (saveTime c (arrIdx c t + 1))
      ∧ goodSlot c (arrIdx c t) ∧ goodSlot c (arrIdx c t + 1) := by
  obtain ⟨q, r, hr, rfl⟩ := exists_quot_rem hk hst
  rw [Bool.eq_false_iff, Ne, saved_at c q hr] at hns
  have hr0 : r ≠ 0 := fun h => hns ⟨htT, Or.inl h⟩
  have hlast : c.s + (q * c.k + r) + 1 ≠ c.T := fun h => hns ⟨htT, Or.inr h⟩
  rw [arrIdx_at c q hr, if_neg fun h => hlast h.1]
  by_cases hfit : c.s + (q + 1) * c.k < c.T
  · exact window_encloses c hk q c.k (Nat.le_refl _) (by rw [saveTime_regular c _ hfit, Nat.succ_mul])
      (goodSlot_regular c hk _ hfit) r hr0 hr
  · rw [Nat.succ_mul] at hfit
    obtain ⟨m, hT⟩ : ∃ m, c.s + (q * c.k + m) + 1 = c.T := ⟨c.T - 1 - c.s - q * c.k, by omega⟩
    have hmk : m < c.k := by omega
    exact window_encloses c hk q m (Nat.le_of_lt hmk) (saveTime_last c q (Nat.le_of_lt hmk) hT)
      (goodSlot_last c q (by omega) hmk hT) r hr0 (by omega)

theorem Encloses.outside {c : Cfg} {p t n u : Nat} (h : Encloses c p t n) (hu : saved c u = true) :
    u ≤ p ∨ n ≤ u := by
  by_contra hc
  have := h.none_between u (by omega) (by omega)
  rw [hu] at this; cases this

/-- C30_enclosing_unique: there is only one enclosing pair, so `C30_between_lerp` speaks about "the two
enclosing saved steps" of the property text. -/
theorem C30_enclosing_unique (c : Cfg) (t p n p' n' : Nat)
    (h : Encloses c p t n) (h' : Encloses c p' t n') : p = p' ∧ n = n' := by
  have := h.outside h'.saved_p
  have := h.outside h'.saved_n
  have := h'.outside h.saved_p
  have := h'.outside h.saved_n
  have := h.lt_p
  have := h.lt_n
  have := h'.lt_p
  have := h'.lt_n
  omega

/-! ### the property -/

/-- data held by the recorder after a complete run of `T` steps recording `rec u` at step `u` -/
def recorded {α : Type} (c : Cfg) (rec : Nat → α) (init : Nat → α) : Nat → α := compressUpTo c rec init c.T

theorem recorded_goodSlot {α : Type} (c : Cfg) (hk : 1 ≤ c.k) (rec init : Nat → α) {i : Nat}
    (hg : goodSlot c i) : recorded c rec init i = rec (saveTime c i) := by
  rw [recorded, compressUpTo_apply c hk, if_pos ⟨((saved_iff c _).mp hg.1).2.1, hg⟩]

section
variable {α : Type} [Add α] [Sub α] [Mul α] [Div α]

/-- **C30 (saved steps)**: decompressing a saved step returns exactly what was recorded. -/
theorem C30_saved_exact (cast : Nat → α) (c : Cfg) (hk : 1 ≤ c.k) (rec init : Nat → α) (t : Nat)
    (hsv : saved c t = true) :
    decompress cast c (recorded c rec init) t = rec t := by
  have hg := ((saved_into_iff c hk t _).mp ⟨hsv, rfl⟩).2
  rw [decompress, if_pos hsv, recorded_goodSlot c hk rec init hg, C30_index_roundtrip c hk t hsv]

/-- **C30 (other steps)**: for `start ≤ t < T` not saved, the result is the linear interpolation between the
records of the two enclosing saved steps `p < t < n`, with factor `(t - p)/(n - p)`. -/
theorem C30_between_lerp (cast : Nat → α) (c : Cfg) (hk : 1 ≤ c.k) (rec init : Nat → α) (t : Nat)
    (hst : c.s ≤ t) (htT : t < c.T) (hns : saved c t = false) :
    ∃ p n, Encloses c p t n ∧
      decompress cast c (recorded c rec init) t = lerp (rec p) (rec n) (cast (t - p) / cast (n - p)) := by
  obtain ⟨henc, hg0, hg1⟩ := slots_enclose c hk t hst htT hns
  refine ⟨_, _, henc, ?_⟩
  rw [decompress, if_neg (by simp [hns]), recorded_goodSlot c hk rec init hg0,
    recorded_goodSlot c hk rec init hg1]

end

/-- the interpolant is the linear one: exact at both ends, affine in between (any field). -/
theorem C30_lerp_endpoints {K : Type} [Field K] (a b : K) :
    lerp a b 0 = a ∧ lerp a b 1 = b ∧ ∀ f g : K, lerp a b f - lerp a b g = (f - g) * (b - a) := by
  exact ⟨by simp [lerp], by simp [lerp], fun f g => by simp only [lerp]; ring⟩

/-- the factor used lies strictly between 0 and 1 (ordered field, characteristic 0) -/
theorem C30_factor_range {K : Type} [Field K] [LinearOrder K] [IsStrictOrderedRing K]
    (p t n : Nat) (h1 : p < t) (h2 : t < n) :
    0 < ((t - p : Nat) : K) / ((n - p : Nat) : K) ∧ ((t - p : Nat) : K) / ((n - p : Nat) : K) < 1 := by
  have hd : (0 : K) < ((n - p : Nat) : K) := Nat.cast_pos.mpr (Nat.sub_pos_of_lt (Nat.lt_trans h1 h2))
  exact ⟨div_pos (Nat.cast_pos.mpr (Nat.sub_pos_of_lt h1)) hd,
    (div_lt_one hd).mpr (Nat.cast_lt.mpr (Nat.sub_lt_sub_right (Nat.le_of_lt h1) h2))⟩

/-! ### DtypeConversion in front of the time filter -/

section
variable {α β : Type} [Add β] [Sub β] [Mul β] [Div β]

/-- widening conversion (`down ∘ up = id`): saved steps round-trip exactly through the whole pipeline -/
theorem C30_widening_saved (cv : Conv α β) (hw : ∀ x, cv.down (cv.up x) = x) (cast : Nat → β)
    (c : Cfg) (hk : 1 ≤ c.k) (rec : Nat → α) (zero : β) (t : Nat) (hsv : saved c t = true) :
    pipelineDecompress cv cast c rec zero t = rec t :=
  (congrArg cv.down (C30_saved_exact cast c hk (fun u => cv.up (rec u)) (fun _ => zero) t hsv)).trans (hw _)

/-- other steps: the interpolation happens on the converted values, then converts back -/
theorem C30_widening_between (cv : Conv α β) (cast : Nat → β)
    (c : Cfg) (hk : 1 ≤ c.k) (rec : Nat → α) (zero : β) (t : Nat)
    (hst : c.s ≤ t) (htT : t < c.T) (hns : saved c t = false) :
    ∃ p n, Encloses c p t n ∧ pipelineDecompress cv cast c rec zero t
      = cv.down (lerp (cv.up (rec p)) (cv.up (rec n)) (cast (t - p) / cast (n - p))) := by
  obtain ⟨p, n, henc, h⟩ := C30_between_lerp cast c hk (fun u => cv.up (rec u)) (fun _ => zero) t hst htT hns
  exact ⟨p, n, henc, congrArg cv.down h⟩

end

/-! ### non-vacuity: concrete configurations meeting the hypotheses -/

example : saved ⟨12, 3, 2⟩ 5 = true ∧ saved ⟨12, 3, 2⟩ 3 = false ∧ (2 ≤ 3 ∧ 3 < 12) := by decide
example : Encloses ⟨12, 3, 2⟩ 2 3 5 :=
  ⟨by decide, by decide, by decide, by decide, by intro u h1 h2; interval_cases u <;> decide⟩
example : Encloses ⟨8, 3, 0⟩ 6 7 7 → False := fun h => by have := h.lt_n; omega
-- T ≤ k: only steps 0 and T-1 are saved and they get different slots
example : arrIdx ⟨4, 4, 0⟩ 3 = 1 ∧ saveSteps ⟨4, 4, 0⟩ = [0, 3] := by decide

/-! ### refutation of the full statement for the tree as found (before the `fix:` commits) -/

/-- as found, first window after a late start: T=12, k=3, start=2, t=3, records u²+1.
The property demands 5 + (1/3)·(26-5) = 12; the pinned code computed 5 + (3/5)·21 = 88/5. -/
example : AsFound.decompress (fun i : Int => (i : Rat)) ⟨12, 3, 2⟩
      (compressUpTo ⟨12, 3, 2⟩ (fun u => ((u * u + 1 : Nat) : Rat)) (fun _ => 0) 12) 3 = 88 / 5 := by
  decide +kernel
example : decompress (fun i : Nat => (i : Rat)) ⟨12, 3, 2⟩
      (compressUpTo ⟨12, 3, 2⟩ (fun u => ((u * u + 1 : Nat) : Rat)) (fun _ => 0) 12) 3 = 12 := by
  decide +kernel
/-- as found, T ≤ k: the index of the last step was cleared, so it shared slot 0 with step 0 -/
example : AsFound.arrIdx ⟨4, 4, 0⟩ 3 = 0 ∧ saved ⟨4, 4, 0⟩ 3 = true ∧ saved ⟨4, 4, 0⟩ 0 = true
    ∧ AsFound.arrIdx ⟨4, 4, 0⟩ 0 = 0 := by decide

end Fdtdx.C30
