/-
The snapping functions of `FdtdxModel/C26.lean` over an ordered field: `argminAbs` returns an index of a
nearest element ("nearest-edge snapping"), first one on ties
(the scan of `FdtdxLemmas/FirstMin.lean` with key `|· - c|`).
-/
import FdtdxModel.C26
import FdtdxLemmas.FirstMin
import Mathlib.Algebra.Order.Field.Basic
import Mathlib.Algebra.Order.Group.Abs
import Mathlib.Tactic.Linarith

namespace Fdtdx.C26

variable {K : Type} [Field K] [LinearOrder K] [IsStrictOrderedRing K]

theorem absv_eq_abs (x : K) : absv x = |x| := by
  unfold absv
  split
  · rename_i h; exact (abs_of_neg h).symm
  · rename_i h; exact (abs_of_nonneg (not_lt.1 h)).symm

/-- **nearest snapping**: `argminAbs xs c` is the first index whose element is closest to `c` -/
theorem argminAbs_nearest (xs : List K) (c : K) (hne : xs ≠ []) :
    argminAbs xs c < xs.length ∧
    (∀ j, j < xs.length → |xs.getD (argminAbs xs c) 0 - c| ≤ |xs.getD j 0 - c|) ∧
    (∀ j, j < argminAbs xs c → |xs.getD (argminAbs xs c) 0 - c| < |xs.getD j 0 - c|) :=
  FirstMinOn.of_scan (am := fun l => argminAbs l c) (go := argminAux c) (g := fun x => absv (x - c))
    (d := fun j => |xs.getD j 0 - c|) ⟨fun _ _ => rfl, fun _ _ _ => rfl, fun _ _ _ _ _ => rfl⟩ xs hne
    fun k hk => by rw [absv_eq_abs, List.getElem_eq_getD 0]

/-- `coord_to_index(…, snap="nearest")` returns the index of a grid edge nearest to the coordinate -/
theorem coordToIndex_nearest (g : Grid K) (ax : Nat) (c : K) (hne : g.edges ax ≠ []) :
    ∃ i : Nat, coordToIndex g ax c = (i : Int) ∧ i < (g.edges ax).length ∧
      ∀ j, j < (g.edges ax).length → |getE (g.edges ax) i - c| ≤ |getE (g.edges ax) j - c| := by
  obtain ⟨h1, h2, _⟩ := argminAbs_nearest (g.edges ax) c hne
  exact ⟨argminAbs (g.edges ax) c, rfl, h1, h2⟩

end Fdtdx.C26
