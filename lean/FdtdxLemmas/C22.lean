/-
Helper lemmas for C22: the model's left-fold sums as `Finset` sums; linearity, convex bounds and reflection
of the cropped convolution.
-/
import FdtdxModel.C22
import Mathlib.Algebra.BigOperators.Field
import Mathlib.Algebra.BigOperators.Intervals
import Mathlib.Algebra.Order.BigOperators.Ring.Finset
import Mathlib.Algebra.Order.Field.Basic
import Mathlib.Tactic.Ring
import Mathlib.Tactic.Linarith

namespace Fdtdx.C22
open Finset

section field
variable {K : Type} [Field K]

theorem sumRange_eq_sum (n : Nat) (f : Nat → K) : sumRange n f = ∑ i ∈ range n, f i := by
  induction n with
  | zero => simp [sumRange]
  | succ n ih => rw [sumRange, ih, sum_range_succ]

theorem conv_eq (p : Nat) (k A : Nat → Nat → K) (i j : Nat) :
    conv p k A i j = ∑ a ∈ range (2 * p + 1), ∑ b ∈ range (2 * p + 1), A (i + 2 * p - a) (j + 2 * p - b) * k a b := by
  simp only [conv, sumRange_eq_sum]

theorem conv_comb (p : Nat) (k A B : Nat → Nat → K) (s t : K) (i j : Nat) :
    conv p k (fun r c => s * A r c + t * B r c) i j = s * conv p k A i j + t * conv p k B i j := by
  simp only [conv_eq, mul_sum, ← sum_add_distrib]
  refine sum_congr rfl fun a _ => sum_congr rfl fun b _ => ?_
  ring

theorem conv_const (p : Nat) (k : Nat → Nat → K) (v : K)
    (hsum : ∑ a ∈ range (2 * p + 1), ∑ b ∈ range (2 * p + 1), k a b = 1) (i j : Nat) :
    conv p k (fun _ _ => v) i j = v := by
  rw [conv_eq]
  simp only [← mul_sum]
  rw [hsum, mul_one]

/-- reflecting positions and taps together turns the window of output `i` into that of output `n - 1 - i` -/
theorem sum_mirror (p n : Nat) (T T' : Nat → Nat → K)
    (h : ∀ r a, r < n + 2 * p → a ≤ 2 * p → T' r a = T (n + 2 * p - 1 - r) (2 * p - a)) {i : Nat} (hi : i < n) :
    ∑ a ∈ range (2 * p + 1), T' (i + 2 * p - a) a = ∑ a ∈ range (2 * p + 1), T (n - 1 - i + 2 * p - a) a := by
  rw [← sum_flip (fun a => T (n - 1 - i + 2 * p - a) a)]
  refine sum_congr rfl fun a ha => ?_
  have ha' : a ≤ 2 * p := Nat.lt_succ_iff.mp (mem_range.mp ha)
  rw [h _ a (Nat.lt_of_le_of_lt (Nat.sub_le _ _) (Nat.add_lt_add_right hi _)) ha']
  congr 1
  omega

/-- reflection of the padded array along axis 0 reflects the cropped output when the kernel is symmetric -/
theorem conv_mirror0 (p nx : Nat) (k A A' : Nat → Nat → K)
    (hk : ∀ a b, a ≤ 2 * p → k (2 * p - a) b = k a b)
    (hA : ∀ r c, r < nx + 2 * p → A' r c = A (nx + 2 * p - 1 - r) c) {i : Nat} (hi : i < nx) (j : Nat) :
    conv p k A' i j = conv p k A (nx - 1 - i) j := by
  rw [conv_eq, conv_eq]
  refine sum_mirror p nx (fun r a => ∑ b ∈ range (2 * p + 1), A r (j + 2 * p - b) * k a b)
    (fun r a => ∑ b ∈ range (2 * p + 1), A' r (j + 2 * p - b) * k a b) (fun r a hr ha => ?_) hi
  exact sum_congr rfl fun b _ => by rw [hA r _ hr, hk a b ha]

/-- … and along axis 1 -/
theorem conv_mirror1 (p ny : Nat) (k A A' : Nat → Nat → K)
    (hk : ∀ a b, b ≤ 2 * p → k a (2 * p - b) = k a b)
    (hA : ∀ r c, c < ny + 2 * p → A' r c = A r (ny + 2 * p - 1 - c)) (i : Nat) {j : Nat} (hj : j < ny) :
    conv p k A' i j = conv p k A i (ny - 1 - j) := by
  rw [conv_eq, conv_eq]
  refine sum_congr rfl fun a _ => ?_
  refine sum_mirror p ny (fun c b => A (i + 2 * p - a) c * k a b) (fun c b => A' (i + 2 * p - a) c * k a b)
    (fun c b hc hb => ?_) hj
  rw [hA _ c hc, hk a b hb]

end field

section ordered
variable {K : Type} [Field K] [LinearOrder K] [IsStrictOrderedRing K]

theorem conv_mono (p : Nat) (k A B : Nat → Nat → K) (hk : ∀ a b, 0 ≤ k a b) (h : ∀ r c, A r c ≤ B r c)
    (i j : Nat) : conv p k A i j ≤ conv p k B i j := by
  rw [conv_eq, conv_eq]
  exact sum_le_sum fun a _ => sum_le_sum fun b _ => mul_le_mul_of_nonneg_right (h _ _) (hk a b)

/-- convex combination: the output lies between the constant arrays `lo` and `hi` that bound the padded array -/
theorem conv_bounds (p : Nat) (k A : Nat → Nat → K) (lo hi : K) (hk : ∀ a b, 0 ≤ k a b)
    (hsum : ∑ a ∈ range (2 * p + 1), ∑ b ∈ range (2 * p + 1), k a b = 1)
    (hA : ∀ r c, lo ≤ A r c ∧ A r c ≤ hi) (i j : Nat) :
    lo ≤ conv p k A i j ∧ conv p k A i j ≤ hi :=
  ⟨(conv_const p k lo hsum i j).ge.trans (conv_mono p k _ A hk (fun r c => (hA r c).1) i j),
    (conv_mono p k A _ hk (fun r c => (hA r c).2) i j).trans (conv_const p k hi hsum i j).le⟩

end ordered

end Fdtdx.C22
