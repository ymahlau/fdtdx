/-
Helper lemmas for C37 (and C38/C43): `absv`, `half`, first-minimum `argmin` (the scan of `FdtdxLemmas/FirstMin.lean`),
sorted edge lists, counting searches (`countLE`, `countLT` as lengths of a filtered prefix), `minList`, `maxAbs`.
Everything over a linearly ordered field `K`.
-/
import FdtdxModel.C37
import FdtdxLemmas.FirstMin
import Mathlib.Tactic.Ring
import Mathlib.Tactic.Linarith
import Mathlib.Tactic.FieldSimp
import Mathlib.Algebra.Order.Field.Basic
import Mathlib.Algebra.Order.Ring.Abs

set_option linter.unusedSectionVars false

namespace Fdtdx.C37

variable {K : Type} [Field K] [LinearOrder K] [IsStrictOrderedRing K]

theorem absv_eq_abs (x : K) : absv x = |x| := by
  unfold absv
  split_ifs with h
  · exact (abs_of_neg h).symm
  · exact (abs_of_nonneg (not_lt.mp h)).symm

theorem half_eq : (half : K) = 1 / 2 := rfl

theorem getD_of_lt (l : List K) {i : Nat} (h : i < l.length) : l.getD i 0 = l[i] :=
  (List.getElem_eq_getD 0).symm

/-! ### argmin = index of the first minimum -/

/-- `r` is the index of the first minimum of `l` -/
def IsFirstMin (l : List K) (r : Nat) : Prop :=
  r < l.length ∧ (∀ j, j < l.length → l.getD r 0 ≤ l.getD j 0) ∧ ∀ j, j < r → l.getD r 0 < l.getD j 0

theorem IsFirstMin.unique {l : List K} {r r' : Nat} (h : IsFirstMin l r) (h' : IsFirstMin l r') : r = r' :=
  FirstMinOn.unique (d := fun j => l.getD j 0) h h'

/-- `argmin` on a non-empty list, in terms of any `d` that lists its entries -/
theorem argmin_firstMinOn {d : Nat → K} (l : List K) (hl : l ≠ []) (hd : ∀ k (hk : k < l.length), l[k] = d k) :
    FirstMinOn d l.length (argmin l) :=
  FirstMinOn.of_scan (am := argmin) (go := argminGo) (g := id) ⟨fun _ _ => rfl, fun _ _ _ => rfl, fun _ _ _ _ _ => rfl⟩ l hl hd

theorem argmin_isFirstMin (l : List K) (hl : l ≠ []) : IsFirstMin l (argmin l) :=
  argmin_firstMinOn l hl fun _ hk => (getD_of_lt l hk).symm

/-- `argmin` of a list that tabulates `f` on `0, …, n-1`, in terms of `f` -/
theorem argmin_eq_iff_of_getD {l : List K} {n : Nat} {f : Nat → K} (hlen : l.length = n) (hn : 0 < n)
    (hget : ∀ j, j < n → l.getD j 0 = f j) (r : Nat) :
    argmin l = r ↔ r < n ∧ (∀ j, j < n → f r ≤ f j) ∧ ∀ j, j < r → f r < f j := by
  subst hlen
  have hmin : FirstMinOn f l.length (argmin l) :=
    argmin_firstMinOn l (List.ne_nil_of_length_pos hn) fun k hk => (getD_of_lt l hk).symm.trans (hget k hk)
  exact ⟨fun h => h ▸ hmin, hmin.unique⟩

/-- first minimum of `|f 0|, …, |f (k-1)|` as `bounds_for_center` / `bounds_for_anchor` tabulate it -/
theorem argmin_absv_range (k : Nat) (hk : 0 < k) (f : Nat → K) :
    let r := argmin ((List.range k).map fun l => absv (f l))
    r < k ∧ (∀ j, j < k → |f r| ≤ |f j|) ∧ ∀ j, j < r → |f r| < |f j| :=
  (argmin_eq_iff_of_getD (l := (List.range k).map fun l => absv (f l)) (f := fun j => |f j|) (by simp) hk
    (fun j hj => by simp [hj, absv_eq_abs]) _).mp rfl

/-! ### sorted edge lists -/

/-- strictly increasing edges -/
def Sorted (e : List K) : Prop := ∀ i j, i < j → j < e.length → edge e i < edge e j

@[simp] theorem edge_cons_zero (x : K) (xs : List K) : edge (x :: xs) 0 = x := by simp [edge]
@[simp] theorem edge_cons_succ (x : K) (xs : List K) (j : Nat) : edge (x :: xs) (j + 1) = edge xs j := by
  simp [edge]

theorem Sorted.tail {x : K} {xs : List K} (h : Sorted (x :: xs)) :
    Sorted xs ∧ ∀ j, j < xs.length → x < edge xs j := by
  constructor
  · intro i j hij hj
    have := h (i + 1) (j + 1) (by omega) (by simpa using hj)
    simpa using this
  · intro j hj
    have := h 0 (j + 1) (by omega) (by simpa using hj)
    simpa using this

theorem Sorted.le {e : List K} (h : Sorted e) {i j : Nat} (hij : i ≤ j) (hj : j < e.length) :
    edge e i ≤ edge e j := by
  rcases Nat.eq_or_lt_of_le hij with rfl | hlt
  · exact le_rfl
  · exact le_of_lt (h i j hlt hj)

theorem Sorted.pairwise {e : List K} (hs : Sorted e) : e.Pairwise (· < ·) := by
  rw [List.pairwise_iff_getElem]
  intro i j hi hj hij
  simpa [edge, hi, hj] using hs i j hij hj

/-- the constructor's check implies `Sorted` -/
theorem sorted_of_strictlyIncreasing (e : List K) (h : strictlyIncreasing e = true) : Sorted e := by
  induction e with
  | nil => intro i j _ hj; simp at hj
  | cons a r ih =>
    cases r with
    | nil => intro i j hij hj; simp at hj; omega
    | cons b r =>
      simp only [strictlyIncreasing, Bool.and_eq_true, decide_eq_true_eq] at h
      have ihs := ih h.2
      intro i j hij hj
      cases j with
      | zero => omega
      | succ j =>
        have hj' : j < (b :: r).length := by simpa using hj
        have hbj : b ≤ edge (b :: r) j := by
          have := Sorted.le ihs (Nat.zero_le j) hj'
          simpa using this
        cases i with
        | zero => simpa using lt_of_lt_of_le h.1 hbj
        | succ i => simpa using ihs i j (by omega) hj'

theorem sorted_of_validEdges (e : List K) (h : validEdges e = true) : Sorted e ∧ 2 ≤ e.length := by
  simp only [validEdges, Bool.and_eq_true, decide_eq_true_eq] at h
  exact ⟨sorted_of_strictlyIncreasing e h.2, h.1⟩

/-! ### counting search (`np.searchsorted` on sorted input) -/

/-- On a list along which `p` can only switch from true to false, the entries satisfying `p` are exactly
the first `(l.filter p).length` ones. -/
theorem lt_length_filter_iff (p : K → Bool) : ∀ (l : List K), l.Pairwise (fun a b => p b = true → p a = true) →
    ∀ j, j < l.length → (j < (l.filter p).length ↔ p (l.getD j 0) = true)
  | [], _, j, hj => absurd hj (Nat.not_lt_zero j)
  | x :: xs, h, j, hj => by
    obtain ⟨hx, hxs⟩ := List.pairwise_cons.mp h
    by_cases hpx : p x = true
    · rw [List.filter_cons_of_pos hpx]
      cases j with
      | zero => simpa using hpx
      | succ j => simpa using lt_length_filter_iff p xs hxs j (Nat.lt_of_succ_lt_succ hj)
    · have hnone : ∀ b ∈ xs, ¬p b = true := fun b hb hpb => hpx (hx b hb hpb)
      rw [List.filter_cons_of_neg hpx, List.filter_eq_nil_iff.mpr hnone]
      cases j with
      | zero => simpa using hpx
      | succ j =>
        have hj' := Nat.lt_of_succ_lt_succ hj
        have hmem : xs.getD j 0 ∈ xs := getD_of_lt xs hj' ▸ List.getElem_mem hj'
        simpa using hnone _ hmem

theorem countLE_spec (e : List K) (hs : Sorted e) (c : K) :
    countLE e c ≤ e.length ∧ ∀ j, j < e.length → (j < countLE e c ↔ edge e j ≤ c) := by
  have hp : e.Pairwise fun a b => (!decide (c < b)) = true → (!decide (c < a)) = true :=
    hs.pairwise.imp fun {a b} hab hb => by
      simp only [Bool.not_eq_true', decide_eq_false_iff_not, not_lt] at hb ⊢
      exact hab.le.trans hb
  exact ⟨List.length_filter_le _ e, fun j hj => by rw [countLE, lt_length_filter_iff _ e hp j hj, edge]; simp⟩

theorem countLT_spec (e : List K) (hs : Sorted e) (c : K) :
    countLT e c ≤ e.length ∧ ∀ j, j < e.length → (j < countLT e c ↔ edge e j < c) := by
  have hp : e.Pairwise fun a b => decide (b < c) = true → decide (a < c) = true :=
    hs.pairwise.imp fun {a b} hab hb => by
      simp only [decide_eq_true_eq] at hb ⊢
      exact hab.trans hb
  exact ⟨List.length_filter_le _ e, fun j hj => by rw [countLT, lt_length_filter_iff _ e hp j hj, edge]; simp⟩

theorem eq_of_lt_iff {n len k : Nat} {P : Nat → Prop} (hn : n ≤ len) (h : ∀ j, j < len → (j < n ↔ P j))
    (hk : k ≤ len) (h1 : ∀ j, j < k → P j) (h2 : k < len → ¬P k) : n = k := by
  rcases Nat.lt_trichotomy n k with hlt | heq | hgt
  · exact absurd ((h n (hlt.trans_le hk)).mpr (h1 n hlt)) (lt_irrefl n)
  · exact heq
  · exact absurd ((h k (hgt.trans_le hn)).mp hgt) (h2 (hgt.trans_le hn))

theorem countLE_eq {e : List K} (hs : Sorted e) {c : K} {k : Nat} (hk : k ≤ e.length)
    (h1 : ∀ j, j < k → edge e j ≤ c) (h2 : k < e.length → c < edge e k) : countLE e c = k :=
  eq_of_lt_iff (countLE_spec e hs c).1 (countLE_spec e hs c).2 hk h1 fun hk' => not_le.mpr (h2 hk')

theorem countLT_eq {e : List K} (hs : Sorted e) {c : K} {k : Nat} (hk : k ≤ e.length)
    (h1 : ∀ j, j < k → edge e j < c) (h2 : k < e.length → c ≤ edge e k) : countLT e c = k :=
  eq_of_lt_iff (countLT_spec e hs c).1 (countLT_spec e hs c).2 hk h1 fun hk' => not_lt.mpr (h2 hk')

/-! ### `minList`, `maxAbs` -/

theorem foldl_min_spec (xs : List K) : ∀ m : K,
    let r := xs.foldl (fun m y => if y < m then y else m) m
    r ≤ m ∧ (∀ x ∈ xs, r ≤ x) ∧ (r = m ∨ r ∈ xs) := by
  induction xs with
  | nil => intro m; simp
  | cons y ys ih =>
    intro m
    simp only [List.foldl_cons, List.mem_cons, forall_eq_or_imp]
    obtain ⟨h1, h2, h3⟩ := ih (if y < m then y else m)
    -- one step of the fold returns the smaller of `m` and `y`
    have hstep : (if y < m then y else m) ≤ m ∧ (if y < m then y else m) ≤ y ∧
        ((if y < m then y else m) = m ∨ (if y < m then y else m) = y) := by
      split_ifs with h
      exacts [⟨h.le, le_rfl, Or.inr rfl⟩, ⟨le_rfl, not_lt.mp h, Or.inl rfl⟩]
    refine ⟨h1.trans hstep.1, ⟨h1.trans hstep.2.1, h2⟩, h3.elim (fun h => ?_) fun h => Or.inr (Or.inr h)⟩
    rw [h]; exact hstep.2.2.imp_right Or.inl

theorem minList_le (l : List K) (x : K) (hx : x ∈ l) : minList l ≤ x := by
  cases l with
  | nil => simp at hx
  | cons a r =>
    obtain ⟨h1, h2, _⟩ := foldl_min_spec r a
    rcases List.mem_cons.mp hx with rfl | hx
    · exact h1
    · exact h2 x hx

theorem minList_mem (l : List K) (hl : l ≠ []) : minList l ∈ l := by
  cases l with
  | nil => exact absurd rfl hl
  | cons a r =>
    obtain ⟨_, _, h3⟩ := foldl_min_spec r a
    rcases h3 with h3 | h3
    · show List.foldl _ a r ∈ _
      rw [h3]; exact List.mem_cons_self
    · exact List.mem_cons_of_mem _ h3

theorem foldl_maxAbs_le_iff (xs : List K) : ∀ (m b : K),
    xs.foldl (fun m x => if m < absv x then absv x else m) m ≤ b ↔ m ≤ b ∧ ∀ x ∈ xs, |x| ≤ b := by
  induction xs with
  | nil => intro m b; simp
  | cons y ys ih =>
    intro m b
    rw [List.foldl_cons, ih]
    simp only [absv_eq_abs, List.mem_cons, forall_eq_or_imp]
    constructor
    · rintro ⟨h1, h2⟩
      split_ifs at h1 with hy
      · exact ⟨le_trans (le_of_lt hy) h1, h1, h2⟩
      · exact ⟨h1, le_trans (not_lt.mp hy) h1, h2⟩
    · rintro ⟨h1, h2, h3⟩
      refine ⟨?_, h3⟩
      split_ifs <;> assumption

theorem maxAbs_le_iff (l : List K) (b : K) : maxAbs l ≤ b ↔ 0 ≤ b ∧ ∀ x ∈ l, |x| ≤ b :=
  foldl_maxAbs_le_iff l 0 b

theorem maxAbs_nonneg (l : List K) : 0 ≤ maxAbs l := ((maxAbs_le_iff l (maxAbs l)).mp le_rfl).1

theorem abs_le_maxAbs (l : List K) (x : K) (hx : x ∈ l) : |x| ≤ maxAbs l :=
  ((maxAbs_le_iff l (maxAbs l)).mp le_rfl).2 x hx

end Fdtdx.C37
