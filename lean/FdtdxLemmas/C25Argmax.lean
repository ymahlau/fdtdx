/- C25 helper lemmas: `argmax` of `where(mask, values, -inf)` returns a real value exactly when the mask holds somewhere,
and then an index at which it holds; hence the touch selected in cases 2/3 is a masked one. -/
import FdtdxLemmas.C25Basic

namespace Fdtdx.C25

section argmax
variable {α : Type} [LT α] [DecidableRel (α := α) (· < ·)]

theorem gtOpt_some {y best : Option α} (h : gtOpt y best = true) : ∃ a, y = some a := by
  cases y with
  | none => simp [gtOpt] at h
  | some a => exact ⟨a, rfl⟩

/-- invariant of the scan: `best` is the entry at `bi` of the prefix `pre` read so far, and it is `-inf` only if the
whole prefix is -/
theorem go_spec : ∀ (ys pre : List (Option α)) (best : Option α) (bi : Nat),
    pre[bi]? = some best → (best = none → ∀ e ∈ pre, e = none) →
    (pre ++ ys)[(argmaxOpt.go best bi pre.length ys).1]? = some (argmaxOpt.go best bi pre.length ys).2 ∧
      ((argmaxOpt.go best bi pre.length ys).2 = none → ∀ e ∈ pre ++ ys, e = none) := by
  intro ys
  induction ys with
  | nil =>
    intro pre best bi h1 h2
    simp only [argmaxOpt.go, List.append_nil]
    exact ⟨h1, h2⟩
  | cons y ys ih =>
    intro pre best bi h1 h2
    have hlen : (pre ++ [y]).length = pre.length + 1 := by simp
    have happ : pre ++ y :: ys = (pre ++ [y]) ++ ys := by simp
    have hbi : bi < pre.length := (List.getElem?_eq_some_iff.mp h1).1
    simp only [argmaxOpt.go]
    by_cases hy : gtOpt y best = true
    · rw [if_pos hy, happ, ← hlen]
      apply ih (pre ++ [y]) y pre.length
      · simp
      · obtain ⟨a, rfl⟩ := gtOpt_some hy
        exact fun hn => nomatch hn
    · rw [if_neg hy, happ, ← hlen]
      apply ih (pre ++ [y]) best bi
      · rw [List.getElem?_append_left hbi]; exact h1
      · intro hn e he
        simp only [List.mem_append, List.mem_singleton] at he
        rcases he with he | rfl
        · exact h2 hn e he
        · subst hn
          cases e with
          | none => rfl
          | some a => simp [gtOpt] at hy

/-- `argmax`/`max` of a list of values-or-`-inf`: a real maximum sits at the returned index, and the maximum is `-inf`
only if every entry is -/
theorem argmaxOpt_spec (l : List (Option α)) :
    (∀ a, (argmaxOpt l).2 = some a → l[(argmaxOpt l).1]? = some (some a)) ∧
      ((argmaxOpt l).2 = none → ∀ e ∈ l, e = none) := by
  cases l with
  | nil => exact ⟨fun a h => (nomatch h), fun _ e he => (nomatch he)⟩
  | cons x xs =>
    have h := go_spec xs [x] x 0 rfl (by intro h e he; rw [List.mem_singleton.mp he, h])
    exact ⟨fun a ha => ha ▸ h.1, h.2⟩

end argmax

/-! ### the flattened, masked value array -/

theorem flat_getElem {β : Type} (w : Nat) (f : Nat → Nat → β) : ∀ (h idx : Nat) (x : β),
    ((List.range h).flatMap fun i => (List.range w).map fun j => f i j)[idx]? = some x →
    ∃ i j, i < h ∧ j < w ∧ idx = i * w + j ∧ x = f i j := by
  intro h
  induction h with
  | zero => intro idx x hx; simp at hx
  | succ h ih =>
    intro idx x hx
    rw [List.range_succ, List.flatMap_append] at hx
    have hlen : ((List.range h).flatMap fun i => (List.range w).map fun j => f i j).length = h * w := by
      simp only [List.length_flatMap, List.length_map, List.length_range, List.map_const', List.sum_replicate_nat]
    rcases Nat.lt_or_ge idx (h * w) with hlt | hge
    · rw [List.getElem?_append_left (by rw [hlen]; exact hlt)] at hx
      obtain ⟨i, j, hi, hj, he, hxx⟩ := ih idx x hx
      exact ⟨i, j, by omega, hj, he, hxx⟩
    · rw [List.getElem?_append_right (by rw [hlen]; exact hge), hlen] at hx
      simp only [List.flatMap_cons, List.flatMap_nil, List.append_nil] at hx
      obtain ⟨hj, hxx⟩ := List.getElem?_eq_some_iff.mp hx
      rw [List.length_map, List.length_range] at hj
      rw [List.getElem_map, List.getElem_range] at hxx
      exact ⟨h, idx - h * w, by omega, hj, by omega, hxx.symm⟩

section best
variable {α : Type} [LT α] [DecidableRel (α := α) (· < ·)]

theorem argmax_some (d : Dims) (mask : Tab) (vals : Nat → α) {a : α} (h : (argmaxOpt (masked d mask vals)).2 = some a) :
    ∃ i j, inb d i j = true ∧ (argmaxOpt (masked d mask vals)).1 = i * d.w + j ∧ look mask i j = true := by
  obtain ⟨i, j, hi, hj, hidx, hx⟩ := flat_getElem d.w _ d.h _ _ ((argmaxOpt_spec _).1 a h)
  refine ⟨i, j, (inb_iff d i j).mpr ⟨hi, hj⟩, hidx, ?_⟩
  by_contra hm
  rw [if_neg hm] at hx
  exact nomatch hx

theorem argmax_none (d : Dims) (mask : Tab) (vals : Nat → α) (h : (argmaxOpt (masked d mask vals)).2 = none) {i j : Nat} (hin : inb d i j = true) :
    look mask i j = false := by
  obtain ⟨hi, hj⟩ := (inb_iff d i j).mp hin
  have := (argmaxOpt_spec _).2 h (if look mask i j then some (vals (i * d.w + j)) else none)
    (List.mem_flatMap.mpr ⟨i, List.mem_range.mpr hi, List.mem_map.mpr ⟨j, List.mem_range.mpr hj, rfl⟩⟩)
  by_contra hm
  rw [if_pos (by simpa using hm)] at this
  exact nomatch this

theorem best_eq (d : Dims) (neg : α → α) (arr : Nat → α) (mS mV : Tab) (c : Nat) :
    best d neg arr mS mV c =
      if gtOpt (argmaxOpt (masked d mS arr)).2 (argmaxOpt (masked d mV fun n => neg (arr n))).2
      then .single true (argmaxOpt (masked d mS arr)).1 c
      else .single false (argmaxOpt (masked d mV fun n => neg (arr n))).1 c := rfl

/-- `select_best_*_touch`: if one of the two masks holds somewhere, the touch selected lies in the mask of its polarity -/
theorem best_spec (d : Dims) (neg : α → α) (arr : Nat → α) (mS mV : Tab) (c : Nat)
    (hex : ∃ i j, inb d i j = true ∧ (look mS i j = true ∨ look mV i j = true)) :
    (∃ i j, inb d i j = true ∧ look mS i j = true ∧ best d neg arr mS mV c = .single true (i * d.w + j) c) ∨
    (∃ i j, inb d i j = true ∧ look mV i j = true ∧ best d neg arr mS mV c = .single false (i * d.w + j) c) := by
  rw [best_eq]
  split
  next hg =>
    obtain ⟨a, ha⟩ := gtOpt_some hg
    obtain ⟨i, j, hin, hidx, hm⟩ := argmax_some d mS arr ha
    exact Or.inl ⟨i, j, hin, hm, by rw [hidx]⟩
  next hg =>
    cases hv : (argmaxOpt (masked d mV fun n => neg (arr n))).2 with
    | some a =>
      obtain ⟨i, j, hin, hidx, hm⟩ := argmax_some d mV _ hv
      exact Or.inr ⟨i, j, hin, hm, by rw [hidx]⟩
    | none =>
      -- both maxima are `-inf` (a real solid maximum would have won), so neither mask holds anywhere
      have hS : (argmaxOpt (masked d mS arr)).2 = none := by
        cases hs : (argmaxOpt (masked d mS arr)).2 with
        | none => rfl
        | some a => rw [hs, hv] at hg; exact absurd rfl hg
      obtain ⟨i, j, hin, hm | hm⟩ := hex
      · rw [argmax_none d mS arr hS hin] at hm; exact nomatch hm
      · rw [argmax_none d mV _ hv hin] at hm; exact nomatch hm

end best

end Fdtdx.C25
