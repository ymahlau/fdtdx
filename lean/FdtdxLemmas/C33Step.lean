/-
C33 helper lemmas, second layer.  Symmetry plane normal to x, at the min edge of cell `m` of a domain with `2m` cells
along x.  Each half step is a curl followed by a pointwise material update (`stepE` unfolds to `Cpml.updEwith` at
`curlH`, `stepH` to `Cpml.updHwith` at `curlE`), and both parts are followed separately, twice:
  * REDUCED configuration vs the upper half of the FULL one (`AgreeAt`, `AgreeFrom`): the curls read the neighbouring layer
    (`curlH_agree`, `curlE_agree`), the updates are pointwise (`updE_agree`, `updH_agree`); on the plane layer the
    symmetry wall zeroes what is zero anyway (`stepE_agree_plane`);
  * FULL configuration vs its own mirror image in a window around the plane (`SymE`, `SymH`): curl H of an H-type
    field is E-type (`curlH_sym`), curl E of an E-type field is H-type one pair further in, or on all pairs when the far
    faces are a mirror pair (`curlE_sym`); the updates keep the type (`updE_sym`, `updH_sym`).
-/
import FdtdxLemmas.C33
namespace Fdtdx.C33
open Fdtdx Fdtdx.Yee

section
variable {K : Type} [Field K]

/-- the reduced configuration: the full one with free data on the halved x axis -/
def redCfg (cf : Cfg K) (m : Nat) (b : AxisBC K) (sf sb : Nat → K) : Cfg K :=
  { cf with nx := m, bx := b, sfx := sf, sbx := sb }

/-- what the reduction must satisfy (met by `reduceCfg 0`, see `reduceCfg_ok`) -/
structure RedOK (cf : Cfg K) (m : Nat) (b : AxisBC K) (sf sb : Nat → K) : Prop where
  hm : 0 < m
  hn : cf.nx = 2 * m
  far : cf.bx.wrap = false
  wrap : b.wrap = false
  pecLo : b.pecLo = true
  pecHi : b.pecHi = cf.bx.pecHi
  pmcLo : b.pmcLo = false
  pmcHi : b.pmcHi = cf.bx.pmcHi
  sf : ∀ i, sf i = cf.sfx (m + i)
  sb : ∀ i, 0 < i → sb i = cf.sbx (m + i)

/-- reduced array `Vr` and full array `Vf` agree on the x-layer `i` of the reduced domain (= layer `m+i`) -/
def AgreeAt (m i : Nat) (Vr Vf : V3 K) : Prop :=
  ∀ j k, Vr.x i j k = Vf.x (m + i) j k ∧ Vr.y i j k = Vf.y (m + i) j k ∧ Vr.z i j k = Vf.z (m + i) j k

theorem AgreeAt.x {m i : Nat} {Vr Vf : V3 K} (h : AgreeAt m i Vr Vf) (j k : Nat) : Vr.x i j k = Vf.x (m + i) j k :=
  (h j k).1
theorem AgreeAt.y {m i : Nat} {Vr Vf : V3 K} (h : AgreeAt m i Vr Vf) (j k : Nat) : Vr.y i j k = Vf.y (m + i) j k :=
  (h j k).2.1
theorem AgreeAt.z {m i : Nat} {Vr Vf : V3 K} (h : AgreeAt m i Vr Vf) (j k : Nat) : Vr.z i j k = Vf.z (m + i) j k :=
  (h j k).2.2

theorem optAt_upper (s : Option (V3 K)) (p : V3 K → F3 K) (m i j k : Nat)
    (hp : ∀ v, p (upperV 0 m v) i j k = p v (m + i) j k := by intro; rfl) :
    optAt ((s.map (upperV 0 m)).map p) i j k = optAt (s.map p) (m + i) j k := by
  cases s with
  | none => rfl
  | some v => exact congrArg some (hp v)

variable {cf : Cfg K} {m : Nat} {b : AxisBC K} {sf sb : Nat → K}

theorem pecMask_red (h : RedOK cf m b sf sb) (comp i j k : Nat) (hi : 0 < i) :
    pecMask (redCfg cf m b sf sb) comp i j k = pecMask cf comp (m + i) j k := by
  simp only [pecMask, redCfg, h.hn, h.pecLo, h.pecHi]
  rw [onWall_upper true cf.bx.pecHi cf.bx.pecLo m i (by omega) (Or.inr hi)]

theorem pmcMask_red (h : RedOK cf m b sf sb) (comp i j k : Nat) :
    pmcMask (redCfg cf m b sf sb) comp i j k = pmcMask cf comp (m + i) j k := by
  simp only [pmcMask, redCfg, h.hn, h.pmcLo, h.pmcHi]
  rw [onWall_upper false cf.bx.pmcHi cf.bx.pmcLo m i (by have := h.hm; omega) (Or.inl rfl)]

theorem pecMask_lo {cf : Cfg K} (h : cf.bx.pecLo = true) (comp j k : Nat) (hc : comp ≠ 0) :
    pecMask cf comp 0 j k = true := by
  simp [pecMask, onWall, h, hc]

/-- curl H on an interior layer `0 < i` reads H on the layers `i` and `i - 1` only -/
theorem curlH_agree (h : RedOK cf m b sf sb) {Hr H : V3 K} {i : Nat} (hi0 : 0 < i) (hH : AgreeAt m i Hr H)
    (hHp : AgreeAt m (i - 1) Hr H) : AgreeAt m i (curlH (redCfg cf m b sf sb) Hr) (curlH cf H) := by
  intro j k
  have py : prev1 m b (fun i' => Hr.y i' j k) i = prev1 cf.nx cf.bx (fun i' => H.y i' j k) (m + i) :=
    prev1_shift hi0 (hHp.y j k)
  have pz : prev1 m b (fun i' => Hr.z i' j k) i = prev1 cf.nx cf.bx (fun i' => H.z i' j k) (m + i) :=
    prev1_shift hi0 (hHp.z j k)
  refine ⟨?_, ?_, ?_⟩ <;> simp only [curlH, redCfg, hH.x, hH.y, hH.z, py, pz, h.sb i hi0]

/-- curl E on a layer `i < m` reads E on the layers `i` and `i + 1` (zero right ghost in both domains at the far
end) -/
theorem curlE_agree (h : RedOK cf m b sf sb) {Er E : V3 K} {i : Nat} (hi : i < m) (hE : AgreeAt m i Er E)
    (hEn : i + 1 < m → AgreeAt m (i + 1) Er E) : AgreeAt m i (curlE (redCfg cf m b sf sb) Er) (curlE cf E) := by
  intro j k
  have ny : next1 m b (fun i' => Er.y i' j k) i = next1 cf.nx cf.bx (fun i' => E.y i' j k) (m + i) :=
    next1_shift hi h.hn h.wrap h.far fun hl => (hEn hl).y j k
  have nz : next1 m b (fun i' => Er.z i' j k) i = next1 cf.nx cf.bx (fun i' => E.z i' j k) (m + i) :=
    next1_shift hi h.hn h.wrap h.far fun hl => (hEn hl).z j k
  refine ⟨?_, ?_, ?_⟩ <;> simp only [curlE, redCfg, hE.x, hE.y, hE.z, ny, nz, h.sf i]

section upd
variable (mt : Mat K) (J : V3 K) {Fr F cur cu : V3 K} {i : Nat}

/-- the normal E component of the reduced domain is never masked by the symmetry wall -/
theorem updE_agree_x (j k : Nat) (hF : Fr.x i j k = F.x (m + i) j k) (hc : cur.x i j k = cu.x (m + i) j k) :
    (Cpml.updEwith (redCfg cf m b sf sb) (upperMat 0 m mt) (upperV 0 m J) cur Fr).x i j k
      = (Cpml.updEwith cf mt J cu F).x (m + i) j k :=
  cell_congr (updE1 cf.c cf.eta0) (by simp [pecMask, redCfg]) hF hc rfl (optAt_upper mt.sigE (·.x) m i j k) rfl

theorem updE_agree (h : RedOK cf m b sf sb) (hi0 : 0 < i) (hF : AgreeAt m i Fr F) (hc : AgreeAt m i cur cu) :
    AgreeAt m i (Cpml.updEwith (redCfg cf m b sf sb) (upperMat 0 m mt) (upperV 0 m J) cur Fr)
      (Cpml.updEwith cf mt J cu F) := by
  intro j k
  exact ⟨updE_agree_x mt J j k (hF.x j k) (hc.x j k),
    cell_congr (updE1 cf.c cf.eta0) (pecMask_red h 1 i j k hi0) (hF.y j k) (hc.y j k) rfl
      (optAt_upper mt.sigE (·.y) m i j k) rfl,
    cell_congr (updE1 cf.c cf.eta0) (pecMask_red h 2 i j k hi0) (hF.z j k) (hc.z j k) rfl
      (optAt_upper mt.sigE (·.z) m i j k) rfl⟩

theorem updH_agree (h : RedOK cf m b sf sb) (hF : AgreeAt m i Fr F) (hc : AgreeAt m i cur cu) :
    AgreeAt m i (Cpml.updHwith (redCfg cf m b sf sb) (upperMat 0 m mt) (upperV 0 m J) cur Fr)
      (Cpml.updHwith cf mt J cu F) := fun j k =>
  ⟨cell_congr (updH1 cf.c cf.eta0) (pmcMask_red h 0 i j k) (hF.x j k) (hc.x j k) rfl
      (optAt_upper mt.sigH (·.x) m i j k) rfl,
   cell_congr (updH1 cf.c cf.eta0) (pmcMask_red h 1 i j k) (hF.y j k) (hc.y j k) rfl
      (optAt_upper mt.sigH (·.y) m i j k) rfl,
   cell_congr (updH1 cf.c cf.eta0) (pmcMask_red h 2 i j k) (hF.z j k) (hc.z j k) rfl
      (optAt_upper mt.sigH (·.z) m i j k) rfl⟩

end upd

/-- what the full state must satisfy ON the plane for the PEC wall of the reduced domain to be exact -/
structure PlaneInv (m : Nat) (E H jE : V3 K) : Prop where
  ey : ∀ j k, E.y m j k = 0
  ez : ∀ j k, E.z m j k = 0
  hx : ∀ j k, H.x m j k = 0
  hy : ∀ j k, H.y m j k = H.y (m - 1) j k
  hz : ∀ j k, H.z m j k = H.z (m - 1) j k
  jy : ∀ j k, jE.y m j k = 0
  jz : ∀ j k, jE.z m j k = 0

/-- on the plane the tangential components of curl H vanish: no normal H there, equal tangential H on both sides -/
theorem curlH_plane_zero (hm : 0 < m) {H : V3 K} (hx : ∀ j k, H.x m j k = 0)
    (hy : ∀ j k, H.y m j k = H.y (m - 1) j k) (hz : ∀ j k, H.z m j k = H.z (m - 1) j k) (j k : Nat) :
    (curlH cf H).y m j k = 0 ∧ (curlH cf H).z m j k = 0 := by
  constructor <;> simp only [curlH, hx, prev1_zero, prev1_pos hm, ← hy, ← hz, sub_self, zero_mul]

/-- E half step on the plane layer `i = 0`: the wall of the reduced domain zeroes what is zero anyway -/
theorem stepE_agree_plane (h : RedOK cf m b sf sb) (mt : Mat K) (jE : V3 K) {Er Hr E H : V3 K}
    (p : PlaneInv m E H jE) (hE : AgreeAt m 0 Er E) (hH : AgreeAt m 0 Hr H) :
    AgreeAt m 0 (stepE (redCfg cf m b sf sb) (upperMat 0 m mt) (upperV 0 m jE) Er Hr) (stepE cf mt jE E H) := by
  intro j k
  obtain ⟨cy, cz⟩ := curlH_plane_zero (cf := cf) h.hm p.hx p.hy p.hz j k
  -- tangential E of the full domain stays zero on the plane
  exact ⟨updE_agree_x mt jE j k (hE.x j k) (by simp only [curlH, redCfg, hH.y, hH.z]),
    (if_pos (pecMask_lo h.pecLo 1 j k (by decide))).trans
      (cell_zero (updE1 cf.c cf.eta0) (updE1_zero _ _) (p.ey j k) cy (p.jy j k)).symm,
    (if_pos (pecMask_lo h.pecLo 2 j k (by decide))).trans
      (cell_zero (updE1 cf.c cf.eta0) (updE1_zero _ _) (p.ez j k) cz (p.jz j k)).symm⟩

/-- reduced and full arrays agree on the layers `s ≤ i < m` of the reduced domain -/
def AgreeFrom (m s : Nat) (Vr Vf : V3 K) : Prop := ∀ i, s ≤ i → i < m → AgreeAt m i Vr Vf

/-- the E half step off the plane layer loses the lowest layer of a range: it reads H one layer further down -/
theorem stepE_agreeFrom (h : RedOK cf m b sf sb) (mt : Mat K) (jE : V3 K) {Er Hr E H : V3 K} {s : Nat}
    (hE : AgreeFrom m s Er E) (hH : AgreeFrom m s Hr H) :
    AgreeFrom m (s + 1) (stepE (redCfg cf m b sf sb) (upperMat 0 m mt) (upperV 0 m jE) Er Hr) (stepE cf mt jE E H) :=
  fun i hs hi =>
    have h0 : 0 < i := Nat.lt_of_lt_of_le s.succ_pos hs
    updE_agree mt jE h h0 (hE i (Nat.le_of_succ_le hs) hi)
      (curlH_agree h h0 (hH i (Nat.le_of_succ_le hs) hi)
        (hH (i - 1) (Nat.le_sub_one_of_lt hs) ((Nat.sub_le i 1).trans_lt hi)))

theorem stepH_agreeFrom (h : RedOK cf m b sf sb) (mt : Mat K) (jH : V3 K) {Er Hr E H : V3 K} {s : Nat}
    (hE : AgreeFrom m s Er E) (hH : AgreeFrom m s Hr H) :
    AgreeFrom m s (stepH (redCfg cf m b sf sb) (upperMat 0 m mt) (upperV 0 m jH) Er Hr) (stepH cf mt jH E H) :=
  fun i hs hi => updH_agree mt jH h (hH i hs hi)
    (curlE_agree h hi (hE i hs hi) fun hl => hE (i + 1) (Nat.le_succ_of_le hs) hl)

/-! ### parity symmetry of the full-domain state in a window of radius `r` around the plane -/

/-- PEC-mirror parity of an E-type field about the plane at the min edge of cell `m`: the normal component (sampled
half a cell off the plane) is even, `m+d ↔ m-1-d`; the tangential ones (sampled on the plane) are odd, `m+d ↔ m-d`,
and vanish on the plane.  Only pairs with `d < r` are constrained. -/
structure SymE (m r : Nat) (E : V3 K) : Prop where
  x : ∀ d j k, d < r → E.x (m + d) j k = E.x (m - 1 - d) j k
  y : ∀ d j k, d < r → E.y (m + d) j k = - E.y (m - d) j k
  z : ∀ d j k, d < r → E.z (m + d) j k = - E.z (m - d) j k
  y0 : ∀ j k, 0 < r → E.y m j k = 0
  z0 : ∀ j k, 0 < r → E.z m j k = 0

/-- the same for an H-type field: normal component odd and on the plane, tangential ones even and half a cell off -/
structure SymH (m r : Nat) (H : V3 K) : Prop where
  x : ∀ d j k, d < r → H.x (m + d) j k = - H.x (m - d) j k
  x0 : ∀ j k, 0 < r → H.x m j k = 0
  y : ∀ d j k, d < r → H.y (m + d) j k = H.y (m - 1 - d) j k
  z : ∀ d j k, d < r → H.z (m + d) j k = H.z (m - 1 - d) j k

theorem SymE.mono {m r r' : Nat} {E : V3 K} (h : SymE m r E) (hr : r' ≤ r) : SymE m r' E :=
  ⟨fun d j k hd => h.x d j k (hd.trans_le hr), fun d j k hd => h.y d j k (hd.trans_le hr),
   fun d j k hd => h.z d j k (hd.trans_le hr), fun j k h0 => h.y0 j k (h0.trans_le hr),
   fun j k h0 => h.z0 j k (h0.trans_le hr)⟩

theorem SymH.mono {m r r' : Nat} {H : V3 K} (h : SymH m r H) (hr : r' ≤ r) : SymH m r' H :=
  ⟨fun d j k hd => h.x d j k (hd.trans_le hr), fun j k h0 => h.x0 j k (h0.trans_le hr),
   fun d j k hd => h.y d j k (hd.trans_le hr), fun d j k hd => h.z d j k (hd.trans_le hr)⟩

/-- materials do not vary along the symmetry axis -/
structure XInv (mt : Mat K) : Prop where
  ex : ∀ i i' j k, mt.invEps.x i j k = mt.invEps.x i' j k
  ey : ∀ i i' j k, mt.invEps.y i j k = mt.invEps.y i' j k
  ez : ∀ i i' j k, mt.invEps.z i j k = mt.invEps.z i' j k
  mx : ∀ i i' j k, mt.invMu.x i j k = mt.invMu.x i' j k
  my : ∀ i i' j k, mt.invMu.y i j k = mt.invMu.y i' j k
  mz : ∀ i i' j k, mt.invMu.z i j k = mt.invMu.z i' j k
  sEx : ∀ v, mt.sigE = some v → ∀ i i' j k, v.x i j k = v.x i' j k
  sEy : ∀ v, mt.sigE = some v → ∀ i i' j k, v.y i j k = v.y i' j k
  sEz : ∀ v, mt.sigE = some v → ∀ i i' j k, v.z i j k = v.z i' j k
  sHx : ∀ v, mt.sigH = some v → ∀ i i' j k, v.x i j k = v.x i' j k
  sHy : ∀ v, mt.sigH = some v → ∀ i i' j k, v.y i j k = v.y i' j k
  sHz : ∀ v, mt.sigH = some v → ∀ i i' j k, v.z i j k = v.z i' j k

theorem optAt_const (s : Option (V3 K)) (p : V3 K → F3 K)
    (hs : ∀ v, s = some v → ∀ i i' j k, p v i j k = p v i' j k) (i i' j k : Nat) :
    optAt (s.map p) i j k = optAt (s.map p) i' j k := by
  cases s with
  | none => rfl
  | some v => simp [optAt, hs v rfl i i' j k]

/-- the metric is mirror symmetric in the window (always true on a uniform grid) -/
structure MetricSym (cf : Cfg K) (m r : Nat) : Prop where
  sf : ∀ d, d < r → cf.sfx (m + d) = cf.sfx (m - 1 - d)
  sb : ∀ d, 0 < d → d < r → cf.sbx (m + d) = cf.sbx (m - d)

theorem MetricSym.mono {m r r' : Nat} (h : MetricSym cf m r) (hr : r' ≤ r) : MetricSym cf m r' :=
  ⟨fun d hd => h.sf d (hd.trans_le hr), fun d h0 hd => h.sb d h0 (hd.trans_le hr)⟩

section mirror
variable {r : Nat} {mt : Mat K} {E H cu : V3 K}

theorem planeInv_of_sym (h0 : 0 < r) {jE : V3 K} (sE : SymE m r E) (sH : SymH m r H)
    (sJ : SymE m r jE) : PlaneInv m E H jE :=
  ⟨fun j k => sE.y0 j k h0, fun j k => sE.z0 j k h0, fun j k => sH.x0 j k h0,
   fun j k => sH.y 0 j k h0, fun j k => sH.z 0 j k h0,
   fun j k => sJ.y0 j k h0, fun j k => sJ.z0 j k h0⟩

theorem curlH_sym (hr : r ≤ m) (hmet : MetricSym cf m r) (sH : SymH m r H) : SymE m r (curlH cf H) := by
  have zero : ∀ j k, 0 < r → (curlH cf H).y m j k = 0 ∧ (curlH cf H).z m j k = 0 := fun j k h0 =>
    curlH_plane_zero (by omega) (fun j k => sH.x0 j k h0) (fun j k => sH.y 0 j k h0)
      (fun j k => sH.z 0 j k h0) j k
  have odd : ∀ d j k, d + 1 < r → (curlH cf H).y (m + (d + 1)) j k = -(curlH cf H).y (m - (d + 1)) j k ∧
      (curlH cf H).z (m + (d + 1)) j k = -(curlH cf H).z (m - (d + 1)) j k := by
    intro d j k hd
    have hx : ∀ j k, H.x (m + (d + 1)) j k = - H.x (m - (d + 1)) j k := fun j k => sH.x _ j k hd
    have hy := prev1_diff_mirror cf.nx cf.bx (fun i => H.y i j k) hr (fun d hd => sH.y d j k hd) hd
    have hz := prev1_diff_mirror cf.nx cf.bx (fun i => H.z i j k) hr (fun d hd => sH.z d j k hd) hd
    constructor <;> simp only [curlH, hx, prev1_neg, hmet.sb _ d.succ_pos hd, hy, hz] <;> ring
  refine ⟨fun d j k hd => ?_, fun d j k hd => ?_, fun d j k hd => ?_, fun j k h0 => (zero j k h0).1,
    fun j k h0 => (zero j k h0).2⟩
  · have hy : ∀ j k, H.y (m + d) j k = H.y (m - 1 - d) j k := fun j k => sH.y d j k hd
    have hz : ∀ j k, H.z (m + d) j k = H.z (m - 1 - d) j k := fun j k => sH.z d j k hd
    simp only [curlH, hy, hz]
  · obtain _ | d := d
    · rw [Nat.add_zero, Nat.sub_zero, (zero j k hd).1, neg_zero]
    · exact (odd d j k hd).1
  · obtain _ | d := d
    · rw [Nat.add_zero, Nat.sub_zero, (zero j k hd).2, neg_zero]
    · exact (odd d j k hd).2

/-- the material update of the E half step keeps the E-type parity (a far PEC layer sits on the outermost pair) -/
theorem updE_sym (hn : cf.nx = 2 * m) (hr : r ≤ m) (hpec : r = m → cf.bx.pecHi = false) (hx : XInv mt)
    {jE : V3 K} (sE : SymE m r E) (sC : SymE m r cu) (sJ : SymE m r jE) : SymE m r (Cpml.updEwith cf mt jE cu E) := by
  -- wall layers of the x axis do not touch the pairs in the window
  have wall : ∀ d, d < r → ∀ comp j k, pecMask cf comp (m + d) j k = pecMask cf comp (m - d) j k := by
    intro d hd comp j k
    rw [pecMask, pecMask, hn,
      onWall_mirror_on _ _ (by omega) ((Nat.lt_or_ge (d + 1) m).imp_right fun h => hpec (by omega))]
  exact ⟨fun d j k hd => cell_congr (updE1 cf.c cf.eta0) (by simp [pecMask]) (sE.x d j k hd) (sC.x d j k hd)
      (hx.ex _ _ j k) (optAt_const mt.sigE (·.x) hx.sEx _ _ j k) (sJ.x d j k hd),
    fun d j k hd => cell_odd (updE1 cf.c cf.eta0) (updE1_neg _ _) (wall d hd 1 j k) (sE.y d j k hd) (sC.y d j k hd)
      (hx.ey _ _ j k) (optAt_const mt.sigE (·.y) hx.sEy _ _ j k) (sJ.y d j k hd),
    fun d j k hd => cell_odd (updE1 cf.c cf.eta0) (updE1_neg _ _) (wall d hd 2 j k) (sE.z d j k hd) (sC.z d j k hd)
      (hx.ez _ _ j k) (optAt_const mt.sigE (·.z) hx.sEz _ _ j k) (sJ.z d j k hd),
    fun j k h0 => cell_zero (updE1 cf.c cf.eta0) (updE1_zero _ _) (sE.y0 j k h0) (sC.y0 j k h0) (sJ.y0 j k h0),
    fun j k h0 => cell_zero (updE1 cf.c cf.eta0) (updE1_zero _ _) (sE.z0 j k h0) (sC.z0 j k h0) (sJ.z0 j k h0)⟩

/-- curl E of an E-type field is H-type.  The forward difference on the pair `d` reaches the pair `d + 1`, so a pair
of the result needs the next pair of E inside the window; the outermost pair `d = m - 1` instead needs a non-periodic
axis and tangential E = 0 on layer `0` (the mirror image of the zero right ghost). -/
theorem curlE_sym (hn : cf.nx = 2 * m) (hr : r ≤ m) (hmet : MetricSym cf m r) (sE : SymE m r E) {s : Nat}
    (hs : s ≤ r) (hout : ∀ d, d < s → d + 1 < r ∨
      d + 1 = m ∧ cf.bx.wrap = false ∧ (∀ j k, E.y 0 j k = 0) ∧ ∀ j k, E.z 0 j k = 0) :
    SymH m s (curlE cf E) := by
  have hy : ∀ d, d < r → ∀ j k, E.y (m + d) j k = - E.y (m - d) j k := fun d hd j k => sE.y d j k hd
  have hz : ∀ d, d < r → ∀ j k, E.z (m + d) j k = - E.z (m - d) j k := fun d hd j k => sE.z d j k hd
  have even : ∀ d j k, d < s → (curlE cf E).y (m + d) j k = (curlE cf E).y (m - 1 - d) j k ∧
      (curlE cf E).z (m + d) j k = (curlE cf E).z (m - 1 - d) j k := by
    intro d j k hd
    have hd' : d < r := by omega
    have hx : ∀ j k, E.x (m + d) j k = E.x (m - 1 - d) j k := fun j k => sE.x d j k hd'
    have ny := next1_diff_mirror cf.bx (fun i => E.y i j k) hr (fun d hd => sE.y d j k hd) hd'
      ((hout d hd).imp_right fun h => ⟨h.1, h.2.1, h.2.2.1 j k⟩)
    have nz := next1_diff_mirror cf.bx (fun i => E.z i j k) hr (fun d hd => sE.z d j k hd) hd'
      ((hout d hd).imp_right fun h => ⟨h.1, h.2.1, h.2.2.2 j k⟩)
    constructor <;> simp only [curlE, hx, hmet.sf d hd', hn, ny, nz]
  refine ⟨fun d j k hd => ?_, fun j k h0 => ?_, fun d j k hd => (even d j k hd).1,
    fun d j k hd => (even d j k hd).2⟩
  · simp only [curlE, hy d (by omega), hz d (by omega), next1_neg]
    ring
  · simp only [curlE, sE.y0 _ _ (by omega), sE.z0 _ _ (by omega), next1_zero, sub_self, zero_mul]

/-- the material update of the H half step keeps the H-type parity; on the outermost pair (the two faces) a PMC
layer has to sit at both ends or at none -/
theorem updH_sym (hn : cf.nx = 2 * m) (hx : XInv mt) {s : Nat} (hs : s ≤ m)
    (hw : ∀ d, d < s → d + 1 < m ∨ cf.bx.pmcLo = cf.bx.pmcHi) {jH : V3 K}
    (sH : SymH m s H) (sC : SymH m s cu) (sJ : SymH m s jH) : SymH m s (Cpml.updHwith cf mt jH cu H) := by
  have wall : ∀ d, d < s → ∀ comp j k, pmcMask cf comp (m + d) j k = pmcMask cf comp (m - 1 - d) j k := by
    intro d hd comp j k
    rw [pmcMask, pmcMask, hn, onWall_mirror_off _ _ (by omega) (hw d hd)]
  exact ⟨fun d j k hd => cell_odd (updH1 cf.c cf.eta0) (updH1_neg _ _) (by simp [pmcMask]) (sH.x d j k hd)
      (sC.x d j k hd) (hx.mx _ _ j k) (optAt_const mt.sigH (·.x) hx.sHx _ _ j k) (sJ.x d j k hd),
    fun j k h0 => cell_zero (updH1 cf.c cf.eta0) (updH1_zero _ _) (sH.x0 j k h0) (sC.x0 j k h0) (sJ.x0 j k h0),
    fun d j k hd => cell_congr (updH1 cf.c cf.eta0) (wall d hd 1 j k) (sH.y d j k hd) (sC.y d j k hd)
      (hx.my _ _ j k) (optAt_const mt.sigH (·.y) hx.sHy _ _ j k) (sJ.y d j k hd),
    fun d j k hd => cell_congr (updH1 cf.c cf.eta0) (wall d hd 2 j k) (sH.z d j k hd) (sC.z d j k hd)
      (hx.mz _ _ j k) (optAt_const mt.sigH (·.z) hx.sHz _ _ j k) (sJ.z d j k hd)⟩

end mirror

/-! ### vocabulary of the property theorems -/

/-- the x faces of the full domain form a mirror-symmetric pair about the plane: the zero right ghost of the
tangential E at `2m` (an electric wall on the max edge) is matched by a PEC layer at index 0, and a PMC layer, if any,
sits at both ends -/
structure FarSym (cf : Cfg K) : Prop where
  wrap : cf.bx.wrap = false
  pecLo : cf.bx.pecLo = true
  pecHi : cf.bx.pecHi = false
  pmc : cf.bx.pmcLo = cf.bx.pmcHi

/-- `n` steps with the same additive source terms -/
def steps (cf : Cfg K) (mt : Mat K) (jE jH : V3 K) : Nat → V3 K × V3 K → V3 K × V3 K
  | 0, s => s
  | n + 1, s => forward cf mt jE jH (steps cf mt jE jH n s).1 (steps cf mt jE jH n s).2

/-- number of steps by which a far PEC layer shortens the symmetric window (its layer is the outermost pair) -/
def farDelay (cf : Cfg K) : Nat := if cf.bx.pecHi then 1 else 0

theorem farDelay_le_one (cf : Cfg K) : farDelay cf ≤ 1 := by
  unfold farDelay
  split <;> omega

theorem pecHi_of_farDelay {cf : Cfg K} (h : farDelay cf = 0) : cf.bx.pecHi = false := by
  cases hp : cf.bx.pecHi
  · rfl
  · rw [farDelay, hp] at h
    exact absurd h one_ne_zero

end
end Fdtdx.C33
