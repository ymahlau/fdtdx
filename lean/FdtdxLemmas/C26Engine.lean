/-
The set-once rule engine of `FdtdxModel/C26.lean` (atoms, groups, one pass), independent of the scalar type and
of how constraints are compiled into atoms.

States are ordered by `St.le` (known values are kept).  What an atom does on a state is described by three
equivalences (`eval_skip_iff`, `eval_same_iff`, `eval_set_iff`); what a group does by one case lemma on its first
atom (`runGroup_cons_ok`).  Every invariant of the states a group, a pass or the loop goes through is an instance
of `runGroup_inv` / `runGroups_inv`: a predicate kept by every single assignment is kept by the run.  What the two
flags of a run say is proved beside them by inductions of their own: a run below a stable state succeeds without the
error flag (`_ok`), a run that reports neither change nor error left the state alone and found every atom stable
(`_quiet`), a run that reports a change assigned an unknown slot (`_chg`).
-/
import FdtdxModel.C26
import Mathlib.Tactic.Common

namespace Fdtdx.C26

/-- `σ ≤ τ`: every value known in `σ` is known, with the same value, in `τ` -/
def St.le (σ τ : St) : Prop := ∀ v x, σ v = some x → τ v = some x

theorem St.le_refl (σ : St) : σ.le σ := fun _ _ h => h

theorem St.le_trans {a b c : St} (h1 : a.le b) (h2 : b.le c) : a.le c :=
  fun v x h => h2 v x (h1 v x h)

theorem St.le_antisymm {a b : St} (h1 : a.le b) (h2 : b.le a) : a = b := by
  funext v
  cases ha : a v with
  | some x => exact (h1 v x ha).symm
  | none =>
    cases hb : b v with
    | none => rfl
    | some y => exact ha.symm.trans (h2 v y hb)

theorem St.set_self (σ : St) (v : Var) (x : Option Int) : σ.set v x v = x := by
  simp [St.set]

theorem St.set_of_ne (σ : St) {v w : Var} (x : Option Int) (h : w ≠ v) : σ.set v x w = σ w := by
  simp [St.set, h]

theorem St.le_set {σ : St} {v : Var} (x : Int) (h : σ v = none) : σ.le (σ.set v (some x)) := by
  intro w y hw
  by_cases e : w = v
  · rw [e, h] at hw; cases hw
  · rwa [St.set_of_ne _ _ e]

theorem St.set_le {σ τ : St} {v : Var} {x : Int} (h : σ.le τ) (hv : τ v = some x) :
    (σ.set v (some x)).le τ := by
  intro w y hw
  by_cases e : w = v
  · rw [e, St.set_self] at hw; rw [e, ← hw]; exact hv
  · rw [St.set_of_ne _ _ e] at hw; exact h w y hw

/-! ### premises -/

theorem premVals_cons_eq_some {σ : St} {p : Var} {ps : List Var} {vs : List Int} :
    premVals σ (p :: ps) = some vs ↔ ∃ x xs, σ p = some x ∧ premVals σ ps = some xs ∧ vs = x :: xs := by
  rw [premVals]
  cases σ p <;> cases premVals σ ps <;> simp [eq_comm]

theorem premVals_mono {σ τ : St} (h : σ.le τ) : ∀ {ps : List Var} {vs : List Int},
    premVals σ ps = some vs → premVals τ ps = some vs
  | [], _, hv => hv
  | p :: ps, _, hv => by
    obtain ⟨x, xs, hp, hr, rfl⟩ := premVals_cons_eq_some.1 hv
    exact premVals_cons_eq_some.2 ⟨x, xs, h p x hp, premVals_mono h hr, rfl⟩

theorem premVals_isSome {σ : St} : ∀ {ps : List Var},
    (∃ vs, premVals σ ps = some vs) ↔ ∀ v ∈ ps, ∃ x, σ v = some x
  | [] => by simp [premVals]
  | p :: ps => by
    simp only [premVals_cons_eq_some, List.forall_mem_cons, ← premVals_isSome (ps := ps)]
    constructor
    · rintro ⟨_, x, xs, hp, hr, _⟩; exact ⟨⟨x, hp⟩, xs, hr⟩
    · rintro ⟨⟨x, hp⟩, xs, hr⟩; exact ⟨_, x, xs, hp, hr, rfl⟩

/-! ### one atom -/

/-- the rule is verified on `τ`: premises known, `f` defined, target equal to it -/
def Verified (a : Atom) (τ : St) : Prop :=
  ∃ vs x, premVals τ a.prem = some vs ∧ a.f vs = some x ∧ τ a.target = some x

/-- nothing to do and nothing wrong on `τ` -/
def Stable (a : Atom) (τ : St) : Prop := a.eval τ = .skip ∨ a.eval τ = .same

/-- the results of a rule that do not end its group, read off the one case tree of `Atom.eval` -/
theorem eval_iffs (a : Atom) (σ : St) :
    (a.eval σ = .skip ↔ premVals σ a.prem = none ∧ a.strict = false) ∧
    (a.eval σ = .same ↔ Verified a σ) ∧
    ∀ x, a.eval σ = .set x ↔ ∃ vs, premVals σ a.prem = some vs ∧ a.f vs = some x ∧ σ a.target = none := by
  unfold Atom.eval Verified
  split
  · cases a.strict <;> simp [*]
  · split
    · simp [*]
    · split
      · simp [*]
      · split
        · simp [*]
        · rename_i hne; simp [*, Ne.symm hne]

theorem eval_skip_iff {a : Atom} {σ : St} :
    a.eval σ = .skip ↔ premVals σ a.prem = none ∧ a.strict = false :=
  (eval_iffs a σ).1

theorem eval_same_iff {a : Atom} {τ : St} : a.eval τ = .same ↔ Verified a τ :=
  (eval_iffs a τ).2.1

theorem eval_set_iff {a : Atom} {σ : St} {x : Int} : a.eval σ = .set x ↔
    ∃ vs, premVals σ a.prem = some vs ∧ a.f vs = some x ∧ σ a.target = none :=
  (eval_iffs a σ).2.2 x

/-- on a state where the rule is stable and its premises are known, the target is `f` of them -/
theorem Stable.target_eq {a : Atom} {τ : St} {vs : List Int} (hs : Stable a τ)
    (hp : premVals τ a.prem = some vs) : ∃ x, a.f vs = some x ∧ τ a.target = some x := by
  rcases hs with hs | hs
  · rw [(eval_skip_iff.1 hs).1] at hp; cases hp
  · obtain ⟨vs', x, hp', hf, ht⟩ := eval_same_iff.1 hs
    cases hp'.symm.trans hp
    exact ⟨x, hf, ht⟩

theorem stable_verified_of_known {a : Atom} {τ : St} (hs : Stable a τ)
    (hk : ∀ v ∈ a.prem, ∃ x, τ v = some x) : Verified a τ := by
  obtain ⟨vs, hvs⟩ := premVals_isSome.2 hk
  obtain ⟨x, hf, ht⟩ := hs.target_eq hvs
  exact ⟨vs, x, hvs, hf, ht⟩

/-- the key step: below a state on which the rule is stable, the rule can only skip, agree, or assign
the value that state has -/
theorem eval_of_le {a : Atom} {σ τ : St} (h : σ.le τ) (hs : Stable a τ) (hr : a.strict = false) :
    Stable a σ ∨ ∃ x, a.eval σ = .set x ∧ τ a.target = some x := by
  cases hp : premVals σ a.prem with
  | none => exact Or.inl (Or.inl (eval_skip_iff.2 ⟨hp, hr⟩))
  | some vs =>
    obtain ⟨x, hf, ht⟩ := hs.target_eq (premVals_mono h hp)
    cases hσt : σ a.target with
    | none => exact Or.inr ⟨x, eval_set_iff.2 ⟨vs, hp, hf, hσt⟩, ht⟩
    | some y =>
      cases (h _ _ hσt).symm.trans ht
      exact Or.inl (Or.inr (eval_same_iff.2 ⟨vs, _, hp, hf, hσt⟩))

/-- an assignment keeps the run above every state it started above (`step_le`: and below every stable state) -/
theorem le_step {a : Atom} {σ ρ : St} {x : Int} (h : σ.le ρ) (he : a.eval ρ = .set x) :
    σ.le (ρ.set a.target (some x)) :=
  let ⟨_, _, _, ht⟩ := eval_set_iff.1 he
  St.le_trans h (St.le_set x ht)

/-- an assignment stays below every state on which the rule is stable: that state has the assigned value -/
theorem step_le {a : Atom} {ρ τ : St} {x : Int} (hs : Stable a τ) (h : ρ.le τ) (he : a.eval ρ = .set x) :
    (ρ.set a.target (some x)).le τ := by
  obtain ⟨vs, hp, hf, _⟩ := eval_set_iff.1 he
  obtain ⟨y, hf', ht⟩ := hs.target_eq (premVals_mono h hp)
  cases hf.symm.trans hf'
  exact St.set_le h ht

/-! ### one group -/

theorem runGroup_cons_stable {c : Bool} {a : Atom} {as : List Atom} {σ : St} {chg : Bool} (h : Stable a σ) :
    runGroup c (a :: as) σ chg = runGroup c as σ chg := by
  rcases h with h | h <;> rw [runGroup, h]

theorem runGroup_cons_set {c : Bool} {a : Atom} {as : List Atom} {σ : St} {chg : Bool} {x : Int}
    (h : a.eval σ = .set x) : runGroup c (a :: as) σ chg = runGroup c as (σ.set a.target (some x)) true := by
  rw [runGroup, h]

/-- what the first atom of a group that ends regularly did: nothing, an assignment, or an error (which ends a
`caught` group on the spot with the change flag cleared, and is only recorded otherwise) -/
theorem runGroup_cons_ok {c : Bool} {a : Atom} {as : List Atom} {σ σ' : St} {chg c' e' : Bool}
    (h : runGroup c (a :: as) σ chg = .ok σ' c' e') :
    (Stable a σ ∧ runGroup c as σ chg = .ok σ' c' e') ∨
    (∃ x, a.eval σ = .set x ∧ runGroup c as (σ.set a.target (some x)) true = .ok σ' c' e') ∨
    (e' = true ∧ ((σ' = σ ∧ c' = false) ∨ ∃ e'', runGroup c as σ chg = .ok σ' c' e'')) := by
  rw [runGroup] at h
  split at h
  · exact Or.inl ⟨Or.inl ‹_›, h⟩
  · exact Or.inl ⟨Or.inr ‹_›, h⟩
  · exact Or.inr (Or.inl ⟨_, ‹_›, h⟩)
  · refine Or.inr (Or.inr ?_)
    split at h
    · cases h; exact ⟨rfl, Or.inl ⟨rfl, rfl⟩⟩
    · split at h
      · cases h; exact ⟨rfl, Or.inr ⟨_, ‹_›⟩⟩
      · cases h
  · split at h
    · cases h; exact Or.inr (Or.inr ⟨rfl, Or.inl ⟨rfl, rfl⟩⟩)
    · cases h

theorem runGroup_inv (P : St → Prop) (c : Bool) : ∀ (as : List Atom) {σ σ' : St} {chg c' e' : Bool},
    (∀ a ∈ as, ∀ ρ x, P ρ → a.eval ρ = .set x → P (ρ.set a.target (some x))) → P σ →
    runGroup c as σ chg = .ok σ' c' e' → P σ'
  | [], _, _, _, _, _, _, hP, h => by rw [runGroup] at h; cases h; exact hP
  | a :: as, σ, _, _, _, _, hs, hP, h => by
    have hs' := fun b hb => hs b (List.mem_cons_of_mem a hb)
    rcases runGroup_cons_ok h with ⟨_, h⟩ | ⟨x, hx, h⟩ | ⟨_, ⟨rfl, _⟩ | ⟨_, h⟩⟩
    · exact runGroup_inv P c as hs' hP h
    · exact runGroup_inv P c as hs' (hs a List.mem_cons_self σ x hP hx) h
    · exact hP
    · exact runGroup_inv P c as hs' hP h

theorem runGroup_mono {c : Bool} {as : List Atom} {σ σ' : St} {chg c' e' : Bool}
    (h : runGroup c as σ chg = .ok σ' c' e') : σ.le σ' :=
  runGroup_inv σ.le c as (fun _ _ _ _ => le_step) (St.le_refl σ) h

theorem runGroup_ok (c : Bool) {τ : St} : ∀ (as : List Atom) (σ : St) (chg : Bool),
    (∀ a ∈ as, Stable a τ) → (∀ a ∈ as, a.strict = false) → σ.le τ →
    ∃ σ' c', runGroup c as σ chg = .ok σ' c' false
  | [], σ, chg, _, _, _ => ⟨σ, chg, rfl⟩
  | a :: as, σ, chg, hst, hns, hle => by
    obtain ⟨hsa, hst'⟩ := List.forall_mem_cons.1 hst
    obtain ⟨hna, hns'⟩ := List.forall_mem_cons.1 hns
    rcases eval_of_le hle hsa hna with h | ⟨x, h, hτ⟩
    · rw [runGroup_cons_stable h]; exact runGroup_ok c as σ chg hst' hns' hle
    · rw [runGroup_cons_set h]; exact runGroup_ok c as _ true hst' hns' (St.set_le hle hτ)

theorem runGroup_quiet (c : Bool) : ∀ (as : List Atom) {σ σ' : St} {chg c' e' : Bool},
    runGroup c as σ chg = .ok σ' c' e' →
    c' = true ∨ e' = true ∨ (c' = chg ∧ e' = false ∧ σ' = σ ∧ ∀ a ∈ as, Stable a σ)
  | [], _, _, _, _, _, h => by rw [runGroup] at h; cases h; exact Or.inr (Or.inr ⟨rfl, rfl, rfl, by simp⟩)
  | a :: as, _, _, _, _, _, h => by
    rcases runGroup_cons_ok h with ⟨hs, h⟩ | ⟨x, _, h⟩ | ⟨he, _⟩
    · rcases runGroup_quiet c as h with h1 | h1 | ⟨h1, h2, h3, h4⟩
      · exact Or.inl h1
      · exact Or.inr (Or.inl h1)
      · exact Or.inr (Or.inr ⟨h1, h2, h3, List.forall_mem_cons.2 ⟨hs, h4⟩⟩)
    · rcases runGroup_quiet c as h with h1 | h1 | ⟨h1, _⟩
      · exact Or.inl h1
      · exact Or.inr (Or.inl h1)
      · exact Or.inl h1
    · exact Or.inr (Or.inl he)

theorem runGroup_chg (c : Bool) : ∀ (as : List Atom) {σ σ' : St} {chg c' e' : Bool},
    runGroup c as σ chg = .ok σ' c' e' → c' = true →
    chg = true ∨ ∃ a ∈ as, σ a.target = none ∧ ∃ x, σ' a.target = some x
  | [], _, _, _, _, _, h, hc => by rw [runGroup] at h; cases h; exact Or.inl hc
  | a :: as, σ, σ', _, _, _, h, hc => by
    have lift : (∃ b ∈ as, σ b.target = none ∧ ∃ x, σ' b.target = some x) →
        ∃ b ∈ a :: as, σ b.target = none ∧ ∃ x, σ' b.target = some x :=
      fun ⟨b, hb, h2⟩ => ⟨b, List.mem_cons_of_mem a hb, h2⟩
    rcases runGroup_cons_ok h with ⟨_, h⟩ | ⟨x, hx, h⟩ | ⟨_, ⟨_, hc'⟩ | ⟨_, h⟩⟩
    · exact (runGroup_chg c as h hc).imp id lift
    · obtain ⟨_, _, _, ht⟩ := eval_set_iff.1 hx
      exact Or.inr ⟨a, List.mem_cons_self, ht, x, runGroup_mono h _ _ (St.set_self ..)⟩
    · rw [hc'] at hc; cases hc
    · exact (runGroup_chg c as h hc).imp id lift

/-! ### one pass -/

def allAtoms (gs : List Group) : List Atom := gs.flatMap (·.atoms)

theorem mem_allAtoms {gs : List Group} {a : Atom} : a ∈ allAtoms gs ↔ ∃ g ∈ gs, a ∈ g.atoms := by
  simp [allAtoms, List.mem_flatMap]

theorem forall_allAtoms_cons {P : Atom → Prop} {g : Group} {gs : List Group} :
    (∀ a ∈ allAtoms (g :: gs), P a) ↔ (∀ a ∈ g.atoms, P a) ∧ ∀ a ∈ allAtoms gs, P a := by
  unfold allAtoms
  rw [List.flatMap_cons]
  exact List.forall_mem_append

theorem mem_allAtoms_append {gs hs : List Group} {a : Atom} :
    a ∈ allAtoms (gs ++ hs) ↔ a ∈ allAtoms gs ∨ a ∈ allAtoms hs := by
  simp only [allAtoms, List.flatMap_append, List.mem_append]

theorem mem_allAtoms_flatMap {β : Type} {l : List β} {f : β → List Group} {a : Atom} :
    a ∈ allAtoms (l.flatMap f) ↔ ∃ x ∈ l, a ∈ allAtoms (f x) := by
  simp only [allAtoms, List.flatMap_assoc, List.mem_flatMap]

theorem mem_allAtoms_map {β : Type} {l : List β} {f : β → Group} {a : Atom} :
    a ∈ allAtoms (l.map f) ↔ ∃ x ∈ l, a ∈ (f x).atoms := by
  simp only [allAtoms, List.flatMap_map, List.mem_flatMap]

def NoStrict (gs : List Group) : Prop := ∀ a ∈ allAtoms gs, a.strict = false

theorem runGroups_cons_some {g : Group} {gs : List Group} {s s' : PS} (h : runGroups (g :: gs) s = some s') :
    ∃ σ c e, runGroup g.caught g.atoms s.σ false = .ok σ c e ∧
      runGroups gs ⟨σ, if e then g.owner :: s.errs else s.errs, s.chg || c⟩ = some s' := by
  rw [runGroups] at h
  split at h
  · cases h
  · exact ⟨_, _, _, ‹_›, h⟩

theorem runGroups_inv (P : St → Prop) : ∀ (gs : List Group) {s s' : PS},
    (∀ a ∈ allAtoms gs, ∀ ρ x, P ρ → a.eval ρ = .set x → P (ρ.set a.target (some x))) → P s.σ →
    runGroups gs s = some s' → P s'.σ
  | [], _, _, _, hP, h => by rw [runGroups] at h; cases h; exact hP
  | g :: gs, _, _, hs, hP, h => by
    obtain ⟨hg, hs'⟩ := forall_allAtoms_cons.1 hs
    obtain ⟨σ, c, e, hrun, h⟩ := runGroups_cons_some h
    exact runGroups_inv P gs hs' (runGroup_inv P _ _ hg hP hrun) h

theorem runGroups_mono {gs : List Group} {s s' : PS} (h : runGroups gs s = some s') : s.σ.le s'.σ :=
  runGroups_inv s.σ.le gs (fun _ _ _ _ => le_step) (St.le_refl _) h

theorem runGroups_le {τ : St} {gs : List Group} {s s' : PS} (hst : ∀ a ∈ allAtoms gs, Stable a τ)
    (hle : s.σ.le τ) (h : runGroups gs s = some s') : s'.σ.le τ :=
  runGroups_inv (·.le τ) gs (fun a ha _ _ => step_le (hst a ha)) hle h

theorem runGroups_flags : ∀ (gs : List Group) {s s' : PS}, runGroups gs s = some s' →
    (∃ l, s'.errs = l ++ s.errs) ∧ (s.chg = true → s'.chg = true)
  | [], _, _, h => by rw [runGroups] at h; cases h; exact ⟨⟨[], rfl⟩, id⟩
  | g :: gs, s, s', h => by
    obtain ⟨σ, c, e, _, h⟩ := runGroups_cons_some h
    obtain ⟨⟨l, h2⟩, h3⟩ := runGroups_flags gs h
    refine ⟨?_, fun hc => h3 (by simp [hc])⟩
    cases e
    · exact ⟨l, h2⟩
    · exact ⟨l ++ [g.owner], by simp [h2]⟩

theorem runGroups_ok {τ : St} : ∀ (gs : List Group) (s : PS), (∀ a ∈ allAtoms gs, Stable a τ) → NoStrict gs →
    s.σ.le τ → ∃ s', runGroups gs s = some s' ∧ s'.errs = s.errs
  | [], s, _, _, _ => ⟨s, rfl, rfl⟩
  | g :: gs, s, hst, hns, hle => by
    obtain ⟨hg, hst'⟩ := forall_allAtoms_cons.1 hst
    obtain ⟨hng, hns'⟩ := forall_allAtoms_cons.1 hns
    obtain ⟨σ', c', hrun⟩ := runGroup_ok g.caught g.atoms s.σ false hg hng hle
    obtain ⟨s', h1, h2⟩ := runGroups_ok gs ⟨σ', s.errs, s.chg || c'⟩ hst' hns'
      (runGroup_inv (·.le τ) _ _ (fun a ha _ _ => step_le (hg a ha)) hle hrun)
    exact ⟨s', by rw [runGroups, hrun]; exact h1, h2⟩

theorem runGroups_quiet : ∀ (gs : List Group) {s s' : PS}, runGroups gs s = some s' → s'.chg = false →
    s'.errs.length = s.errs.length → s'.σ = s.σ ∧ ∀ a ∈ allAtoms gs, Stable a s.σ
  | [], _, _, h, _, _ => by rw [runGroups] at h; cases h; exact ⟨rfl, by simp [allAtoms]⟩
  | g :: gs, s, s', h, hc, hl => by
    obtain ⟨σ, c, e, hrun, h⟩ := runGroups_cons_some h
    obtain ⟨⟨l, h2⟩, h3⟩ := runGroups_flags gs h
    rcases runGroup_quiet _ _ hrun with rfl | rfl | ⟨rfl, rfl, rfl, hs⟩
    · rw [h3 (by simp)] at hc; cases hc
    · rw [h2] at hl; simp at hl; omega
    · obtain ⟨h4, h5⟩ := runGroups_quiet gs h hc hl
      exact ⟨h4, forall_allAtoms_cons.2 ⟨hs, h5⟩⟩

theorem runGroups_chg : ∀ (gs : List Group) {s s' : PS}, runGroups gs s = some s' → s'.chg = true →
    s.chg = true ∨ ∃ a ∈ allAtoms gs, s.σ a.target = none ∧ ∃ x, s'.σ a.target = some x
  | [], _, _, h, hc => by rw [runGroups] at h; cases h; exact Or.inl hc
  | g :: gs, s, s', h, hc => by
    obtain ⟨σ, c, e, hrun, h⟩ := runGroups_cons_some h
    have hm := runGroups_mono h
    rcases runGroups_chg gs h hc with h1 | ⟨a, ha, hn, x, hx⟩
    · rcases Bool.or_eq_true_iff.1 h1 with h1 | h1
      · exact Or.inl h1
      · rcases runGroup_chg _ _ hrun h1 with h2 | ⟨a, ha, hn, x, hx⟩
        · cases h2
        · exact Or.inr ⟨a, mem_allAtoms.2 ⟨g, List.mem_cons_self, ha⟩, hn, x, hm _ _ hx⟩
    · obtain ⟨g', hg', ha'⟩ := mem_allAtoms.1 ha
      refine Or.inr ⟨a, mem_allAtoms.2 ⟨g', List.mem_cons_of_mem g hg', ha'⟩, ?_, x, hx⟩
      cases hs : s.σ a.target with
      | none => rfl
      | some y => exact absurd (hn.symm.trans (runGroup_mono hrun _ _ hs)) (by simp)

end Fdtdx.C26
