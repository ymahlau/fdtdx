/-
The forward-difference curl (`curl_E`) and the backward-difference curl (`curl_H`) of the Yee model are mutual
adjoints for the staggered-volume pairings, on any grid shape, for any mix of zero and wrapped halos and any
metric (non-uniform widths).

The pairings are instances of one weighted pairing `pairW σ cf ω A B = Σ ω·σ(A)·B`, with `σ` a ring homomorphism
(`id`: the bilinear `pairH` / `pairE` of the model; `star`: the sesquilinear ones of `CurlAdjointStar.lean`) and `ω`
the face volumes `volH` or the edge volumes `volE` (`pair1`: the share of one component).  `curl_adjoint_hom` is the
adjointness for any `σ` that maps the left ghost multiplier to the right one on wrapped axes and fixes the backward
metric scales.
-/
import FdtdxLemmas.Sums

open Finset
namespace Fdtdx
open Fdtdx.Yee Fdtdx.C01

section
variable {K : Type} [CommRing K]

/-- the widths `W` are those of the metric scales of `cf`: `w·sf = ref`, `d·sb = ref` on every axis -/
structure MetricOK (cf : Cfg K) (W : Widths K) (ref : K) : Prop where
  fx : ∀ i, W.wx i * cf.sfx i = ref
  fy : ∀ j, W.wy j * cf.sfy j = ref
  fz : ∀ k, W.wz k * cf.sfz k = ref
  bx : ∀ i, W.dx i * cf.sbx i = ref
  by_ : ∀ j, W.dy j * cf.sby j = ref
  bz : ∀ k, W.dz k * cf.sbz k = ref

structure HalosReal (cf : Cfg K) : Prop where
  x : RealHalo cf.bx
  y : RealHalo cf.by_
  z : RealHalo cf.bz

/-- face-centred cell volumes (the weights of H-type components) -/
def volH (W : Widths K) : V3 K where
  x := fun i j k => W.dx i * W.wy j * W.wz k
  y := fun i j k => W.wx i * W.dy j * W.wz k
  z := fun i j k => W.wx i * W.wy j * W.dz k

/-- edge-centred cell volumes (the weights of E-type components) -/
def volE (W : Widths K) : V3 K where
  x := fun i j k => W.wx i * W.dy j * W.dz k
  y := fun i j k => W.dx i * W.wy j * W.dz k
  z := fun i j k => W.dx i * W.dy j * W.wz k

/-- weighted pairing `Σ ω·σ(A)·B` of two vector fields -/
def pairW (σ : K →+* K) (cf : Cfg K) (ω A B : V3 K) : K :=
  sum3 cf.nx cf.ny cf.nz fun i j k =>
    ω.x i j k * (σ (A.x i j k) * B.x i j k) + ω.y i j k * (σ (A.y i j k) * B.y i j k)
      + ω.z i j k * (σ (A.z i j k) * B.z i j k)

/-- the part of a pairing that belongs to one component -/
def pair1 (σ : K →+* K) (cf : Cfg K) (w a b : F3 K) : K :=
  sum3 cf.nx cf.ny cf.nz fun i j k => w i j k * (σ (a i j k) * b i j k)

theorem pairW_eq_pair1 (σ : K →+* K) (cf : Cfg K) (ω A B : V3 K) :
    pairW σ cf ω A B = pair1 σ cf ω.x A.x B.x + pair1 σ cf ω.y A.y B.y + pair1 σ cf ω.z A.z B.z := by
  rw [pairW, pair1, pair1, pair1, ← sum3_add, ← sum3_add]

theorem pairH_eq (cf : Cfg K) (W : Widths K) (A B : V3 K) :
    pairH cf W A B = pairW (RingHom.id K) cf (volH W) A B := rfl

theorem pairE_eq (cf : Cfg K) (W : Widths K) (A B : V3 K) :
    pairE cf W A B = pairW (RingHom.id K) cf (volE W) A B := rfl

/-- every entry of a vector field is fixed by `σ` (for `σ = star`: a real array of the code) -/
structure FixV (σ : K →+* K) (A : V3 K) : Prop where
  x : ∀ i j k, σ (A.x i j k) = A.x i j k
  y : ∀ i j k, σ (A.y i j k) = A.y i j k
  z : ∀ i j k, σ (A.z i j k) = A.z i j k

theorem FixV.id (A : V3 K) : FixV (RingHom.id K) A := ⟨fun _ _ _ => rfl, fun _ _ _ => rfl, fun _ _ _ => rfl⟩

theorem FixV.mulV {σ : K →+* K} {A B : V3 K} (hA : FixV σ A) (hB : FixV σ B) : FixV σ (mulV A B) :=
  ⟨fun i j k => by rw [C01.mulV, map_mul, hA.x, hB.x], fun i j k => by rw [C01.mulV, map_mul, hA.y, hB.y],
    fun i j k => by rw [C01.mulV, map_mul, hA.z, hB.z]⟩

theorem pairW_add_left (σ : K →+* K) (cf : Cfg K) (ω A B C : V3 K) :
    pairW σ cf ω (addV A B) C = pairW σ cf ω A C + pairW σ cf ω B C := by
  rw [pairW, pairW, pairW, ← sum3_add]
  refine sum3_congr _ _ _ _ _ fun i j k _ _ _ => ?_
  simp only [addV, map_add]
  ring

theorem pairW_conj (σ : K →+* K) (cf : Cfg K) (ω : V3 K) (hσ : ∀ x, σ (σ x) = x) (hω : FixV σ ω) (A B : V3 K) :
    σ (pairW σ cf ω A B) = pairW σ cf ω B A := by
  rw [pairW, pairW, map_sum3]
  refine sum3_congr _ _ _ _ _ fun i j k _ _ _ => ?_
  simp only [map_add, map_mul, hσ, hω.x i j k, hω.y i j k, hω.z i j k]
  ring

theorem pairW_comm (cf : Cfg K) (ω A B : V3 K) :
    pairW (RingHom.id K) cf ω A B = pairW (RingHom.id K) cf ω B A :=
  (pairW_conj (RingHom.id K) cf ω (fun _ => rfl) (FixV.id ω) B A).symm

theorem pairW_mulV_right (σ : K →+* K) (cf : Cfg K) (ω q : V3 K) (hq : FixV σ q) (A B : V3 K) :
    pairW σ cf ω A (mulV q B) = pairW σ cf ω (mulV q A) B := by
  rw [pairW, pairW]
  refine sum3_congr _ _ _ _ _ fun i j k _ _ _ => ?_
  simp only [mulV, map_mul, hq.x i j k, hq.y i j k, hq.z i j k]
  ring

theorem pairW_zero_mulV (σ : K →+* K) (cf : Cfg K) (ω q A B : V3 K) :
    pairW σ cf ω (mulV (mulV (constV 0) q) A) B = 0 := by
  refine (sum3_congr _ _ _ _ _ fun i j k _ _ _ => ?_).trans (sum3_zero cf.nx cf.ny cf.nz)
  simp only [mulV, constV, zero_mul, map_zero, mul_zero, add_zero]

/-- the pointwise algebra behind the adjointness: integrand of ⟨H, curlE G⟩ minus integrand of ⟨curlH H, G⟩
is `ref` times six summation-by-parts residues -/
theorem adjoint_integrand (ref dx dy dz wx wy wz sfx sfy sfz sbx sby sbz Hx Hy Hz Gx Gy Gz
    NyGz NzGy NzGx NxGz NxGy NyGx PyHz PzHy PzHx PxHz PxHy PyHx : K)
    (h1 : wx * sfx = ref) (h2 : wy * sfy = ref) (h3 : wz * sfz = ref)
    (h4 : dx * sbx = ref) (h5 : dy * sby = ref) (h6 : dz * sbz = ref) :
    (dx * wy * wz * (Hx * ((NyGz - Gz) * sfy - (NzGy - Gy) * sfz))
      + wx * dy * wz * (Hy * ((NzGx - Gx) * sfz - (NxGz - Gz) * sfx))
      + wx * wy * dz * (Hz * ((NxGy - Gy) * sfx - (NyGx - Gx) * sfy)))
    - (wx * dy * dz * (((Hz - PyHz) * sby - (Hy - PzHy) * sbz) * Gx)
      + dx * wy * dz * (((Hx - PzHx) * sbz - (Hz - PxHz) * sbx) * Gy)
      + dx * dy * wz * (((Hy - PxHy) * sbx - (Hx - PyHx) * sby) * Gz))
    = ref * (dx * wz) * (Hx * (NyGz - Gz) + Gz * (Hx - PyHx))
      - ref * (dx * wy) * (Hx * (NzGy - Gy) + Gy * (Hx - PzHx))
      + ref * (wx * dy) * (Hy * (NzGx - Gx) + Gx * (Hy - PzHy))
      - ref * (dy * wz) * (Hy * (NxGz - Gz) + Gz * (Hy - PxHy))
      + ref * (wy * dz) * (Hz * (NxGy - Gy) + Gy * (Hz - PxHz))
      - ref * (wx * dz) * (Hz * (NyGx - Gx) + Gx * (Hz - PyHz)) := by
  linear_combination
    (dx * wz * Hx * (NyGz - Gz) - wx * dz * Hz * (NyGx - Gx)) * h2
    + (wx * dy * Hy * (NzGx - Gx) - dx * wy * Hx * (NzGy - Gy)) * h3
    + (wy * dz * Hz * (NxGy - Gy) - dy * wz * Hy * (NxGz - Gz)) * h1
    + (dx * wz * Gz * (Hx - PyHx) - wx * dz * Gx * (Hz - PyHz)) * h5
    + (wx * dy * Gx * (Hy - PzHy) - dx * wy * Gy * (Hx - PzHx)) * h6
    + (wy * dz * Gy * (Hz - PxHz) - dy * wz * Gz * (Hy - PxHy)) * h4

/-- curl adjointness ⟨H, curlE G⟩ = ⟨curlH H, G⟩ for the pairings `Σ vol·σ(·)·(·)`: by `adjoint_integrand` the
difference of the integrands is six residues, each of which sums to zero along the lines of its axis
(`sum3_resid_x`, `_y`, `_z`). -/
theorem curl_adjoint_hom (σ : K →+* K) (cf : Cfg K) (W : Widths K) (ref : K) (hm : MetricOK cf W ref)
    (hx : cf.bx.wrap = true → σ cf.bx.pm = cf.bx.pp) (hy : cf.by_.wrap = true → σ cf.by_.pm = cf.by_.pp)
    (hz : cf.bz.wrap = true → σ cf.bz.pm = cf.bz.pp)
    (sx : ∀ i, σ (cf.sbx i) = cf.sbx i) (sy : ∀ j, σ (cf.sby j) = cf.sby j) (sz : ∀ k, σ (cf.sbz k) = cf.sbz k)
    (H G : V3 K) :
    pairW σ cf (volH W) H (curlE cf G) = pairW σ cf (volE W) (curlH cf H) G := by
  rw [← sub_eq_zero, pairW, pairW, ← sum3_sub]
  refine (sum3_congr _ _ _ _ (fun i j k =>
      ref * (W.dx i * W.wz k) * resid σ cf.ny cf.by_ (fun j' => G.z i j' k) (fun j' => H.x i j' k) j
      - ref * (W.dx i * W.wy j) * resid σ cf.nz cf.bz (fun k' => G.y i j k') (fun k' => H.x i j k') k
      + ref * (W.wx i * W.dy j) * resid σ cf.nz cf.bz (fun k' => G.x i j k') (fun k' => H.y i j k') k
      - ref * (W.dy j * W.wz k) * resid σ cf.nx cf.bx (fun i' => G.z i' j k) (fun i' => H.y i' j k) i
      + ref * (W.wy j * W.dz k) * resid σ cf.nx cf.bx (fun i' => G.y i' j k) (fun i' => H.z i' j k) i
      - ref * (W.wx i * W.dz k) * resid σ cf.ny cf.by_ (fun j' => G.x i j' k) (fun j' => H.z i j' k) j)
    fun i j k _ _ _ => ?_).trans ?_
  · simp only [volH, volE, curlE, curlH, resid, map_sub, map_mul, sx i, sy j, sz k]
    exact adjoint_integrand ref (W.dx i) (W.dy j) (W.dz k) (W.wx i) (W.wy j) (W.wz k) (cf.sfx i) (cf.sfy j)
      (cf.sfz k) (cf.sbx i) (cf.sby j) (cf.sbz k) _ _ _ _ _ _ _ _ _ _ _ _ _ _ _ _ _ _
      (hm.fx i) (hm.fy j) (hm.fz k) (hm.bx i) (hm.by_ j) (hm.bz k)
  simp only [sum3_sub, sum3_add, sum3_resid_x σ cf hx, sum3_resid_y σ cf hy, sum3_resid_z σ cf hz, sub_self,
    add_zero]

/-- **curl adjointness**: ⟨H, curlE G⟩_wH = ⟨curlH H, G⟩_wE for every grid shape, every zero/periodic halo mix
and every metric. -/
theorem curl_adjoint (cf : Cfg K) (W : Widths K) (ref : K) (hm : MetricOK cf W ref) (hh : HalosReal cf)
    (H G : V3 K) :
    pairH cf W H (curlE cf G) = pairE cf W (curlH cf H) G :=
  curl_adjoint_hom (RingHom.id K) cf W ref hm hh.x.id hh.y.id hh.z.id (fun _ => rfl) (fun _ => rfl)
    (fun _ => rfl) H G

end
end Fdtdx
