/-
Helper lemmas shared by the field properties: the model's recursive sums are `Finset.range` sums, and one-cell
halo summation by parts along a grid line (`sum_next_prev`; over the whole grid, axis by axis, `sum3_resid_x`, `_y`,
`_z`).  The summation by parts is stated for a ring homomorphism `σ` applied to
one factor (`σ = id` for the bilinear pairings of real fields, `σ = star` for the sesquilinear ones of Bloch
phases); the halo enters only through `σ pm = pp` on a wrapped axis.
-/
import FdtdxModel.C01
import Mathlib.Algebra.BigOperators.Intervals
import Mathlib.Algebra.BigOperators.Ring.Finset
import Mathlib.Tactic.Ring
import Mathlib.Tactic.LinearCombination

open Finset
namespace Fdtdx
open Fdtdx.Yee Fdtdx.C01

section
variable {K : Type} [CommRing K]

theorem sumTo_eq (n : Nat) (f : Nat → K) : sumTo n f = ∑ i ∈ range n, f i := by
  induction n with
  | zero => rfl
  | succ n ih => rw [sumTo, ih, sum_range_succ]

theorem sum3_eq (nx ny nz : Nat) (f : F3 K) :
    sum3 nx ny nz f = ∑ i ∈ range nx, ∑ j ∈ range ny, ∑ k ∈ range nz, f i j k := by
  simp only [sum3, sumTo_eq]

theorem sum3_congr (nx ny nz : Nat) (f g : F3 K)
    (h : ∀ i j k, i < nx → j < ny → k < nz → f i j k = g i j k) : sum3 nx ny nz f = sum3 nx ny nz g := by
  simp only [sum3_eq]
  refine sum_congr rfl fun i hi => sum_congr rfl fun j hj => sum_congr rfl fun k hk => ?_
  exact h i j k (mem_range.mp hi) (mem_range.mp hj) (mem_range.mp hk)

theorem sum3_add (nx ny nz : Nat) (f g : F3 K) :
    sum3 nx ny nz (fun i j k => f i j k + g i j k) = sum3 nx ny nz f + sum3 nx ny nz g := by
  simp only [sum3_eq, sum_add_distrib]

theorem sum3_sub (nx ny nz : Nat) (f g : F3 K) :
    sum3 nx ny nz (fun i j k => f i j k - g i j k) = sum3 nx ny nz f - sum3 nx ny nz g := by
  simp only [sum3_eq, sum_sub_distrib]

theorem sum3_mul_left (nx ny nz : Nat) (a : K) (f : F3 K) :
    sum3 nx ny nz (fun i j k => a * f i j k) = a * sum3 nx ny nz f := by
  simp only [sum3_eq, mul_sum]

theorem sum3_zero (nx ny nz : Nat) : sum3 nx ny nz (fun _ _ _ => (0 : K)) = 0 := by
  simp only [sum3_eq, sum_const_zero]

theorem map_sum3 (σ : K →+* K) (nx ny nz : Nat) (f : F3 K) :
    σ (sum3 nx ny nz f) = sum3 nx ny nz fun i j k => σ (f i j k) := by
  simp only [sum3_eq, map_sum]

/-- the halo of an axis is real: zero, or periodic wrap without a Bloch phase -/
def RealHalo (b : AxisBC K) : Prop := b.wrap = true → b.pp = 1 ∧ b.pm = 1

theorem RealHalo.id {b : AxisBC K} (hb : RealHalo b) : b.wrap = true → RingHom.id K b.pm = b.pp :=
  fun hw => (hb hw).2.trans (hb hw).1.symm

/-- shifting the stencil from one factor to the other: Σ σ(h)·(next e) = Σ e·σ(prev h).  The interior terms are
the same products; the two ghost terms agree because `σ pm = pp`. -/
theorem sum_next_prev (σ : K →+* K) (n : Nat) (b : AxisBC K) (hb : b.wrap = true → σ b.pm = b.pp)
    (e h : Nat → K) :
    ∑ i ∈ range n, σ (h i) * next1 n b e i = ∑ i ∈ range n, e i * σ (prev1 n b h i) := by
  cases n with
  | zero => rfl
  | succ m =>
    have hi : ∀ i ∈ range m, σ (h i) * next1 (m + 1) b e i = e (i + 1) * σ (prev1 (m + 1) b h (i + 1)) := by
      intro i hi
      rw [next1, if_pos (Nat.succ_lt_succ (mem_range.mp hi)), prev1, if_neg (Nat.succ_ne_zero i),
        Nat.add_sub_cancel, mul_comm]
    rw [sum_range_succ, sum_range_succ', sum_congr rfl hi, next1, if_neg (Nat.lt_irrefl _), prev1, if_pos rfl,
      Nat.add_sub_cancel]
    cases hw : b.wrap with
    | false => simp only [Bool.false_eq_true, if_false, map_zero, mul_zero]
    | true => rw [if_pos rfl, if_pos rfl, map_mul, hb hw]; ring

/-- the summand of the summation-by-parts residue of a line `e`, `h` at cell `i` -/
def resid (σ : K →+* K) (n : Nat) (b : AxisBC K) (e h : Nat → K) (i : Nat) : K :=
  σ (h i) * (next1 n b e i - e i) + e i * (σ (h i) - σ (prev1 n b h i))

/-- one-cell-halo summation by parts along a line, as a vanishing residue (with a constant weight `a`) -/
theorem sum_resid (σ : K →+* K) (n : Nat) (b : AxisBC K) (hb : b.wrap = true → σ b.pm = b.pp) (a : K)
    (e h : Nat → K) : ∑ i ∈ range n, a * resid σ n b e h i = 0 := by
  have expand : ∀ i, a * resid σ n b e h i = a * (σ (h i) * next1 n b e i - e i * σ (prev1 n b h i)) :=
    fun i => by rw [resid]; ring
  simp only [expand, ← mul_sum, sum_sub_distrib, sum_next_prev σ n b hb e h, sub_self, mul_zero]

/-! Summed over the grid, the residues along the lines of one axis vanish, whatever weight `a` (constant along the
line) and arrays `e`, `h` they are taken of. -/

theorem sum3_resid_x (σ : K →+* K) (cf : Cfg K) (hb : cf.bx.wrap = true → σ cf.bx.pm = cf.bx.pp)
    (a : Nat → Nat → K) (e h : F3 K) :
    sum3 cf.nx cf.ny cf.nz
      (fun i j k => a j k * resid σ cf.nx cf.bx (fun i' => e i' j k) (fun i' => h i' j k) i) = 0 := by
  rw [sum3_eq, sum_comm]
  refine sum_eq_zero fun j _ => ?_
  rw [sum_comm]
  exact sum_eq_zero fun k _ => sum_resid σ cf.nx cf.bx hb (a j k) _ _

theorem sum3_resid_y (σ : K →+* K) (cf : Cfg K) (hb : cf.by_.wrap = true → σ cf.by_.pm = cf.by_.pp)
    (a : Nat → Nat → K) (e h : F3 K) :
    sum3 cf.nx cf.ny cf.nz
      (fun i j k => a i k * resid σ cf.ny cf.by_ (fun j' => e i j' k) (fun j' => h i j' k) j) = 0 := by
  rw [sum3_eq]
  refine sum_eq_zero fun i _ => ?_
  rw [sum_comm]
  exact sum_eq_zero fun k _ => sum_resid σ cf.ny cf.by_ hb (a i k) _ _

theorem sum3_resid_z (σ : K →+* K) (cf : Cfg K) (hb : cf.bz.wrap = true → σ cf.bz.pm = cf.bz.pp)
    (a : Nat → Nat → K) (e h : F3 K) :
    sum3 cf.nx cf.ny cf.nz
      (fun i j k => a i j * resid σ cf.nz cf.bz (fun k' => e i j k') (fun k' => h i j k') k) = 0 := by
  rw [sum3_eq]
  exact sum_eq_zero fun i _ => sum_eq_zero fun j _ => sum_resid σ cf.nz cf.bz hb (a i j) _ _

end
end Fdtdx
