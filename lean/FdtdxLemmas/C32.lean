/-
Helper lemmas for C32: one-axis mirror/concatenate on lists of any length and any entry type
(block and index forms, extent, naturality under maps, sums over an unfolded line).
-/
import FdtdxModel.C32
import Mathlib.Algebra.BigOperators.Group.List.Basic
import Mathlib.Algebra.BigOperators.Ring.List

namespace Fdtdx.C32
variable {β γ : Type}

theorem mirrorLow_off (act : β → β) (a : List β) : mirrorLow act false a = a.reverse.map act := rfl

/-- block form, on-plane, at least two kept samples: repeated edge sample, then the images of a[n-1] … a[1] -/
theorem mirrorLow_on (act : β → β) (x : β) {l : List β} (hl : l ≠ []) :
    mirrorLow act true (x :: l) = (l.reverse.map act).take 1 ++ l.reverse.map act := by
  simp [mirrorLow, hl]

/-- on-plane, a single kept sample: it is repeated (behaviour after the fix) -/
theorem mirrorLow_on_single (act : β → β) (x : β) : mirrorLow act true [x] = [act x] := rfl

theorem mirrorLow_nil (act : β → β) (op : Bool) : mirrorLow act op ([] : List β) = [] := by
  cases op <;> rfl

theorem mirrorLow_length (act : β → β) (op : Bool) (a : List β) :
    (mirrorLow act op a).length = a.length := by
  match op, a with
  | false, a => rw [mirrorLow_off, List.length_map, List.length_reverse]
  | true, [] => rfl
  | true, [x] => rfl
  | true, x :: y :: t =>
    rw [mirrorLow_on act x (List.cons_ne_nil y t)]
    simp only [List.length_append, List.length_take, List.length_reverse, List.length_map, List.length_cons]
    omega

theorem unfoldList_kept (act : β → β) (op : Bool) (a : List β) (i : Nat) :
    (unfoldList act op a)[a.length + i]? = a[i]? := by
  rw [unfoldList, List.getElem?_append_right (by rw [mirrorLow_length]; omega), mirrorLow_length,
    Nat.add_sub_cancel_left]

private theorem getElem?_reverse_sub (l : List β) {i : Nat} (hi : i < l.length) :
    l.reverse[l.length - 1 - i]? = l[i]? := by
  rw [List.getElem?_reverse (by omega), Nat.sub_sub_self (Nat.le_sub_one_of_lt hi)]

theorem unfoldList_mirror_off (act : β → β) (a : List β) (i : Nat) (hi : i < a.length) :
    (unfoldList act false a)[a.length - 1 - i]? = (a[i]?).map act := by
  rw [unfoldList, List.getElem?_append_left (by rw [mirrorLow_length]; omega), mirrorLow_off, List.getElem?_map,
    getElem?_reverse_sub a hi]

private theorem getElem?_take_one_append (m : List β) (k : Nat) : (m.take 1 ++ m)[k + 1]? = m[k]? := by
  cases m <;> rfl

theorem unfoldList_mirror_on (act : β → β) (a : List β) (j : Nat) (h1 : 1 ≤ j) (hj : j < a.length) :
    (unfoldList act true a)[a.length - j]? = (a[j]?).map act := by
  obtain ⟨k, rfl⟩ : ∃ k, j = k + 1 := ⟨j - 1, (Nat.sub_add_cancel h1).symm⟩
  match a, hj with
  | x :: l, hj =>
    have hk : k < l.length := Nat.lt_of_succ_lt_succ hj
    -- position `n - j` is position `(l.length - 1 - k) + 1` of the low block, behind the edge sample
    have hlow : (x :: l).length - (k + 1) < (mirrorLow act true (x :: l)).length := by
      rw [mirrorLow_length]
      exact Nat.sub_lt (Nat.succ_pos _) k.succ_pos
    rw [unfoldList, List.getElem?_append_left hlow,
      mirrorLow_on act x (List.ne_nil_of_length_pos (Nat.zero_lt_of_lt hk)), List.length_cons,
      show l.length + 1 - (k + 1) = l.length - 1 - k + 1 by omega, getElem?_take_one_append,
      List.getElem?_map, getElem?_reverse_sub l hk, List.getElem?_cons_succ]

theorem mirrorLow_natural (act : β → β) (act' : γ → γ) (f : β → γ) (h : ∀ b, f (act b) = act' (f b))
    (op : Bool) (a : List β) : (mirrorLow act op a).map f = mirrorLow act' op (a.map f) := by
  have hm (l : List β) : (l.reverse.map act).map f = (l.map f).reverse.map act' := by
    rw [List.map_map, ← List.map_reverse, List.map_map]
    exact List.map_congr_left fun b _ => h b
  match op, a with
  | false, a => exact hm a
  | true, [] => rfl
  | true, [x] => exact congrArg (· :: []) (h x)
  | true, x :: y :: t =>
    rw [List.map_cons, mirrorLow_on act' (f x) (l := (y :: t).map f) (List.cons_ne_nil _ _),
      mirrorLow_on act x (List.cons_ne_nil y t), List.map_append, List.map_take, hm]

theorem unfoldList_natural (act : β → β) (act' : γ → γ) (f : β → γ) (h : ∀ b, f (act b) = act' (f b))
    (op : Bool) (a : List β) : (unfoldList act op a).map f = unfoldList act' op (a.map f) := by
  rw [unfoldList, List.map_append, mirrorLow_natural act act' f h, unfoldList]

/-! ### sums -/
section Sum
variable {M : Type} [Semiring M]

theorem sum_map_map_of_mul (φ : β → β) (g : β → M) (c : M) (h : ∀ x, g (φ x) = c * g x) (l : List β) :
    ((l.map φ).map g).sum = c * (l.map g).sum := by
  rw [List.map_map, ← List.sum_map_mul_left]
  exact congrArg List.sum (List.map_congr_left fun x _ => h x)

theorem sum_map_unfoldList_off (act : β → β) (g : β → M) (c : M) (h : ∀ x, g (act x) = c * g x) (a : List β) :
    ((unfoldList act false a).map g).sum = (1 + c) * (a.map g).sum := by
  rw [unfoldList, mirrorLow_off, List.map_append, List.sum_append, sum_map_map_of_mul act g c h,
    List.map_reverse, List.sum_reverse, add_mul, one_mul, add_comm]

theorem sum_unfoldList_off (p : M) (a : List M) :
    (unfoldList (fun x => p * x) false a).sum = (1 + p) * a.sum := by
  simpa using sum_map_unfoldList_off (fun x => p * x) id p (fun _ => rfl) a

end Sum

end Fdtdx.C32
