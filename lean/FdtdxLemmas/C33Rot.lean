/-
C33 helper lemmas, third layer: the cyclic relabelling of the axes (new x = old y, new y = old z, new z = old x) is the
relabelling of C08 applied twice, so `forward` and `steps` commute with `rotV` / `rotCfg` / `rotMat`; the model's
reduction along y (z) is the reduction along x of the once (twice) relabelled configuration.  Restriction to the
upper half along a transversal axis keeps the parity and the x-invariance (`SymE.upper`, `SymH.upper`, `XInv.upper`).
-/
import FdtdxLemmas.C33Step
import FdtdxProps.C08
namespace Fdtdx.C33
open Fdtdx Fdtdx.Yee

section
variable {K : Type} [Field K]

/-- relabel the axes cyclically: the new x axis is the old y axis (new (i,j,k) = old (y,z,x) indices) -/
def rotF (f : F3 K) : F3 K := fun i j k => f k i j
def rotV (V : V3 K) : V3 K := { x := rotF V.y, y := rotF V.z, z := rotF V.x }
def rotCfg (cf : Cfg K) : Cfg K :=
  { nx := cf.ny, ny := cf.nz, nz := cf.nx, bx := cf.by_, by_ := cf.bz, bz := cf.bx,
    sfx := cf.sfy, sfy := cf.sfz, sfz := cf.sfx, sbx := cf.sby, sby := cf.sbz, sbz := cf.sbx, c := cf.c, eta0 := cf.eta0 }
def rotMat (mt : Mat K) : Mat K :=
  { invEps := rotV mt.invEps, invMu := rotV mt.invMu, sigE := mt.sigE.map rotV, sigH := mt.sigH.map rotV }

theorem curlE_rot (cf : Cfg K) (E : V3 K) : curlE (rotCfg cf) (rotV E) = rotV (curlE cf E) := rfl
theorem curlH_rot (cf : Cfg K) (H : V3 K) : curlH (rotCfg cf) (rotV H) = rotV (curlH cf H) := rfl

/-! the relabelling is the one of C08 (new x = old z) applied twice -/

theorem rotV_eq (V : V3 K) : rotV V = C08.rotV (C08.rotV V) := rfl
theorem rotCfg_eq (cf : Cfg K) : rotCfg cf = C08.rotC (C08.rotC cf) := rfl
theorem rotMat_eq (mt : Mat K) : rotMat mt = C08.rotM (C08.rotM mt) := by
  simp only [rotMat, C08.rotM, Option.map_map]
  rfl

theorem forward_rot (cf : Cfg K) (mt : Mat K) (jE jH E H : V3 K) :
    forward (rotCfg cf) (rotMat mt) (rotV jE) (rotV jH) (rotV E) (rotV H)
      = (rotV (forward cf mt jE jH E H).1, rotV (forward cf mt jE jH E H).2) := by
  simp only [rotMat_eq, rotCfg_eq, rotV_eq, C08.C08_step_equivariant]

theorem steps_rot (cf : Cfg K) (mt : Mat K) (jE jH E H : V3 K) (n : Nat) :
    steps (rotCfg cf) (rotMat mt) (rotV jE) (rotV jH) n (rotV E, rotV H)
      = (rotV (steps cf mt jE jH n (E, H)).1, rotV (steps cf mt jE jH n (E, H)).2) := by
  induction n with
  | zero => rfl
  | succ n ih => simp only [steps, ih, forward_rot]

/-! restriction along an axis commutes with the relabelling (the axis is relabelled too) -/

theorem reduceCfg_rot_y (cf : Cfg K) : rotCfg (reduceCfg 1 cf) = reduceCfg 0 (rotCfg cf) := rfl
theorem reduceCfg_rot_z (cf : Cfg K) : rotCfg (reduceCfg 2 cf) = reduceCfg 1 (rotCfg cf) := rfl
theorem upperV_rot_y (m : Nat) (V : V3 K) : rotV (upperV 1 m V) = upperV 0 m (rotV V) := rfl
theorem upperV_rot_z (m : Nat) (V : V3 K) : rotV (upperV 2 m V) = upperV 1 m (rotV V) := rfl
theorem upperMat_rot_x (m : Nat) (mt : Mat K) : rotMat (upperMat 0 m mt) = upperMat 2 m (rotMat mt) := by
  simp only [rotMat, upperMat, Option.map_map]
  rfl
theorem upperMat_rot_y (m : Nat) (mt : Mat K) : rotMat (upperMat 1 m mt) = upperMat 0 m (rotMat mt) := by
  simp only [rotMat, upperMat, Option.map_map]
  rfl
theorem upperMat_rot_z (m : Nat) (mt : Mat K) : rotMat (upperMat 2 m mt) = upperMat 1 m (rotMat mt) := by
  simp only [rotMat, upperMat, Option.map_map]
  rfl

/-! ### restriction along another axis keeps parity / invariance about the plane normal to x

Read through `rotV`, restricting along x is restricting along z: `rotV (upperV 0 m V)` unfolds to `upperV 2 m (rotV V)`,
and `rotV (rotV (upperV 1 my (upperV 0 mx V)))` to `upperV 2 my (upperV 1 mx (rotV (rotV V)))`. -/

/-- restriction along an axis other than x leaves the x index alone -/
theorem upperF_transversal {α : Type} {a : Nat} (ha : a ≠ 0) (m' : Nat) :
    ∃ σ τ : Nat → Nat, ∀ f : F3 α, upperF a m' f = fun i j k => f i (σ j) (τ k) := by
  obtain _ | _ | a := a
  exacts [absurd rfl ha, ⟨(m' + ·), id, fun _ => rfl⟩, ⟨id, (m' + ·), fun _ => rfl⟩]

variable {m r : Nat}

theorem SymE.upper {V : V3 K} (h : SymE m r V) (a m' : Nat) (ha : a ≠ 0 := by decide) : SymE m r (upperV a m' V) := by
  obtain ⟨σ, τ, e⟩ := upperF_transversal (α := K) ha m'
  simp only [upperV, e]
  exact ⟨fun d j k => h.x d _ _, fun d j k => h.y d _ _, fun d j k => h.z d _ _, fun j k => h.y0 _ _,
    fun j k => h.z0 _ _⟩

theorem SymH.upper {V : V3 K} (h : SymH m r V) (a m' : Nat) (ha : a ≠ 0 := by decide) : SymH m r (upperV a m' V) := by
  obtain ⟨σ, τ, e⟩ := upperF_transversal (α := K) ha m'
  simp only [upperV, e]
  exact ⟨fun d j k => h.x d _ _, fun j k => h.x0 _ _, fun d j k => h.y d _ _, fun d j k => h.z d _ _⟩

theorem forall_map_some {α : Type} {s : Option α} {f : α → α} {P : α → Prop} (hf : ∀ w, P w → P (f w))
    (h : ∀ v, s = some v → P v) (v : α) (hv : s.map f = some v) : P v := by
  obtain ⟨w, hw, rfl⟩ := Option.map_eq_some_iff.1 hv
  exact hf w (h w hw)

theorem XInv.upper {mt : Mat K} (h : XInv mt) (a m' : Nat) (ha : a ≠ 0 := by decide) : XInv (upperMat a m' mt) := by
  obtain ⟨σ, τ, e⟩ := upperF_transversal (α := K) ha m'
  have F : ∀ f : F3 K, (∀ i i' j k, f i j k = f i' j k) → ∀ i i' j k, upperF a m' f i j k = upperF a m' f i' j k := by
    intro f hf i i' j k
    rw [e]
    exact hf i i' _ _
  exact ⟨F _ h.ex, F _ h.ey, F _ h.ez, F _ h.mx, F _ h.my, F _ h.mz,
    forall_map_some (fun w => F w.x) h.sEx, forall_map_some (fun w => F w.y) h.sEy,
    forall_map_some (fun w => F w.z) h.sEz, forall_map_some (fun w => F w.x) h.sHx,
    forall_map_some (fun w => F w.y) h.sHy, forall_map_some (fun w => F w.z) h.sHz⟩

end
end Fdtdx.C33
