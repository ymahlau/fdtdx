/- C25 helper lemmas: array views, dilation = union of brush footprints, symmetry of the covering relation. -/
import FdtdxModel.C25
import Mathlib.Tactic.Linarith

namespace Fdtdx.C25

theorem inb_iff (d : Dims) (i j : Nat) : inb d i j = true ↔ i < d.h ∧ j < d.w := by
  simp [inb]

theorem row_getD {α : Type} (n : Nat) (f : Nat → α) (d : α) (i : Nat) :
    (row n f).getD i d = if i < n then f i else d := by
  unfold row
  by_cases h : i < n <;> simp [Array.getD, h]

theorem look_tab (d : Dims) (f : Img) (i j : Nat) : look (tab d f) i j = (inb d i j && f i j) := by
  unfold look tab inb
  by_cases hi : i < d.h <;> by_cases hj : j < d.w <;> simp only [row_getD, hi, hj, reduceIte] <;> rfl

theorem look_tab_inb {d : Dims} {f : Img} {i j : Nat} (h : look (tab d f) i j = true) : inb d i j = true := by
  rw [look_tab, Bool.and_eq_true] at h
  exact h.1

theorem anyCells_iff (d : Dims) (p : Img) :
    anyCells d p = true ↔ ∃ i j, inb d i j = true ∧ p i j = true := by
  unfold anyCells inb
  simp only [List.any_eq_true, List.mem_range, Bool.and_eq_true, decide_eq_true_eq]
  constructor
  · rintro ⟨i, hi, j, hj, h⟩; exact ⟨i, j, ⟨hi, hj⟩, h⟩
  · rintro ⟨i, j, ⟨hi, hj⟩, h⟩; exact ⟨i, hi, j, hj, h⟩

theorem look_orT (d : Dims) (x y : Tab) (i j : Nat) : look (orT d x y) i j = (inb d i j && (look x i j || look y i j)) :=
  look_tab d _ i j
theorem look_andT (d : Dims) (x y : Tab) (i j : Nat) : look (andT d x y) i j = (inb d i j && (look x i j && look y i j)) :=
  look_tab d _ i j
theorem look_notT (d : Dims) (x : Tab) (i j : Nat) : look (notT d x) i j = (inb d i j && !look x i j) :=
  look_tab d _ i j

/-- the shape `where(~x & ~y)` of `touch_valid_*` and of the required pixels -/
theorem look_andT_notT (d : Dims) (x y : Tab) (i j : Nat) :
    look (andT d (notT d x) (notT d y)) i j = true ↔ inb d i j = true ∧ look x i j = false ∧ look y i j = false := by
  rw [look_andT, look_notT, look_notT]
  cases inb d i j <;> simp

theorem look_setIdx (d : Dims) (t : Tab) (idx i j : Nat) :
    look (setIdx d t idx) i j = (inb d i j && (look t i j || decide (i * d.w + j = idx))) :=
  look_tab d _ i j

theorem flat_inj {d : Dims} {i j ti tj : Nat} (h1 : inb d i j = true) (h2 : inb d ti tj = true)
    (h : i * d.w + j = ti * d.w + tj) : i = ti ∧ j = tj := by
  have hj := ((inb_iff d i j).mp h1).2
  have htj := ((inb_iff d ti tj).mp h2).2
  -- the row index is determined: `a * w ≤` flat index `< (b + 1) * w`
  have key {a b x y : Nat} (hx : x < d.w) (e : a * d.w + y = b * d.w + x) : a ≤ b := by
    have : a * d.w < (b + 1) * d.w := by rw [Nat.add_mul]; omega
    exact Nat.le_of_lt_succ (Nat.lt_of_mul_lt_mul_right this)
  have hi : i = ti := Nat.le_antisymm (key htj h) (key hj h.symm)
  subst hi
  exact ⟨rfl, by omega⟩

/-! ### the covering relation -/

/-- the touch at (ti, tj) covers the pixel (pi, pj): the pixel lies in the brush placed with its centre on the touch
(as `convolve2d` places it) -/
def Cov (b : Brush) (ti tj pi pj : Nat) : Prop :=
  ∃ a bb, a < b.size ∧ bb < b.size ∧ look b.cells a bb = true ∧ pi + b.c = ti + a ∧ pj + b.c = tj + bb

/-- point symmetry of the brush (true for `circular_brush`) -/
def Sym (b : Brush) : Prop :=
  ∀ a bb, a < b.size → bb < b.size → look b.cells a bb = look b.cells (2 * b.c - a) (2 * b.c - bb)

theorem dilI_iff (b : Brush) (img : Img) (pi pj : Nat) :
    dilI b img pi pj = true ↔ ∃ ti tj, img ti tj = true ∧ Cov b ti tj pi pj := by
  unfold dilI Cov
  simp only [List.any_eq_true, List.mem_range, Bool.and_eq_true, decide_eq_true_eq]
  constructor
  · rintro ⟨a, ha, bb, hb, ⟨⟨hc, h1⟩, h2⟩, himg⟩
    exact ⟨_, _, himg, a, bb, ha, hb, hc, (Nat.sub_add_cancel h1).symm, (Nat.sub_add_cancel h2).symm⟩
  · rintro ⟨ti, tj, himg, a, bb, ha, hb, hc, h1, h2⟩
    refine ⟨a, ha, bb, hb, ⟨⟨hc, h1 ▸ Nat.le_add_left a ti⟩, h2 ▸ Nat.le_add_left bb tj⟩, ?_⟩
    rwa [Nat.sub_eq_of_eq_add h1, Nat.sub_eq_of_eq_add h2]

theorem reflect_add {c a p t : Nat} (ha : a ≤ 2 * c) (h : p + c = t + a) : t + c = p + (2 * c - a) := by
  omega

theorem cov_symm {b : Brush} (hs : Sym b) {ti tj pi pj : Nat} (h : Cov b ti tj pi pj) : Cov b pi pj ti tj := by
  obtain ⟨a, bb, ha, hb, hc, h1, h2⟩ := h
  exact ⟨2 * b.c - a, 2 * b.c - bb, Nat.lt_succ_of_le (Nat.sub_le _ _), Nat.lt_succ_of_le (Nat.sub_le _ _),
    hs a bb ha hb ▸ hc, reflect_add (Nat.le_of_lt_succ ha) h1, reflect_add (Nat.le_of_lt_succ hb) h2⟩

theorem cov_self (b : Brush) (hc : look b.cells b.c b.c = true) (i j : Nat) : Cov b i j i j :=
  have hlt : b.c < b.size := by unfold Brush.size; omega
  ⟨b.c, b.c, hlt, hlt, hc, rfl, rfl⟩

/-! ### dilation -/

theorem look_dil (d : Dims) (b : Brush) (t : Tab) (pi pj : Nat) :
    look (dil d b t) pi pj = true ↔ inb d pi pj = true ∧ ∃ ti tj, look t ti tj = true ∧ Cov b ti tj pi pj := by
  unfold dil
  rw [look_tab, Bool.and_eq_true, dilI_iff]

theorem look_dil_inb {d : Dims} {b : Brush} {t : Tab} {i j : Nat} (h : look (dil d b t) i j = true) : inb d i j = true :=
  look_tab_inb h

theorem look_dil_false {d : Dims} {b : Brush} {t : Tab} {pi pj : Nat} :
    look (dil d b t) pi pj = false ↔
      (inb d pi pj = true → ∀ ti tj, look t ti tj = true → ¬ Cov b ti tj pi pj) := by
  rw [Bool.eq_false_iff, Ne, look_dil]
  exact ⟨fun h hin ti tj ht hc => h ⟨hin, ti, tj, ht, hc⟩, fun h ⟨hin, ti, tj, ht, hc⟩ => h hin ti tj ht hc⟩

theorem look_dil_empty (d : Dims) (b : Brush) (i j : Nat) : look (dil d b (tab d fun _ _ => false)) i j = false :=
  look_dil_false.mpr fun _ ti tj ht => by
    rw [look_tab, Bool.and_false] at ht
    exact nomatch ht

theorem dil_mono (d : Dims) (b : Brush) {x y : Tab} (h : ∀ i j, look x i j = true → look y i j = true) {i j : Nat}
    (hx : look (dil d b x) i j = true) : look (dil d b y) i j = true := by
  obtain ⟨hin, ti, tj, ht, hc⟩ := (look_dil d b x i j).mp hx
  exact (look_dil d b y i j).mpr ⟨hin, ti, tj, h ti tj ht, hc⟩

theorem dil_congr (d : Dims) (b : Brush) {x y : Tab} (h : ∀ i j, look x i j = true ↔ look y i j = true) :
    dil d b x = dil d b y := by
  unfold dil
  rw [show look x = look y from funext fun i => funext fun j => Bool.eq_iff_iff.mpr (h i j)]

end Fdtdx.C25
