/- C25 helper lemmas for termination: "possible" and "required" pixels, the invariants `Jinv` (every pixel is possible
for one polarity) and `Iinv` (required pixels of at most one polarity), and how one iteration changes them.

Everything is stated for the solid polarity.  `derive` treats the two polarities alike, so the fact about void touches is
the same lemma at `st.swap`: `(derive d b st.swap).validS` unfolds to `(derive d b st).validV`, and so on. -/
import FdtdxLemmas.C25Argmax

namespace Fdtdx.C25

def State.swap (st : State) : State := ⟨st.s, st.v⟩

/-! ### possible and required pixels -/

/-- pixels that an existing or still valid solid touch covers -/
def possS (d : Dims) (b : Brush) (st : State) : Tab := dil d b (orT d st.s (derive d b st).validS)
/-- pixels that are not solid yet and can no longer become void -/
def reqS (d : Dims) (b : Brush) (st : State) : Tab :=
  andT d (notT d (dil d b st.s)) (notT d (possS d b st.swap))

theorem derive_resS (d : Dims) (b : Brush) (st : State) :
    (derive d b st).resS = andT d (dil d b (reqS d b st)) (derive d b st).validS := rfl
theorem derive_freeS (d : Dims) (b : Brush) (st : State) :
    (derive d b st).freeS =
      andT d (notT d (dil d b (orT d (possS d b st.swap) (dil d b st.v)))) (derive d b st).validS := rfl

section
variable (d : Dims) (b : Brush) (st : State)

/-- `touch_valid_solid`: in the domain, no void pixel under the brush, not a solid touch already -/
theorem validS_iff (i j : Nat) : look (derive d b st).validS i j = true ↔
    inb d i j = true ∧ look (dil d b (dil d b st.v)) i j = false ∧ look st.s i j = false :=
  look_andT_notT d _ _ i j

theorem reqS_iff (i j : Nat) : look (reqS d b st) i j = true ↔
    inb d i j = true ∧ look (dil d b st.s) i j = false ∧ look (possS d b st.swap) i j = false :=
  look_andT_notT d _ _ i j

/-- `touch_free_solid`: valid, and its footprint meets no pixel that is or may still become void -/
theorem freeS_iff (i j : Nat) : look (derive d b st).freeS i j = true ↔
    look (derive d b st).validS i j = true ∧
      look (dil d b (orT d (possS d b st.swap) (dil d b st.v))) i j = false := by
  rw [derive_freeS, look_andT, look_notT]
  constructor
  · intro h
    simp only [Bool.and_eq_true, Bool.not_eq_true'] at h
    exact ⟨h.2.2, h.2.1.2⟩
  · rintro ⟨hv, hf⟩
    simp [((validS_iff d b st i j).mp hv).1, hv, hf]

/-- the candidate solid touches `touches_solid | touch_valid_solid` -/
theorem cand_iff (i j : Nat) : look (orT d st.s (derive d b st).validS) i j = true ↔
    inb d i j = true ∧ (look st.s i j = true ∨ look (dil d b (dil d b st.v)) i j = false) := by
  rw [look_orT, Bool.and_eq_true, Bool.or_eq_true, validS_iff]
  cases look st.s i j <;> simp

theorem possS_iff (pi pj : Nat) : look (possS d b st) pi pj = true ↔ inb d pi pj = true ∧
    ∃ ti tj, inb d ti tj = true ∧ (look st.s ti tj = true ∨ look (derive d b st).validS ti tj = true) ∧
      Cov b ti tj pi pj := by
  unfold possS
  simp only [look_dil, look_orT, Bool.and_eq_true, Bool.or_eq_true, and_assoc]

end

variable {d : Dims} {b : Brush} {st : State}

theorem validS_of_possS {pi pj : Nat} (hp : look (possS d b st) pi pj = true)
    (hn : look (dil d b st.s) pi pj = false) :
    ∃ ti tj, inb d ti tj = true ∧ look (derive d b st).validS ti tj = true ∧ Cov b ti tj pi pj := by
  obtain ⟨hin, ti, tj, htin, ht | ht, hc⟩ := (possS_iff d b st pi pj).mp hp
  · exact (look_dil_false.mp hn hin ti tj ht hc).elim
  · exact ⟨ti, tj, htin, ht, hc⟩

theorem pixS_sub_possS (hb : ∀ i j, look st.s i j = true → inb d i j = true) {i j : Nat}
    (h : look (dil d b st.s) i j = true) : look (possS d b st) i j = true :=
  dil_mono d b (fun x y hxy => (cand_iff d b st x y).mpr ⟨hb x y hxy, Or.inl hxy⟩) h

/-! ### the invariants -/

/-- touches lie in the domain -/
def Bnd (d : Dims) (st : State) : Prop :=
  (∀ i j, look st.s i j = true → inb d i j = true) ∧ (∀ i j, look st.v i j = true → inb d i j = true)
/-- every pixel can still become solid or void -/
def Jinv (d : Dims) (b : Brush) (st : State) : Prop :=
  ∀ i j, inb d i j = true → look (possS d b st) i j = true ∨ look (possS d b st.swap) i j = true
/-- required pixels of the two polarities never coexist -/
def Iinv (d : Dims) (b : Brush) (st : State) : Prop :=
  (∀ i j, look (reqS d b st) i j = false) ∨ (∀ i j, look (reqS d b st.swap) i j = false)

theorem Bnd.swap (h : Bnd d st) : Bnd d st.swap := ⟨h.2, h.1⟩
theorem Jinv.swap (h : Jinv d b st) : Jinv d b st.swap := fun i j hin => (h i j hin).symm
theorem Iinv.swap (h : Iinv d b st) : Iinv d b st.swap := Or.symm h

/-- **an uncovered pixel admits a valid touch** as long as every pixel is possible for one polarity -/
theorem exists_valid_of_J (hJ : Jinv d b st) (hu : uncovered d b st = true) :
    ∃ i j, inb d i j = true ∧ (look (derive d b st).validS i j = true ∨ look (derive d b st).validV i j = true) := by
  obtain ⟨pi, pj, hin, hp⟩ := (anyCells_iff _ _).mp hu
  simp only [Bool.not_eq_true', Bool.or_eq_false_iff] at hp
  rcases hJ pi pj hin with h | h
  · obtain ⟨ti, tj, htin, ht, -⟩ := validS_of_possS h hp.1
    exact ⟨ti, tj, htin, Or.inl ht⟩
  · obtain ⟨ti, tj, htin, ht, -⟩ := validS_of_possS (st := st.swap) h hp.2
    exact ⟨ti, tj, htin, Or.inr ht⟩

/-- while every pixel is possible for one polarity, a required pixel admits a resolving touch: the valid touch that makes
it possible.  So without resolving touches no pixel is required -/
theorem reqS_none (hs : Sym b) (hJ : Jinv d b st) (h : ∀ i j, inb d i j = true → look (derive d b st).resS i j = false)
    (pi pj : Nat) : look (reqS d b st) pi pj = false := by
  refine Bool.eq_false_iff.mpr fun hr => ?_
  obtain ⟨hin, hns, hnv⟩ := (reqS_iff d b st pi pj).mp hr
  obtain ⟨ti, tj, htin, ht, hc⟩ :=
    validS_of_possS ((hJ pi pj hin).resolve_right (Bool.eq_false_iff.mp hnv)) hns
  refine Bool.eq_false_iff.mp (h ti tj htin) ?_
  rw [derive_resS, look_andT, htin, ht, (look_dil d b _ ti tj).mpr ⟨htin, pi, pj, hr, cov_symm hs hc⟩]
  rfl

/-- a resolving solid touch is valid and witnesses a required solid pixel, so no pixel is required void -/
theorem resS_spec (hI : Iinv d b st) {i j : Nat} (hm : look (derive d b st).resS i j = true) :
    look (derive d b st).validS i j = true ∧ ∀ x y, look (reqS d b st.swap) x y = false := by
  rw [derive_resS, look_andT] at hm
  simp only [Bool.and_eq_true] at hm
  obtain ⟨-, pi, pj, hreq, -⟩ := (look_dil d b _ i j).mp hm.2.1
  exact ⟨hm.2.2, hI.resolve_left fun h => Bool.eq_false_iff.mp (h pi pj) hreq⟩

/-! ### cases 2 and 3: one valid solid touch -/

/-- the new touch was a candidate before, and no candidate is lost: the void touches have not changed -/
theorem possS_addS {ti tj : Nat} (hv : look (derive d b st).validS ti tj = true) (k : Nat) :
    possS d b (apply d st (.single true (ti * d.w + tj) k)) = possS d b st := by
  obtain ⟨hin, himp, -⟩ := (validS_iff d b st ti tj).mp hv
  refine dil_congr d b fun i j => ?_
  rw [cand_iff, cand_iff]
  simp only [apply, look_setIdx, Bool.and_eq_true, Bool.or_eq_true, decide_eq_true_eq]
  constructor
  · rintro ⟨h, ⟨-, hS | he⟩ | hI⟩
    · exact ⟨h, Or.inl hS⟩
    · obtain ⟨rfl, rfl⟩ := flat_inj h hin he
      exact ⟨h, Or.inr himp⟩
    · exact ⟨h, Or.inr hI⟩
  · rintro ⟨h, hS | hI⟩
    · exact ⟨h, Or.inl ⟨h, Or.inl hS⟩⟩
    · exact ⟨h, Or.inr hI⟩

/-- adding a valid solid touch while no pixel is required void keeps both invariants: a pixel that is not possibly
solid is void already, and stays so -/
theorem inv_addS {ti tj : Nat} (hv : look (derive d b st).validS ti tj = true) (k : Nat) (hbnd : Bnd d st)
    (hnr : ∀ i j, look (reqS d b st.swap) i j = false) :
    Jinv d b (apply d st (.single true (ti * d.w + tj) k)) ∧ Iinv d b (apply d st (.single true (ti * d.w + tj) k)) := by
  have hp := possS_addS hv k
  -- the required-void pixels depend on the state through its void touches and its possibly-solid pixels only
  have hr : reqS d b (apply d st (.single true (ti * d.w + tj) k)).swap = reqS d b st.swap :=
    congrArg (fun t => andT d (notT d (dil d b st.v)) (notT d t)) hp
  refine ⟨fun i j hin => ?_, Or.inr (by rw [hr]; exact hnr)⟩
  rw [hp]
  by_cases hps : look (possS d b st) i j = true
  · exact Or.inl hps
  · have hpv : look (dil d b st.v) i j = true := by
      by_contra hc
      exact Bool.eq_false_iff.mp (hnr i j)
        ((reqS_iff d b st.swap i j).mpr ⟨hin, Bool.eq_false_iff.mpr hc, Bool.eq_false_iff.mpr hps⟩)
    exact Or.inr (pixS_sub_possS (st := (apply d st (.single true (ti * d.w + tj) k)).swap) hbnd.2 hpv)

/-! ### case 1: all free touches at once -/

def addFree (d : Dims) (b : Brush) (st : State) : State :=
  apply d st (.free (derive d b st).freeV (derive d b st).freeS)

theorem addFree_swap (d : Dims) (b : Brush) (st : State) : addFree d b st.swap = (addFree d b st).swap := rfl

theorem look_addFree_s (d : Dims) (b : Brush) (st : State) (i j : Nat) : look (addFree d b st).s i j = true ↔
    inb d i j = true ∧ (look st.s i j = true ∨ look (derive d b st).freeS i j = true) := by
  simp only [addFree, apply, look_orT, Bool.and_eq_true, Bool.or_eq_true]

theorem free_new {i j : Nat} (hf : look (derive d b st).freeS i j = true) :
    look (addFree d b st).s i j = true ∧ look st.s i j = false :=
  have hv := (validS_iff d b st i j).mp ((freeS_iff d b st i j).mp hf).1
  ⟨(look_addFree_s d b st i j).mpr ⟨hv.1, Or.inr hf⟩, hv.2.2⟩

theorem pix_addFree (hbnd : Bnd d st) {i j : Nat} (h : look (dil d b st.s) i j = true) :
    look (dil d b (addFree d b st).s) i j = true :=
  dil_mono d b (fun x y hxy => (look_addFree_s d b st x y).mpr ⟨hbnd.1 x y hxy, Or.inl hxy⟩) h

theorem validS_survives (hs : Sym b) {ti tj : Nat} (hv : look (derive d b st).validS ti tj = true) :
    look (dil d b (dil d b (addFree d b st).v)) ti tj = false := by
  obtain ⟨hin, himp, -⟩ := (validS_iff d b st ti tj).mp hv
  refine look_dil_false.mpr fun _ pi pj hp hcp => ?_
  obtain ⟨hpin, ui, uj, hu, hcu⟩ := (look_dil d b _ pi pj).mp hp
  obtain ⟨huin, huv | huf⟩ := (look_addFree_s d b st.swap ui uj).mp hu
  · -- an existing void touch: the touch was impossible before
    exact look_dil_false.mp himp hin pi pj ((look_dil d b _ pi pj).mpr ⟨hpin, ui, uj, huv, hcu⟩) hcp
  · -- a free void touch avoids every pixel a valid solid touch covers
    refine look_dil_false.mp ((freeS_iff d b st.swap ui uj).mp huf).2 huin pi pj ?_ (cov_symm hs hcu)
    show look (orT d (possS d b st) (dil d b st.s)) pi pj = true
    rw [look_orT, hpin, (possS_iff d b st pi pj).mpr ⟨hpin, ti, tj, hin, Or.inr hv, cov_symm hs hcp⟩]
    rfl

/-- case 1 does not change the possibly-solid pixels: free touches were candidates, no candidate is lost -/
theorem possS_addFree (hs : Sym b) (hbnd : Bnd d st) : possS d b (addFree d b st) = possS d b st := by
  refine dil_congr d b fun i j => ?_
  rw [cand_iff, cand_iff, look_addFree_s]
  constructor
  · rintro ⟨hin, ⟨-, hS | hF⟩ | hI⟩
    · exact ⟨hin, Or.inl hS⟩
    · exact ⟨hin, Or.inr ((validS_iff d b st i j).mp ((freeS_iff d b st i j).mp hF).1).2.1⟩
    · refine ⟨hin, Or.inr (Bool.eq_false_iff.mpr fun h => Bool.eq_false_iff.mp hI ?_)⟩
      exact dil_mono d b (fun x y hxy => pix_addFree (st := st.swap) hbnd.swap hxy) h
  · rintro ⟨hin, hS | hI⟩
    · exact ⟨hin, Or.inl ⟨hin, Or.inl hS⟩⟩
    · cases hS : look st.s i j
      · exact ⟨hin, Or.inr (validS_survives hs ((validS_iff d b st i j).mpr ⟨hin, hI, hS⟩))⟩
      · exact ⟨hin, Or.inl ⟨hin, Or.inl rfl⟩⟩

/-- case 1 creates no required pixel: the solid pixels grow, the possibly-void pixels stay -/
theorem reqS_addFree (hs : Sym b) (hbnd : Bnd d st) (h : ∀ i j, look (reqS d b st) i j = false) (i j : Nat) :
    look (reqS d b (addFree d b st)) i j = false := by
  refine Bool.eq_false_iff.mpr fun hc => Bool.eq_false_iff.mp (h i j) ?_
  obtain ⟨hin, h1, h2⟩ := (reqS_iff d b _ i j).mp hc
  rw [← addFree_swap, possS_addFree hs hbnd.swap] at h2
  exact (reqS_iff d b st i j).mpr ⟨hin, Bool.eq_false_iff.mpr fun hp => Bool.eq_false_iff.mp h1 (pix_addFree hbnd hp), h2⟩

theorem inv_addFree (hs : Sym b) (hbnd : Bnd d st) (hJ : Jinv d b st) (hI : Iinv d b st) :
    Jinv d b (addFree d b st) ∧ Iinv d b (addFree d b st) := by
  refine ⟨fun i j hin => ?_, hI.imp (reqS_addFree hs hbnd) (reqS_addFree (st := st.swap) hs hbnd.swap)⟩
  rw [possS_addFree hs hbnd, ← addFree_swap, possS_addFree hs hbnd.swap]
  exact hJ i j hin

end Fdtdx.C25
