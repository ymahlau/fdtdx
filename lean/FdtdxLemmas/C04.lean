/-
Helper lemmas for C04.  The fuelled loop of `FdtdxModel/C04.lean` is the bounded while loop of `FdtdxModel/C05.lean`, so
both the reverse loop (a loop on a counter, `C05.whileLoop_countdown`) and the forward slices (`C05.whileLoop_eq_iterate`)
are iterates of their bodies.  On that footing:
the reverse-loop invariant (one reverse step at a state that agrees with the true one is the exact step VJP), the
schedule of the reverse loop, the forward pass with checkpoints, and the slice boundaries (those of C05).
-/
import FdtdxModel.C04
import FdtdxLemmas.C05

namespace Fdtdx.C04

variable {S F P CS CP CP' : Type}

/-! ### the fuelled loop -/

theorem whileFuel_zero {σ : Type} (cond : σ → Bool) (body : σ → σ) (x : σ) : whileFuel cond body 0 x = x := rfl

theorem whileFuel_eq_whileLoop {σ : Type} (cond : σ → Bool) (body : σ → σ) (n : Nat) (x : σ) :
    whileFuel cond body n x = C05.whileLoop cond body n x := by
  induction n generalizing x with
  | zero => rfl
  | succ n ih => rw [whileFuel, C05.whileLoop, ih]

/-! ### hypotheses of the gradient theorem -/

/-- What the reverse loop needs from the system, relative to an agreement relation on states (`agree ŝ s`: the
reconstructed state `ŝ` is as good as the true state `s`) and a projection `π` of parameter cotangents (the cells
at which the gradient is claimed). -/
structure Hyp (sys : Sys S F P CS CP) (p : P) (agree : S → S → Prop) (π : CP → CP') (addP' : CP' → CP' → CP') : Prop where
  /-- Aᵀ is the same at agreeing states -/
  vjpS_agree : ∀ (n : Nat) ŝ s c, agree ŝ s → sys.vjpS n ŝ p c = sys.vjpS n s p c
  /-- the claimed part of Bᵀ is the same at agreeing states -/
  vjpP_agree : ∀ (n : Nat) ŝ s c, agree ŝ s → π (sys.vjpP n ŝ p c) = π (sys.vjpP n s p c)
  /-- one reverse step: agreement with the state after step `n` gives agreement with the state before it -/
  g_agree : ∀ (n : Nat) ŝ s, agree ŝ (sys.f n s p) → agree (sys.g n ŝ p) s
  /-- replacing the fields of an agreeing state by the true fields keeps agreement -/
  setF_agree : ∀ ŝ s, agree ŝ s → agree (sys.setF ŝ (sys.getF s)) s
  π_add : ∀ a b, π (sys.addP a b) = addP' (π a) (π b)

/-- every checkpoint that can fire at a time step `n ≥ 0` holds the true fields of that time step -/
def CksOK (sys : Sys S F P CS CP) (p : P) (s0 : S) (cks : List (Int × F)) : Prop :=
  ∀ ck ∈ cks, ∀ n : Nat, ck.1 = (n : Int) → ck.2 = sys.getF (traj sys p s0 n)

/-- `Hyp` restricted to the states of the true forward trajectory of a `T`-step run: everything is only required
where the reverse loop actually evaluates it.  (A concrete step is invertible only on states satisfying its wall
conditions, and the PML reverse step reads the recording of the forward run it undoes.) -/
structure HypTraj (sys : Sys S F P CS CP) (p : P) (s0 : S) (T : Nat) (agree : S → S → Prop) (π : CP → CP')
    (addP' : CP' → CP' → CP') : Prop where
  vjpS_agree : ∀ n, n < T → ∀ ŝ c, agree ŝ (traj sys p s0 n) → sys.vjpS n ŝ p c = sys.vjpS n (traj sys p s0 n) p c
  vjpP_agree : ∀ n, n < T → ∀ ŝ c, agree ŝ (traj sys p s0 n) →
    π (sys.vjpP n ŝ p c) = π (sys.vjpP n (traj sys p s0 n) p c)
  g_agree : ∀ n, n < T → ∀ ŝ, agree ŝ (traj sys p s0 (n + 1)) → agree (sys.g n ŝ p) (traj sys p s0 n)
  setF_agree : ∀ n, n ≤ T → ∀ ŝ, agree ŝ (traj sys p s0 n) →
    agree (sys.setF ŝ (sys.getF (traj sys p s0 n))) (traj sys p s0 n)
  π_add : ∀ a b, π (sys.addP a b) = addP' (π a) (π b)

theorem Hyp.toTraj {sys : Sys S F P CS CP} {p : P} {agree : S → S → Prop} {π : CP → CP'}
    {addP' : CP' → CP' → CP'} (h : Hyp sys p agree π addP') (s0 : S) (T : Nat) : HypTraj sys p s0 T agree π addP' :=
  { vjpS_agree := fun n _ ŝ c ha => h.vjpS_agree n ŝ _ c ha
    vjpP_agree := fun n _ ŝ c ha => h.vjpP_agree n ŝ _ c ha
    g_agree := fun n _ ŝ ha => h.g_agree n ŝ _ ha
    setF_agree := fun _ _ ŝ ha => h.setF_agree ŝ _ ha
    π_add := h.π_add }

/-- a reverse step that inverts the forward step at the states of the true trajectory (with `setF ∘ getF = id`) meets
the hypotheses with equality as agreement and the whole parameter cotangent claimed -/
theorem HypTraj.of_inverse (sys : Sys S F P CS CP) (p : P) (s0 : S) (T : Nat)
    (hinv : ∀ n : Nat, n < T → sys.g n (traj sys p s0 (n + 1)) p = traj sys p s0 n)
    (hlens : ∀ s : S, sys.setF s (sys.getF s) = s) :
    HypTraj sys p s0 T (fun a b => a = b) (fun c : CP => c) sys.addP :=
  { vjpS_agree := fun _ _ _ _ e => by rw [e]
    vjpP_agree := fun _ _ _ _ e => by rw [e]
    g_agree := fun n hn _ e => by rw [e]; exact hinv n hn
    setF_agree := fun _ _ _ e => by rw [e]; exact hlens _
    π_add := fun _ _ => rfl }

theorem applyCheckpoints_agree_traj {sys : Sys S F P CS CP} {p : P} {s0 : S} {T : Nat} {agree : S → S → Prop}
    {π : CP → CP'} {addP' : CP' → CP' → CP'} (h : HypTraj sys p s0 T agree π addP') (n : Nat) (hn : n ≤ T)
    (cks : List (Int × F)) (ŝ : S) (hck : CksOK sys p s0 cks) (ha : agree ŝ (traj sys p s0 n)) :
    agree (applyCheckpoints sys cks (n : Int) ŝ) (traj sys p s0 n) := by
  induction cks generalizing ŝ with
  | nil => exact ha
  | cons ck rest ih =>
    refine ih (if (n : Int) = ck.1 then sys.setF ŝ ck.2 else ŝ) (fun c hc => hck c (List.mem_cons_of_mem _ hc)) ?_
    by_cases ht : (n : Int) = ck.1
    · rw [if_pos ht, hck ck List.mem_cons_self n ht.symm]
      exact h.setF_agree n hn _ ha
    · rw [if_neg ht]
      exact ha

/-! ### the reverse loop -/

theorem reverseBody_log (sys : Sys S F P CS CP) (p : P) (cks : List (Int × F)) (c : Carry S CS CP) :
    (reverseBody sys p cks c).log = c.log ++ [Ev.bwd c.t, Ev.vjp (c.t - 1)] := rfl

section reverse
variable (sys : Sys S F P CS CP) (p : P) (cks : List (Int × F)) (c : Carry S CS CP)

theorem reverseBody_t : (reverseBody sys p cks c).t = c.t - 1 := rfl

theorem reverseBody_s : (reverseBody sys p cks c).s = sys.g (c.t - 1) (applyCheckpoints sys cks c.t c.s) p := rfl

theorem reverseBody_cs : (reverseBody sys p cks c).cs = sys.vjpS (c.t - 1) (reverseBody sys p cks c).s p c.cs := rfl

theorem reverseBody_cp :
    (reverseBody sys p cks c).cp = sys.addP c.cp (sys.vjpP (c.t - 1) (reverseBody sys p cks c).s p c.cs) := rfl

theorem reverseBody_iterate_t (n : Nat) : ((reverseBody sys p cks)^[n] c).t = c.t - n := by
  induction n generalizing c with
  | zero => exact (Int.sub_zero _).symm
  | succ n ih => rw [Function.iterate_succ_apply, ih, reverseBody_t]; omega

/-- the reverse loop of `fdtd_bwd` from time step `T ≥ 0` is its body executed `T` times: the condition `time_step > 0`
fails first after `T` executions, and the fuel `T + 2` is not reached … -/
theorem fdtdBwd_eq_iterate (T : Nat) (ht : c.t = (T : Int)) :
    fdtdBwd sys p cks c = (reverseBody sys p cks)^[T] c := by
  unfold fdtdBwd fdtdBwdWith
  rw [whileFuel_eq_whileLoop, C05.whileLoop_countdown condFixed _ (fun c => c.t.toNat)
    (fun _ => decide_eq_true_iff.trans Int.pos_iff_toNat_pos) (fun c => Int.toNat_sub' c.t 1) _ c
    (Int.toNat_le_toNat (Int.le_add_of_nonneg_right (by decide))), ht]
  rfl

/-- … and as found (`time_step >= 0`) once more -/
theorem asFound_fdtdBwd_eq_iterate (T : Nat) (ht : c.t = (T : Int)) :
    AsFound.fdtdBwd sys p cks c = (reverseBody sys p cks)^[T + 1] c := by
  unfold AsFound.fdtdBwd fdtdBwdWith
  rw [whileFuel_eq_whileLoop, C05.whileLoop_countdown AsFound.cond _ (fun c => (c.t + 1).toNat)
    (fun _ => decide_eq_true_iff.trans (Int.lt_add_one_iff.symm.trans Int.pos_iff_toNat_pos))
    (fun c => by rw [reverseBody_t, Int.sub_add_cancel]; omega) _ c
    (Int.toNat_le_toNat (Int.add_le_add_left (by decide) c.t)), ht, Int.toNat_natCast_add_one]

end reverse

section invariant
variable {sys : Sys S F P CS CP} {p : P} {s0 : S} {T : Nat} {agree : S → S → Prop} {π : CP → CP'}
  {addP' : CP' → CP' → CP'} {cks : List (Int × F)}

/-- one reverse step from a state that agrees with the true state at `n + 1`: the reconstructed state agrees with the
true state at `n`, so the step VJP taken there is the exact one (parameter part: under `π`) -/
theorem reverseBody_step (h : HypTraj sys p s0 T agree π addP') (hck : CksOK sys p s0 cks) (n : Nat) (hn : n < T)
    (c : Carry S CS CP) (ht : c.t = ((n + 1 : Nat) : Int)) (ha : agree c.s (traj sys p s0 (n + 1))) :
    (reverseBody sys p cks c).t = (n : Int) ∧ agree (reverseBody sys p cks c).s (traj sys p s0 n)
    ∧ (reverseBody sys p cks c).cs = sys.vjpS n (traj sys p s0 n) p c.cs
    ∧ π (reverseBody sys p cks c).cp = addP' (π c.cp) (π (sys.vjpP n (traj sys p s0 n) p c.cs)) := by
  have ht' : c.t - 1 = (n : Int) := by omega
  have ha' : agree (reverseBody sys p cks c).s (traj sys p s0 n) := by
    rw [reverseBody_s, ht', ht]
    exact h.g_agree n hn _ (applyCheckpoints_agree_traj h (n + 1) hn cks c.s hck ha)
  refine ⟨ht', ha', ?_, ?_⟩
  · rw [reverseBody_cs, ht']
    exact h.vjpS_agree n hn _ _ ha'
  · rw [reverseBody_cp, h.π_add, ht', h.vjpP_agree n hn _ _ ha']

/-- Invariant of the reverse loop, by induction on the time step: `n ≤ T` body executions from time step `n`, from a
state that agrees with the true one and a parameter cotangent that is the given one under `π`, give the exact
reverse-mode result and a state that agrees with the initial one. -/
theorem reverseBody_iterate (h : HypTraj sys p s0 T agree π addP') (hck : CksOK sys p s0 cks) (n : Nat) (hn : n ≤ T)
    (c : Carry S CS CP) (e : CP) (ht : c.t = (n : Int)) (ha : agree c.s (traj sys p s0 n)) (hcp : π c.cp = π e) :
    ((reverseBody sys p cks)^[n] c).cs = (exactBwd sys p s0 n (c.cs, e)).1
    ∧ π ((reverseBody sys p cks)^[n] c).cp = π (exactBwd sys p s0 n (c.cs, e)).2
    ∧ agree ((reverseBody sys p cks)^[n] c).s s0 := by
  induction n generalizing c e with
  | zero => exact ⟨rfl, hcp, ha⟩
  | succ n ih =>
    obtain ⟨h1, h2, h3, h4⟩ := reverseBody_step h hck n hn c ht ha
    have key := ih (Nat.le_of_succ_le hn) (reverseBody sys p cks c) (sys.addP e (sys.vjpP n (traj sys p s0 n) p c.cs))
      h1 h2 (by rw [h4, h.π_add, hcp])
    rw [h3] at key
    exact key

end invariant

/-! ### schedule of the reverse loop -/

/-- `[T-1, T-2, …, 0]` -/
def countdown : Nat → List Int
  | 0 => []
  | n + 1 => (n : Int) :: countdown n

theorem stepsVisited_reverseBody (sys : Sys S F P CS CP) (p : P) (cks : List (Int × F)) (c : Carry S CS CP) :
    stepsVisited (reverseBody sys p cks c) = stepsVisited c ++ [c.t - 1] := by
  rw [stepsVisited, reverseBody_log, List.filterMap_append]
  rfl

theorem stepsVisited_iterate (sys : Sys S F P CS CP) (p : P) (cks : List (Int × F)) (n : Nat) (c : Carry S CS CP)
    (ht : c.t = (n : Int)) :
    stepsVisited ((reverseBody sys p cks)^[n] c) = stepsVisited c ++ countdown n := by
  induction n generalizing c with
  | zero => exact (List.append_nil _).symm
  | succ n ih =>
    have ht' : c.t - 1 = (n : Int) := by omega
    rw [Function.iterate_succ_apply, ih _ ht', stepsVisited_reverseBody, ht', List.append_assoc]
    rfl

/-! ### forward pass -/

theorem fwdBody_iterate (sys : Sys S F P CS CP) (p : P) (s0 : S) (lo d : Nat) :
    (fun x : Int × S => (x.1 + 1, sys.f x.1 x.2 p))^[d] ((lo : Int), traj sys p s0 lo) =
      (((lo + d : Nat) : Int), traj sys p s0 (lo + d)) := by
  induction d with
  | zero => rfl
  | succ d ih => rw [Function.iterate_succ_apply', ih]; rfl

theorem fwdLoop_spec (sys : Sys S F P CS CP) (p : P) (s0 : S) (lo hi : Nat) (h : lo ≤ hi) :
    fwdLoop sys p (hi : Int) (hi - lo) ((lo : Int), traj sys p s0 lo) = ((hi : Int), traj sys p s0 hi) := by
  obtain ⟨d, rfl⟩ := Nat.exists_eq_add_of_le h
  rw [Nat.add_sub_cancel_left, ← fwdBody_iterate, fwdLoop, whileFuel_eq_whileLoop]
  refine C05.whileLoop_eq_iterate _ _ d _ d (Nat.le_refl d) (fun j hj => ?_) (Or.inl rfl)
  rw [fwdBody_iterate, decide_eq_true_eq]
  exact Int.ofNat_lt.mpr (Nat.add_lt_add_left hj lo)

/-- `segmented_forward` on a monotone boundary list starting at 0: after the first `m ≤ k` slices the state is the true
one at `b m`, and each of these slices except the `k`-th has left a checkpoint -/
theorem segmentedForward_prefix (sys : Sys S F P CS CP) (p : P) (s0 : S) (b : List Nat) (k : Nat)
    (h0 : b.getD 0 0 = 0) (hmono : ∀ i, i < k → b.getD i 0 ≤ b.getD (i + 1) 0) (m : Nat) (hm : m ≤ k) :
    (List.range m).foldl (fun (acc : (Int × S) × List F) seg =>
        let hi := b.getD (seg + 1) 0
        let lo := b.getD seg 0
        let st := fwdLoop sys p (hi : Int) (hi - lo) acc.1
        (st, if seg + 1 < k then acc.2 ++ [sys.getF st.2] else acc.2))
      (((0 : Int), s0), []) =
    ((((b.getD m 0 : Nat) : Int), traj sys p s0 (b.getD m 0)),
      (List.range (min m (k - 1))).map (fun i => sys.getF (traj sys p s0 (b.getD (i + 1) 0)))) := by
  induction m with
  | zero => rw [List.range_zero, List.foldl_nil, h0, Nat.zero_min]; rfl
  | succ m ih =>
    rw [List.range_succ, List.foldl_append, ih (Nat.le_of_succ_le hm)]
    simp only [List.foldl_cons, List.foldl_nil]
    rw [fwdLoop_spec sys p s0 _ _ (hmono m hm)]
    by_cases hlast : m + 1 < k
    · rw [if_pos hlast, Nat.min_eq_left (Nat.le_sub_one_of_lt hlast),
        Nat.min_eq_left (Nat.le_sub_one_of_lt (Nat.lt_of_succ_lt hlast)), List.range_succ, List.map_append]
      rfl
    · obtain rfl : k = m + 1 := Nat.le_antisymm (Nat.le_of_not_lt hlast) hm
      rw [if_neg hlast, Nat.add_sub_cancel, Nat.min_eq_right (Nat.le_succ m), Nat.min_self]

theorem segmentedForward_spec (sys : Sys S F P CS CP) (p : P) (s0 : S) (b : List Nat) (k : Nat)
    (hb : b.length = k + 1) (h0 : b.getD 0 0 = 0) (hmono : ∀ i, i < k → b.getD i 0 ≤ b.getD (i + 1) 0) :
    segmentedForward sys p b s0 =
      ((((b.getD k 0 : Nat) : Int), traj sys p s0 (b.getD k 0)),
        (List.range (k - 1)).map (fun i => sys.getF (traj sys p s0 (b.getD (i + 1) 0)))) := by
  have hk : b.length - 1 = k := by rw [hb]; rfl
  unfold segmentedForward
  simp only [hk]
  rw [segmentedForward_prefix sys p s0 b k h0 hmono k (Nat.le_refl k), Nat.min_eq_right (Nat.sub_le k 1)]

/-! ### slice boundaries: those of C05 -/

theorem roundDiv_eq (a k : Nat) : roundDiv a k = C05.roundHalfEven a k := rfl

theorem sliceBoundaries_length (T k : Nat) : (sliceBoundaries T k).length = k + 1 := by
  simp [sliceBoundaries]

theorem sliceBoundaries_getD (T k i : Nat) (hi : i ≤ k) : (sliceBoundaries T k).getD i 0 = C05.boundary T k i := by
  have h1 : (List.range (k + 1))[i]? = some i := List.getElem?_range (by omega)
  simp [List.getD_eq_getElem?_getD, sliceBoundaries, h1, C05.boundary, roundDiv_eq]

/-- `slice_boundaries[1:-1]` by index -/
theorem checkpointTimes_eq (T k : Nat) :
    checkpointTimes T k = (List.range (k - 1)).map (fun i => C05.boundary T k (i + 1)) := by
  have hr : (List.range k).dropLast = List.range (k - 1) := by
    cases k with
    | zero => rfl
    | succ k => rw [List.range_succ, List.dropLast_concat]; rfl
  unfold checkpointTimes sliceBoundaries
  rw [List.range_succ_eq_map, List.map_cons, List.drop_one, List.tail_cons, List.map_map, ← List.map_dropLast, hr]
  rfl

theorem cksOK_zip (sys : Sys S F P CS CP) (p : P) (s0 : S) (ts : List Nat) :
    CksOK sys p s0 ((ts.map (fun (n : Nat) => (n : Int))).zip (ts.map (fun n => sys.getF (traj sys p s0 n)))) := by
  intro ck h n hn
  rw [List.zip_map'] at h
  obtain ⟨t, -, rfl⟩ := List.mem_map.mp h
  rw [Int.ofNat_inj.mp hn]

end Fdtdx.C04
