/- C23 helper lemmas for `connect_slice`: the bounded in-slice flood (`flood2`) is monotone and only adds 4-neighbours
inside its mask; consequences for the arrays computed by `connectSlice`. Slices are arrays of shape (nx, ny, nz') read at
z = 0. -/
import FdtdxLemmas.C23Flood

namespace Fdtdx.C23

/-- 2-D view of a slice -/
def V (t : Tab) : Nat → Nat → Bool := fun i j => look t i j 0

theorem V_tab (s2 : Shape) (f : Img) (i j : Nat) : V (tab s2 f) i j = (inb s2 i j 0 && f i j 0) :=
  look_tab s2 f i j 0

/-- one round of the in-slice flood -/
def R (s2 : Shape) (mask q : Tab) : Tab := tab s2 fun i j k => dilXY (look q) i j k && look mask i j k

theorem flood2_eq (s2 : Shape) (mask : Tab) (n : Nat) (p : Tab) : flood2 s2 mask n p = iterN (R s2 mask) n p := rfl

theorem flood2_succ (s2 : Shape) (mask : Tab) (n : Nat) (p : Tab) :
    flood2 s2 mask (n + 1) p = R s2 mask (flood2 s2 mask n p) :=
  iterN_succ' (R s2 mask) n p

theorem V_R {s2 : Shape} {mask q : Tab} {i j : Nat} :
    V (R s2 mask q) i j = true ↔ inb s2 i j 0 = true ∧ dilXY (look q) i j 0 = true ∧ V mask i j = true := by
  rw [R, V_tab]; exact masked_iff

/-- a set lying in the mask and in the slice -/
def Ins (s2 : Shape) (mask q : Tab) : Prop := ∀ i j, V q i j = true → V mask i j = true ∧ inb s2 i j 0 = true

theorem R_ins (s2 : Shape) (mask q : Tab) : Ins s2 mask (R s2 mask q) := fun _ _ h =>
  ⟨(V_R.mp h).2.2, (V_R.mp h).1⟩

theorem R_ge {s2 : Shape} {mask q : Tab} (hq : Ins s2 mask q) (i j : Nat) (h : V q i j = true) :
    V (R s2 mask q) i j = true :=
  V_R.mpr ⟨(hq i j h).2, (dilXY_iff _ i j 0).mpr (.inl h), (hq i j h).1⟩

theorem R_sound {s2 : Shape} {mask q : Tab} {i j : Nat} (h : V (R s2 mask q) i j = true) :
    V q i j = true ∨ ∃ i' j', Adj4 i' j' i j ∧ V q i' j' = true :=
  (dilXY_iff _ i j 0).mp (V_R.mp h).2.1

section flood
variable {s2 : Shape} {mask p : Tab}

theorem flood_ins (hp : Ins s2 mask p) (n : Nat) : Ins s2 mask (flood2 s2 mask n p) :=
  iterN_induction (fun q _ => R_ins s2 mask q) n p hp

theorem flood_mono (hp : Ins s2 mask p) {k n : Nat} (hkn : k ≤ n) (i j : Nat)
    (h : V (flood2 s2 mask k p) i j = true) : V (flood2 s2 mask n p) i j = true := by
  induction hkn with
  | refl => exact h
  | step _ ih => rw [flood2_succ]; exact R_ge (flood_ins hp _) i j ih

theorem flood_ge (hp : Ins s2 mask p) (n : Nat) (i j : Nat) (h : V p i j = true) :
    V (flood2 s2 mask n p) i j = true := flood_mono hp (Nat.zero_le n) i j h

/-- everything the flood reaches satisfies `G` if the start does and `G` is closed under 4-adjacency inside the result -/
theorem flood_grounded (hp : Ins s2 mask p) (n : Nat) (G : Nat → Nat → Prop)
    (h0 : ∀ i j, V p i j = true → G i j)
    (hstep : ∀ i' j' i j, G i' j' → Adj4 i' j' i j → V (flood2 s2 mask n p) i j = true → G i j) :
    ∀ i j, V (flood2 s2 mask n p) i j = true → G i j := by
  have key : ∀ k, k ≤ n → ∀ i j, V (flood2 s2 mask k p) i j = true → G i j := by
    intro k
    induction k with
    | zero => intro _ i j h; exact h0 i j h
    | succ k ih =>
      intro hk i j h
      have hfin := flood_mono hp hk i j h
      rw [flood2_succ] at h
      rcases R_sound h with h1 | ⟨i', j', hadj, h1⟩
      · exact ih (by omega) i j h1
      · exact hstep i' j' i j (ih (by omega) i' j' h1) hadj hfin
  exact key n (Nat.le_refl n)

theorem flood_nbr {k : Nat} {i j i' j' : Nat} (h : V (flood2 s2 mask k p) i' j' = true)
    (hadj : Adj4 i' j' i j) (hm : V mask i j = true) (hin : inb s2 i j 0 = true) :
    V (flood2 s2 mask (k + 1) p) i j = true := by
  rw [flood2_succ]; exact V_R.mpr ⟨hin, (dilXY_iff _ i j 0).mpr (.inr ⟨i', j', hadj, h⟩), hm⟩

/-- a 4-neighbour (inside the mask) of a start cell is reached as soon as there is one round -/
theorem flood_reach1 (hp : Ins s2 mask p) {n : Nat} (hn : 1 ≤ n) {i j i' j' : Nat} (h : V p i' j' = true)
    (hadj : Adj4 i' j' i j) (hm : V mask i j = true) (hin : inb s2 i j 0 = true) :
    V (flood2 s2 mask n p) i j = true :=
  flood_mono hp hn i j (flood_nbr (k := 0) h hadj hm hin)

/-- … and a neighbour of a neighbour with two rounds -/
theorem flood_reach2 (hp : Ins s2 mask p) {n : Nat} (hn : 2 ≤ n) {i j i' j' i'' j'' : Nat} (h : V p i'' j'' = true)
    (hadj1 : Adj4 i'' j'' i' j') (hm1 : V mask i' j' = true) (hin1 : inb s2 i' j' 0 = true)
    (hadj : Adj4 i' j' i j) (hm : V mask i j = true) (hin : inb s2 i j 0 = true) :
    V (flood2 s2 mask n p) i j = true :=
  flood_mono hp hn i j (flood_nbr (flood_nbr (k := 0) h hadj1 hm1 hin1) hadj hm hin)

end flood

/-! ### 8-neighbourhood -/

/-- within distance one in both coordinates (8-neighbourhood or the cell itself) -/
def Near (i' j' i j : Nat) : Prop := (i' = i ∨ i' = i + 1 ∨ i = i' + 1) ∧ (j' = j ∨ j' = j + 1 ∨ j = j' + 1)

/-- the same cell, an edge neighbour, or a corner neighbour, which is joined through the corner cell `(i', j)` -/
theorem Near.cases {i' j' i j : Nat} : Near i' j' i j →
    (i' = i ∧ j' = j) ∨ Adj4 i' j' i j ∨ (i' ≠ i ∧ Adj4 i' j' i' j ∧ Adj4 i' j i j ∧ Near i' j' i' j)
  | ⟨.inl hi, .inl hj⟩ => .inl ⟨hi, hj⟩
  | ⟨.inl hi, .inr hj⟩ => .inr (.inl (.inl ⟨hi, hj⟩))
  | ⟨.inr hi, .inl hj⟩ => .inr (.inl (.inr ⟨hj, hi⟩))
  | ⟨.inr hi, .inr hj⟩ => .inr (.inr ⟨by omega, .inl ⟨rfl, hj⟩, .inr ⟨rfl, hi⟩, .inl rfl, .inr hj⟩)

theorem row3_iff (f : Nat → Bool) (j : Nat) :
    (f j || (decide (0 < j) && f (j - 1)) || f (j + 1)) = true ↔
      ∃ j', (j' = j ∨ j' = j + 1 ∨ j = j' + 1) ∧ f j' = true := by
  simp only [Bool.or_eq_true, pred_and_iff]
  constructor
  · rintro ((h | ⟨j', rfl, h⟩) | h)
    · exact ⟨j, .inl rfl, h⟩
    · exact ⟨j', .inr (.inr rfl), h⟩
    · exact ⟨j + 1, .inr (.inl rfl), h⟩
  · rintro ⟨j', rfl | rfl | rfl, h⟩
    · exact .inl (.inl h)
    · exact .inr h
    · exact .inl (.inr ⟨j', rfl, h⟩)

theorem dil8_iff (a : Img) (i j : Nat) :
    dil8 a i j 0 = true ↔ ∃ i' j', Near i' j' i j ∧ a i' j' 0 = true := by
  unfold dil8
  simp only []
  rw [row3_iff (fun ii => a ii j 0 || (decide (0 < j) && a ii (j - 1) 0) || a ii (j + 1) 0) i]
  constructor
  · rintro ⟨i', hi, h⟩
    obtain ⟨j', hj, h'⟩ := (row3_iff (fun jj => a i' jj 0) j).mp h
    exact ⟨i', j', ⟨hi, hj⟩, h'⟩
  · rintro ⟨i', j', ⟨hi, hj⟩, h⟩
    exact ⟨i', hi, (row3_iff (fun jj => a i' jj 0) j).mpr ⟨j', hj, h⟩⟩

/-! ### the arrays of `connectSlice`, named -/

section cs
variable (s2 : Shape) (lower middle upper save : Tab)

def csN : Nat := max s2.nx s2.ny
def csCp0 : Tab := tab s2 fun i j k => (look upper i j k && look middle i j k) || look save i j k
def csCp1 : Tab := flood2 s2 upper (csN s2) (csCp0 s2 middle upper save)
def csNonc1 : Tab := tab s2 fun i j k => !(!look upper i j k || look (csCp1 s2 middle upper save) i j k)
def csByLower : Tab := tab s2 fun i j k =>
  look (csNonc1 s2 middle upper save) i j k && (dilXY (look middle) i j k || look lower i j k)
def csMiddle' : Tab := tab s2 fun i j k => look middle i j k || look (csByLower s2 lower middle upper save) i j k
def csCp1' : Tab := tab s2 fun i j k =>
  look (csCp1 s2 middle upper save) i j k || look (csByLower s2 lower middle upper save) i j k
def csCp2 : Tab := flood2 s2 upper (csN s2) (csCp1' s2 lower middle upper save)
def csNonc2 : Tab := tab s2 fun i j k => !(!look upper i j k || look (csCp2 s2 lower middle upper save) i j k)
def csRegion : Tab := tab s2 fun i j k => dil8 (look (csCp2 s2 lower middle upper save)) i j k
def csByUpper : Tab := tab s2 fun i j k =>
  look (csNonc2 s2 lower middle upper save) i j k && look (csRegion s2 lower middle upper save) i j k
def csValid : Tab := tab s2 fun i j k =>
  look (csRegion s2 lower middle upper save) i j k && shifts4 (look (csByUpper s2 lower middle upper save)) i j k
def csUpper' : Tab := tab s2 fun i j k => look upper i j k || look (csValid s2 lower middle upper save) i j k
def csCp3 : Tab := flood2 s2 (csUpper' s2 lower middle upper save) (csN s2) (csCp2 s2 lower middle upper save)
def csNonc3 : Tab := tab s2 fun i j k => !(!look upper i j k || look (csCp3 s2 lower middle upper save) i j k)
def csUpper'' : Tab := tab s2 fun i j k =>
  look (csUpper' s2 lower middle upper save) i j k && !look (csNonc3 s2 lower middle upper save) i j k

theorem connectSlice_eq :
    connectSlice s2 lower middle upper save =
      (csMiddle' s2 lower middle upper save, csUpper'' s2 lower middle upper save) := rfl

end cs

/-! what each of them holds at a cell of the slice -/

section cells
variable {s2 : Shape} {lower middle upper save : Tab} {i j : Nat}

theorem lt_csN (h : inb s2 i j 0 = true) : i < csN s2 :=
  Nat.lt_of_lt_of_le (inb_iff.mp h).1 (Nat.le_max_left _ _)

/-- `!(!u || c)`, the cells of the upper slice that a flood has not connected -/
theorem nonc_iff {u c : Bool} : (!(!u || c)) = true ↔ u = true ∧ c = false := by
  cases u <;> cases c <;> decide

/-- `b && (p && !(b && !(!u || c)))`: of the widened upper slice, what is original must have been connected -/
theorem kept_iff {b p u c : Bool} :
    (b && (p && !(b && !(!u || c)))) = true ↔ b = true ∧ p = true ∧ ¬ (u = true ∧ c = false) := by
  cases b <;> cases p <;> cases u <;> cases c <;> decide

theorem V_csCp0 : V (csCp0 s2 middle upper save) i j = true ↔
    inb s2 i j 0 = true ∧ (V upper i j = true ∧ V middle i j = true ∨ V save i j = true) := by
  rw [csCp0, V_tab, Bool.and_eq_true, Bool.or_eq_true, Bool.and_eq_true]; rfl

theorem V_csByLower : V (csByLower s2 lower middle upper save) i j = true ↔
    inb s2 i j 0 = true ∧ (V upper i j = true ∧ V (csCp1 s2 middle upper save) i j = false) ∧
      (dilXY (look middle) i j 0 = true ∨ V lower i j = true) := by
  rw [csByLower, V_tab, csNonc1, look_tab]
  simp only [Bool.and_eq_true, Bool.or_eq_true, nonc_iff, V, and_assoc, and_self_left]

theorem V_csMiddle' : V (csMiddle' s2 lower middle upper save) i j = true ↔
    inb s2 i j 0 = true ∧ (V middle i j = true ∨ V (csByLower s2 lower middle upper save) i j = true) := by
  rw [csMiddle', V_tab, Bool.and_eq_true, Bool.or_eq_true]; rfl

theorem V_csCp1' : V (csCp1' s2 lower middle upper save) i j = true ↔ inb s2 i j 0 = true ∧
    (V (csCp1 s2 middle upper save) i j = true ∨ V (csByLower s2 lower middle upper save) i j = true) := by
  rw [csCp1', V_tab, Bool.and_eq_true, Bool.or_eq_true]; rfl

theorem V_csByUpper : V (csByUpper s2 lower middle upper save) i j = true ↔
    inb s2 i j 0 = true ∧ (V upper i j = true ∧ V (csCp2 s2 lower middle upper save) i j = false) ∧
      dil8 (look (csCp2 s2 lower middle upper save)) i j 0 = true := by
  rw [csByUpper, V_tab, csNonc2, csRegion, look_tab, look_tab]
  simp only [Bool.and_eq_true, nonc_iff, V]
  exact ⟨fun h => ⟨h.1, h.2.1.2, h.2.2.2⟩, fun h => ⟨h.1, ⟨h.1, h.2.1⟩, h.1, h.2.2⟩⟩

theorem V_csValid : V (csValid s2 lower middle upper save) i j = true ↔
    inb s2 i j 0 = true ∧ dil8 (look (csCp2 s2 lower middle upper save)) i j 0 = true ∧
      shifts4 (look (csByUpper s2 lower middle upper save)) i j 0 = true := by
  rw [csValid, V_tab, csRegion, look_tab]
  simp only [Bool.and_eq_true, and_assoc, and_self_left]

theorem V_csUpper' : V (csUpper' s2 lower middle upper save) i j = true ↔ inb s2 i j 0 = true ∧
    (V upper i j = true ∨ V (csValid s2 lower middle upper save) i j = true) := by
  rw [csUpper', V_tab, Bool.and_eq_true, Bool.or_eq_true]; rfl

theorem upper_sub_upper' (hU : ∀ i j, V upper i j = true → inb s2 i j 0 = true) (h : V upper i j = true) :
    V (csUpper' s2 lower middle upper save) i j = true :=
  V_csUpper'.mpr ⟨hU i j h, .inl h⟩

theorem V_csUpper'' : V (csUpper'' s2 lower middle upper save) i j = true ↔ inb s2 i j 0 = true ∧
    V (csUpper' s2 lower middle upper save) i j = true ∧
      ¬ (V upper i j = true ∧ V (csCp3 s2 lower middle upper save) i j = false) := by
  rw [csUpper'', V_tab, csNonc3, look_tab]
  exact kept_iff

end cells

/-! ### what `connectSlice` guarantees -/

set_option linter.unusedSectionVars false

section guarantees
variable {s2 : Shape} {lower middle upper save : Tab}
variable (hS : ∀ i j, V save i j = true → V upper i j = true)
variable (hU : ∀ i j, V upper i j = true → inb s2 i j 0 = true)
include hS hU

theorem cp0_ins : Ins s2 upper (csCp0 s2 middle upper save) := fun i j h =>
  ⟨(V_csCp0.mp h).2.elim And.left (hS i j), (V_csCp0.mp h).1⟩

theorem cp1'_ins : Ins s2 upper (csCp1' s2 lower middle upper save) := fun i j h =>
  ⟨(V_csCp1'.mp h).2.elim (fun h => (flood_ins (cp0_ins hS hU) _ i j h).1) fun h => (V_csByLower.mp h).2.1.1,
    (V_csCp1'.mp h).1⟩

theorem cp2_ins_upper' : Ins s2 (csUpper' s2 lower middle upper save) (csCp2 s2 lower middle upper save) := fun i j h =>
  have := flood_ins (cp1'_ins hS hU) _ i j h
  ⟨upper_sub_upper' hU this.1, this.2⟩

/-! the connected set only grows from flood to flood, and all of it is returned -/

theorem cp3_sub_upper'' {i j : Nat} (h : V (csCp3 s2 lower middle upper save) i j = true) :
    V (csUpper'' s2 lower middle upper save) i j = true :=
  have := flood_ins (cp2_ins_upper' hS hU) _ i j h
  V_csUpper''.mpr ⟨this.2, this.1, fun hn => Bool.false_ne_true (hn.2.symm.trans h)⟩

theorem cp2_sub_cp3 {i j : Nat} (h : V (csCp2 s2 lower middle upper save) i j = true) :
    V (csCp3 s2 lower middle upper save) i j = true :=
  flood_ge (cp2_ins_upper' hS hU) _ i j h

theorem cp1'_sub_cp3 {i j : Nat} (h : V (csCp1' s2 lower middle upper save) i j = true) :
    V (csCp3 s2 lower middle upper save) i j = true :=
  cp2_sub_cp3 hS hU (flood_ge (cp1'_ins hS hU) _ i j h)

theorem cp1_sub_cp3 {i j : Nat} (h : V (csCp1 s2 middle upper save) i j = true) :
    V (csCp3 s2 lower middle upper save) i j = true :=
  cp1'_sub_cp3 hS hU (V_csCp1'.mpr ⟨(flood_ins (cp0_ins hS hU) _ i j h).2, .inl h⟩)

theorem cp0_sub_cp3 {i j : Nat} (h : V (csCp0 s2 middle upper save) i j = true) :
    V (csCp3 s2 lower middle upper save) i j = true :=
  cp1_sub_cp3 hS hU (flood_ge (cp0_ins hS hU) _ i j h)

theorem save_sub_upper'' {i j : Nat} (h : V save i j = true) : V (csUpper'' s2 lower middle upper save) i j = true :=
  cp3_sub_upper'' hS hU (cp0_sub_cp3 hS hU (V_csCp0.mpr ⟨hU i j (hS i j h), .inr h⟩))

theorem both_sub_cp0 {i j : Nat} (hu : V upper i j = true) (hm : V middle i j = true) :
    V (csCp0 s2 middle upper save) i j = true :=
  V_csCp0.mpr ⟨hU i j hu, .inl ⟨hu, hm⟩⟩

/-- a not yet connected cell of the upper slice that touches the connected set (8-neighbourhood) is connected by the last
flood: directly when it shares an edge, through the corner cell (which `valid` adds to the slice) when it only shares a
corner -/
theorem byUpper_sub_cp3 {i j : Nat} (h : V (csByUpper s2 lower middle upper save) i j = true) :
    V (csCp3 s2 lower middle upper save) i j = true := by
  obtain ⟨hin, ⟨hu, hn2⟩, hd⟩ := V_csByUpper.mp h
  obtain ⟨di, dj, hnear, hd2⟩ := (dil8_iff _ i j).mp hd
  have hdin := (cp2_ins_upper' hS hU di dj hd2).2
  have hup : V (csUpper' s2 lower middle upper save) i j = true := upper_sub_upper' hU hu
  rcases hnear.cases with ⟨rfl, rfl⟩ | hadj | ⟨hne, hadj1, hadj2, hnear'⟩
  · exact absurd (hn2.symm.trans hd2) Bool.false_ne_true
  · exact flood_reach1 (cp2_ins_upper' hS hU) (Nat.zero_lt_of_lt (lt_csN hin)) hd2 hadj hup hin
  · have hfin : inb s2 di j 0 = true := inb_iff.mpr ⟨(inb_iff.mp hdin).1, (inb_iff.mp hin).2⟩
    have hfv : V (csValid s2 lower middle upper save) di j = true :=
      V_csValid.mpr ⟨hfin, (dil8_iff _ di j).mpr ⟨di, dj, hnear', hd2⟩,
        (shifts4_iff _ di j 0).mpr ⟨i, j, hadj2.symm, h⟩⟩
    have h2 : 2 ≤ csN s2 := by have := lt_csN hdin; have := lt_csN hin; omega
    exact flood_reach2 (cp2_ins_upper' hS hU) h2 hd2 hadj1
      (V_csUpper'.mpr ⟨hfin, .inr hfv⟩) hfin hadj2 hup hin

/-- every cell of the upper slice that is returned satisfies `G`, provided the sources (cells over `middle`, saved cells,
cells connected through the lower slice) do and `G` spreads along 4-adjacency inside the returned slice: the three
floods only follow such steps, and a cell that `valid` adds shares an edge with a cell of the connected set -/
theorem upper''_grounded (G : Nat → Nat → Prop)
    (hsrc : ∀ i j, V (csCp0 s2 middle upper save) i j = true ∨ V (csByLower s2 lower middle upper save) i j = true →
      V (csUpper'' s2 lower middle upper save) i j = true → G i j)
    (hcl : ∀ i' j' i j, G i' j' → Adj4 i' j' i j → V (csUpper'' s2 lower middle upper save) i j = true → G i j)
    (i j : Nat) (h : V (csUpper'' s2 lower middle upper save) i j = true) : G i j := by
  have g1 : ∀ i j, V (csCp1 s2 middle upper save) i j = true → G i j :=
    flood_grounded (cp0_ins hS hU) _ G
      (fun i j h => hsrc i j (.inl h) (cp3_sub_upper'' hS hU (cp0_sub_cp3 hS hU h)))
      fun i' j' i j hg hadj h => hcl i' j' i j hg hadj (cp3_sub_upper'' hS hU (cp1_sub_cp3 hS hU h))
  have g1' : ∀ i j, V (csCp1' s2 lower middle upper save) i j = true → G i j := fun i j h =>
    (V_csCp1'.mp h).2.elim (g1 i j) fun hb => hsrc i j (.inr hb) (cp3_sub_upper'' hS hU (cp1'_sub_cp3 hS hU h))
  have g2 : ∀ i j, V (csCp2 s2 lower middle upper save) i j = true → G i j :=
    flood_grounded (cp1'_ins hS hU) _ G g1' fun i' j' i j hg hadj h =>
      hcl i' j' i j hg hadj (cp3_sub_upper'' hS hU (cp2_sub_cp3 hS hU h))
  have g3 : ∀ i j, V (csCp3 s2 lower middle upper save) i j = true → G i j :=
    flood_grounded (cp2_ins_upper' hS hU) _ G g2 fun i' j' i j hg hadj h =>
      hcl i' j' i j hg hadj (cp3_sub_upper'' hS hU h)
  obtain ⟨_, hup, hn⟩ := V_csUpper''.mp h
  rcases (V_csUpper'.mp hup).2 with hu | hv
  · exact g3 i j (by by_contra hc; exact hn ⟨hu, Bool.not_eq_true _ ▸ hc⟩)
  · obtain ⟨bi, bj, hadj, hb⟩ := (shifts4_iff _ i j 0).mp (V_csValid.mp hv).2.2
    exact hcl bi bj i j (g3 bi bj (byUpper_sub_cp3 hS hU hb)) hadj h

theorem valid_inb {i j : Nat} (h : V (csValid s2 lower middle upper save) i j = true) : inb s2 i j 0 = true :=
  (V_csValid.mp h).1

end guarantees

end Fdtdx.C23
