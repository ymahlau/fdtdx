/-
Helper lemmas for C35: algebra of the coefficient map and of its inversion over any field (characteristic 0 is asked
for only where `2 ≠ 0` is needed), scaling invariance of the pair quotient, the bridge from pair arithmetic to `ℂ`.
-/
import FdtdxModel.C35
import Mathlib.Tactic.Ring
import Mathlib.Tactic.FieldSimp
import Mathlib.Tactic.Linarith
import Mathlib.Algebra.Field.Basic
import Mathlib.Algebra.CharZero.Defs
import Mathlib.Analysis.Complex.Basic

namespace Fdtdx.C35

section field
variable {K : Type} [Field K]

theorem cdiv_scale (s n1 n2 d1 d2 : K) (hs : s ≠ 0) :
    cdiv (n1 * s, n2 * s) (d1 * s, d2 * s) = cdiv (n1, n2) (d1, d2) := by
  simp only [cdiv, mul_mul_mul_comm _ s _ s, ← add_mul, ← sub_mul, mul_div_mul_right _ _ (mul_ne_zero hs hs)]

/-- the declared model in the dimensionless variables `ω dt`, `ω0 dt`, `γ dt` -/
theorem chiDeclared_scale (u : Uni K) (ω dt : K) (hdt : dt ≠ 0) :
    chiDeclared u ω = cdiv (u.a * (dt * dt), -(ω * dt * (u.b * dt)))
      (u.w0 * u.w0 * (dt * dt) - ω * dt * (ω * dt), -(u.g * dt * (ω * dt))) := by
  rw [chiDeclared, ← cdiv_scale (dt * dt) u.a (-(ω * u.b)) (u.w0 * u.w0 - ω * ω) (-(u.g * ω)) (mul_ne_zero hdt hdt)]
  simp only [sub_mul, neg_mul, mul_mul_mul_comm _ dt _ dt]

section
variable [CharZero K] (u : Uni K) (dt : K)

theorem two_add_ne (hD : 1 + u.g * dt / 2 ≠ 0) : 2 + u.g * dt ≠ 0 := by
  intro h; apply hD; linear_combination h / 2

end

variable (u : Uni K) (dt : K)

theorem coef_c1 : (coef u dt).c1 = (2 - (u.w0 * u.w0) * (dt * dt)) / (1 + u.g * dt / 2) := rfl
theorem coef_c2 : (coef u dt).c2 = -(1 - u.g * dt / 2) / (1 + u.g * dt / 2) := rfl
theorem coef_c3 : (coef u dt).c3 = (u.a * (dt * dt) - u.b * dt) / (1 + u.g * dt / 2) := rfl
theorem coef_c4 : (coef u dt).c4 = (u.b * dt) / (1 + u.g * dt / 2) := rfl

/-! the inversion formulas of `susceptibility_from_coefficients`, `D = 1 + γdt/2` -/

theorem coef_c2_mul (hD : 1 + u.g * dt / 2 ≠ 0) :
    (coef u dt).c2 * (1 + u.g * dt / 2) = -(1 - u.g * dt / 2) := div_mul_cancel₀ _ hD

/-- `1 - c2 = 2 / D`: never zero, so the `safe_denom` substitution of the code is dead for real poles -/
theorem one_sub_c2 (hD : 1 + u.g * dt / 2 ≠ 0) : 1 - (coef u dt).c2 = 2 / (1 + u.g * dt / 2) := by
  rw [eq_div_iff hD]; linear_combination -coef_c2_mul u dt hD

theorem one_sub_c2_ne [CharZero K] (hD : 1 + u.g * dt / 2 ≠ 0) : 1 - (coef u dt).c2 ≠ 0 := by
  rw [one_sub_c2 u dt hD]; exact div_ne_zero two_ne_zero hD

theorem inv_gdt [CharZero K] (hD : 1 + u.g * dt / 2 ≠ 0) :
    2 * (1 + (coef u dt).c2) / (1 - (coef u dt).c2) = u.g * dt := by
  rw [div_eq_iff (one_sub_c2_ne u dt hD)]; linear_combination 2 * coef_c2_mul u dt hD

theorem inv_w2 (hD : 1 + u.g * dt / 2 ≠ 0) :
    2 - (coef u dt).c1 * (1 + u.g * dt / 2) = (u.w0 * u.w0) * (dt * dt) := by
  rw [coef_c1, div_mul_cancel₀ _ hD, sub_sub_cancel]

theorem inv_b (hD : 1 + u.g * dt / 2 ≠ 0) :
    (coef u dt).c4 * (1 + u.g * dt / 2) = u.b * dt := div_mul_cancel₀ _ hD

theorem inv_a (hD : 1 + u.g * dt / 2 ≠ 0) :
    ((coef u dt).c3 + (coef u dt).c4) * (1 + u.g * dt / 2) = u.a * (dt * dt) := by
  rw [coef_c3, coef_c4, ← add_div, div_mul_cancel₀ _ hD, sub_add_cancel]

/-- the denominator of the coupled stability measure: `1 + c1 - c2 = (4 - ω0²dt²) / D` -/
theorem one_add_c1_sub_c2 (hD : 1 + u.g * dt / 2 ≠ 0) :
    1 + (coef u dt).c1 - (coef u dt).c2 = (4 - (u.w0 * u.w0) * (dt * dt)) / (1 + u.g * dt / 2) := by
  rw [eq_div_iff hD]; linear_combination -inv_w2 u dt hD - coef_c2_mul u dt hD

theorem uncoupled_of_c34 (hdt : dt ≠ 0) (hD : 1 + u.g * dt / 2 ≠ 0)
    (h3 : (coef u dt).c3 = 0) (h4 : (coef u dt).c4 = 0) : u.a = 0 ∧ u.b = 0 := by
  constructor
  · have ha : u.a * (dt * dt) = 0 := by rw [← inv_a u dt hD, h3, h4, add_zero, zero_mul]
    exact (mul_eq_zero.mp ha).resolve_right (mul_ne_zero hdt hdt)
  · have hb : u.b * dt = 0 := by rw [← inv_b u dt hD, h4, zero_mul]
    exact (mul_eq_zero.mp hb).resolve_right hdt

end field

/-! ### bridge to `ℂ` -/

/-- a model pair as a complex number -/
def toC (p : ℝ × ℝ) : ℂ := ⟨p.1, p.2⟩

theorem toC_cdiv (n d : ℝ × ℝ) : toC (cdiv n d) = toC n / toC d := by
  apply Complex.ext
  · simp only [toC, cdiv, Complex.div_re, Complex.normSq_apply]; rw [add_div]
  · simp only [toC, cdiv, Complex.div_im, Complex.normSq_apply]; rw [sub_div]

theorem toC_cadd (x y : ℝ × ℝ) : toC (cadd x y) = toC x + toC y := by
  apply Complex.ext <;> simp [toC, cadd]

theorem toC_ofReal (x : ℝ) : toC (x, 0) = (x : ℂ) := rfl

theorem toC_mk (x y : ℝ) : toC (x, y) = (x : ℂ) + (y : ℂ) * Complex.I := by
  apply Complex.ext <;> simp [toC]

end Fdtdx.C35
