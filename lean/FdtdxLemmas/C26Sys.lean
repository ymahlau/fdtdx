/-
System-level lemmas for C26/C27: the atoms `compile` (`groups`) produces (`mem_atoms_groups`, `atom_of_con`),
invariance of the ingredients of `solve` under permutations of the object list and of the constraint list, and
what `wellFormed` and an accepting `validate` say in terms of membership (`wellFormed_iff`, `validate_nil_iff`),
which makes them permutation invariant as well.
-/
import FdtdxLemmas.C26Loop
import Mathlib.Data.List.Perm.Basic

namespace Fdtdx.C26

variable {α : Type} [Add α] [Sub α] [Mul α] [Div α] [Neg α] [LT α] [DecidableLT α]
  [OfNat α 0] [OfNat α 1] [OfNat α 2]

set_option linter.unusedSectionVars false

/-! ### the atoms of a compiled system -/

/-- step 2 (`_resolve_static_positions_iterative`) -/
def posLo (g : Grid α) (id ax : Nat) (p : α) : Atom := ⟨[⟨id, ax, .size⟩], false, ⟨id, ax, .lo⟩, lowerF g ax p⟩
def posHi (g : Grid α) (id ax : Nat) (p : α) : Atom := ⟨[⟨id, ax, .size⟩], false, ⟨id, ax, .hi⟩, upperF g ax p⟩

/-- steps 3 and 4 (slices from shapes, shapes from slices) -/
def bookHi (id ax : Nat) : Atom := ⟨[⟨id, ax, .lo⟩, ⟨id, ax, .size⟩], false, ⟨id, ax, .hi⟩, addF⟩
def bookLo (id ax : Nat) : Atom := ⟨[⟨id, ax, .hi⟩, ⟨id, ax, .size⟩], false, ⟨id, ax, .lo⟩, subF⟩
def bookSize (id ax : Nat) : Atom := ⟨[⟨id, ax, .hi⟩, ⟨id, ax, .lo⟩], false, ⟨id, ax, .size⟩, subF⟩

theorem mem_atoms_posGroups {g : Grid α} {o : Obj α} {a : Atom} : a ∈ allAtoms (o.posGroups g) ↔
    ∃ ax, ax < 3 ∧ ∃ p, o.rpos.getD ax none = some p ∧ (a = posLo g o.id ax p ∨ a = posHi g o.id ax p) := by
  simp only [Obj.posGroups, mem_allAtoms_flatMap, mem_axes3]
  refine exists_congr fun ax => and_congr_right fun _ => ?_
  cases o.rpos.getD ax none with
  | none => simp [allAtoms]
  | some p => simp [allAtoms, posLo, posHi]

theorem mem_atoms_sliceGroups {id : Nat} {a : Atom} : a ∈ allAtoms (sliceGroups id) ↔
    ∃ ax, ax < 3 ∧ (a = bookHi id ax ∨ a = bookLo id ax) := by
  simp only [sliceGroups, mem_allAtoms_map, mem_axes3, List.mem_cons, List.not_mem_nil, or_false, bookHi, bookLo]

theorem mem_atoms_shapeGroups {id : Nat} {a : Atom} : a ∈ allAtoms (shapeGroups id) ↔
    ∃ ax, ax < 3 ∧ a = bookSize id ax := by
  simp only [shapeGroups, mem_allAtoms_map, mem_axes3, List.mem_cons, List.not_mem_nil, or_false, bookSize]

theorem mem_atoms_groups {sys : Sys α} {a : Atom} : a ∈ allAtoms (groups sys) ↔
    (∃ o ∈ sys.objs, ∃ ax, ax < 3 ∧ ∃ p, o.rpos.getD ax none = some p ∧
      (a = posLo sys.grid o.id ax p ∨ a = posHi sys.grid o.id ax p)) ∨
    (∃ o ∈ sys.objs, ∃ ax, ax < 3 ∧ (a = bookHi o.id ax ∨ a = bookLo o.id ax)) ∨
    (∃ o ∈ sys.objs, ∃ ax, ax < 3 ∧ a = bookSize o.id ax) ∨
    (∃ c ∈ sys.cons, a ∈ c.atoms sys.grid (volId sys) false) := by
  simp only [groups, posGroupsAll, bookGroups, conGroups, mem_allAtoms_append, mem_allAtoms_flatMap, mem_allAtoms_map,
    mem_atoms_posGroups, mem_atoms_sliceGroups, mem_atoms_shapeGroups, or_assoc]

/-- the axes a constraint names -/
def Con.axes : Con α → List Nat
  | .gridc _ es => es.map (·.1)
  | .realc _ es => es.map (·.1)
  | .pos _ _ es => es.map (·.ax)
  | .size _ _ es => es.map (·.ax)
  | .ext _ _ ax _ _ _ _ => [ax]

theorem mem_offsetGuard {g : Grid α} {o ax : Nat} {k : Option Int} {a : Atom} (h : a ∈ offsetGuard g o ax k) :
    a = raiseAtom o ax := by
  unfold offsetGuard at h
  generalize (!g.uniform && _) = b at h
  cases b
  · simp at h
  · simpa using h

/-- every rule of a constraint is non-strict and writes a slot of the owner on one of the constraint's axes
(or is the unconditional raise of a grid-coordinate constraint on a non-uniform grid) -/
theorem atom_of_con {g : Grid α} {vol : Nat} {c : Con α} {a : Atom} (ha : a ∈ c.atoms g vol false) :
    a.strict = false ∧ a.target.o = c.owner ∧
      (a.target.ax ∈ c.axes ∨ (a.target.ax = 0 ∧ ∀ vs, a.f vs = none)) := by
  cases c with
  | gridc o es =>
    simp only [Con.atoms] at ha
    split at ha
    · cases List.mem_singleton.1 ha
      exact ⟨rfl, rfl, Or.inr ⟨rfl, fun _ => rfl⟩⟩
    · obtain ⟨e, he, rfl⟩ := List.mem_map.1 ha
      exact ⟨rfl, rfl, Or.inl (List.mem_map.2 ⟨e, he, rfl⟩)⟩
  | realc o es =>
    obtain ⟨e, he, rfl⟩ := List.mem_map.1 ha
    exact ⟨rfl, rfl, Or.inl (List.mem_map.2 ⟨e, he, rfl⟩)⟩
  | pos o t es =>
    simp only [Con.atoms, List.mem_flatMap, List.mem_append, List.mem_cons, List.not_mem_nil, or_false] at ha
    obtain ⟨e, he, h⟩ := ha
    have hax : e.ax ∈ (Con.pos o t es).axes := List.mem_map.2 ⟨e, he, rfl⟩
    rcases h with h | rfl | rfl
    · cases mem_offsetGuard h; exact ⟨rfl, rfl, Or.inl hax⟩
    · exact ⟨rfl, rfl, Or.inl hax⟩
    · exact ⟨rfl, rfl, Or.inl hax⟩
  | size o t es =>
    simp only [Con.atoms, List.mem_flatMap, List.mem_append, List.mem_cons, List.not_mem_nil, or_false] at ha
    obtain ⟨e, he, h⟩ := ha
    have hax : e.ax ∈ (Con.size o t es).axes := List.mem_map.2 ⟨e, he, rfl⟩
    rcases h with h | rfl
    · cases mem_offsetGuard h; exact ⟨rfl, rfl, Or.inl hax⟩
    · exact ⟨rfl, rfl, Or.inl hax⟩
  | ext o t ax hi opos off goff =>
    have hax : ax ∈ (Con.ext o t ax hi opos off goff).axes := List.mem_singleton.2 rfl
    simp only [Con.atoms, List.mem_append] at ha
    rcases ha with h | h
    · cases mem_offsetGuard h; exact ⟨rfl, rfl, Or.inl hax⟩
    · cases t <;> cases List.mem_singleton.1 h <;> exact ⟨rfl, rfl, Or.inl hax⟩

theorem noStrict_groups (sys : Sys α) : NoStrict (groups sys) := by
  intro a ha
  rcases mem_atoms_groups.1 ha with
    ⟨_, _, _, _, _, _, rfl | rfl⟩ | ⟨_, _, _, _, rfl | rfl⟩ | ⟨_, _, _, _, rfl⟩ | ⟨c, _, h⟩
  iterate 5 rfl
  exact (atom_of_con h).1

/-! ### permutations -/

/-- `sB` is `sA` with the object list and the constraint list permuted -/
structure PermSys (sA sB : Sys α) : Prop where
  grid : sB.grid = sA.grid
  objs : sB.objs.Perm sA.objs
  cons : sB.cons.Perm sA.cons

variable {sA sB : Sys α}

theorem PermSys.isObj (p : PermSys sA sB) (id : Nat) : isObj sB id = isObj sA id :=
  p.objs.any_eq

/-- exactly one volume -/
def OneVol (sys : Sys α) : Prop := (sys.objs.filter (·.isVol)).length = 1

theorem volId_of_isVol {sys : Sys α} (h : OneVol sys) {o : Obj α} (ho : o ∈ sys.objs) (hv : o.isVol = true) :
    volId sys = o.id := by
  obtain ⟨v, hv'⟩ := List.length_eq_one_iff.1 h
  have hm : o ∈ sys.objs.filter (·.isVol) := List.mem_filter.2 ⟨ho, hv⟩
  rw [hv'] at hm
  cases List.mem_singleton.1 hm
  rw [volId, ← List.head?_filter, hv']
  rfl

theorem exists_vol {sys : Sys α} (h : OneVol sys) : ∃ v ∈ sys.objs, v.isVol = true ∧ volId sys = v.id := by
  obtain ⟨v, hv⟩ := List.length_eq_one_iff.1 h
  obtain ⟨hm, hiv⟩ := List.mem_filter.1 (hv ▸ List.mem_singleton.2 rfl : v ∈ sys.objs.filter (·.isVol))
  exact ⟨v, hm, hiv, volId_of_isVol h hm hiv⟩

theorem PermSys.volId (p : PermSys sA sB) (h : OneVol sA) : volId sB = volId sA := by
  obtain ⟨v, hv, hiv, e⟩ := exists_vol h
  have hB : OneVol sB := (p.objs.filter _).length_eq.trans h
  exact (volId_of_isVol hB (p.objs.mem_iff.2 hv) hiv).trans e.symm

theorem PermSys.extends_ (p : PermSys sA sB) (σ : St) (v : Var) : extends_ sB σ v = extends_ sA σ v := by
  have h1 : ∀ o ax hi, hasExt sB o ax hi = hasExt sA o ax hi := fun o ax hi => p.cons.any_eq
  have h2 : ∀ o ax, pendingPos sB σ o ax = pendingPos sA σ o ax := fun o ax => p.cons.any_eq
  unfold C26.extends_ extensible
  rw [p.isObj]
  simp only [h1, h2]

theorem PermSys.extend (p : PermSys sA sB) (h : OneVol sA) (σ : St) : extend sB σ = extend sA σ := by
  rw [extend_eq, extend_eq]
  funext v
  unfold extendPt
  rw [p.extends_, p.volId h]

theorem PermSys.extChanged (p : PermSys sA sB) (σ : St) : extChanged sB σ = extChanged sA σ := by
  unfold C26.extChanged
  simp only [p.extends_]
  exact p.objs.any_eq

theorem PermSys.unresolved (p : PermSys sA sB) (σ : St) : (unresolved sB σ).Perm (unresolved sA σ) := by
  unfold C26.unresolved
  exact (p.objs.filter _).map _

theorem PermSys.unresolved_nil (p : PermSys sA sB) (σ : St) :
    C26.unresolved sA σ = [] ↔ C26.unresolved sB σ = [] := by
  rw [← List.length_eq_zero_iff, ← List.length_eq_zero_iff, (p.unresolved σ).length_eq]

theorem PermSys.sameSys (p : PermSys sA sB) (h : OneVol sA) : SameSys sA sB (groups sA) (groups sB) where
  atoms := fun a => by simp only [mem_atoms_groups, p.grid, p.volId h, p.objs.mem_iff, p.cons.mem_iff]
  ext := fun σ => (p.extend h σ).symm
  extc := fun σ => (p.extChanged σ).symm
  unres := p.unresolved_nil
  objsA := let ⟨_, hv, _⟩ := exists_vol h; List.ne_nil_of_mem hv
  noStrict := noStrict_groups sB

/-! ### the checks at the top, the initial state, the validation at the end -/

theorem nodupIds_iff (l : List Nat) : nodupIds l = true ↔ l.Nodup := by
  induction l with
  | nil => simp [nodupIds]
  | cons x xs ih => simp [nodupIds, ih]

theorem wellFormed_iff {sys : Sys α} : wellFormed sys = true ↔
    (sys.objs.map (·.id)).Nodup ∧ OneVol sys ∧
      ∀ c ∈ sys.cons, isObj sys c.owner = true ∧ ∀ t, c.other = some t → isObj sys t = true := by
  simp only [wellFormed, OneVol, Bool.and_eq_true, nodupIds_iff, beq_iff_eq, List.all_eq_true, and_assoc]
  refine and_congr_right fun _ => and_congr_right fun _ => forall₂_congr fun c _ => and_congr_right fun _ => ?_
  cases c.other <;> simp

theorem PermSys.wellFormed (p : PermSys sA sB) : wellFormed sB = wellFormed sA := by
  rw [Bool.eq_iff_iff, wellFormed_iff, wellFormed_iff, OneVol, OneVol, (p.objs.map _).nodup_iff,
    (p.objs.filter _).length_eq]
  simp only [p.isObj, p.cons.mem_iff]

theorem wellFormed_oneVol {sys : Sys α} (h : wellFormed sys = true) : OneVol sys := (wellFormed_iff.1 h).2.1

theorem wellFormed_nodup {sys : Sys α} (h : wellFormed sys = true) : (sys.objs.map (·.id)).Nodup :=
  (wellFormed_iff.1 h).1

theorem wellFormed_con {sys : Sys α} (h : wellFormed sys = true) {c : Con α} (hc : c ∈ sys.cons) :
    isObj sys c.owner = true ∧ ∀ t, c.other = some t → isObj sys t = true :=
  (wellFormed_iff.1 h).2.2 c hc

theorem find?_id_mem {o : Obj α} : ∀ (l : List (Obj α)), (l.map (·.id)).Nodup → o ∈ l →
    l.find? (·.id == o.id) = some o
  | [], _, ho => by cases ho
  | x :: xs, hn, ho => by
    simp only [List.map_cons, List.nodup_cons] at hn
    rcases List.mem_cons.1 ho with e | e
    · subst e; simp
    · have hx : x.id ≠ o.id := fun hx => hn.1 (hx ▸ List.mem_map.2 ⟨o, e, rfl⟩)
      rw [List.find?_cons, beq_false_of_ne hx]
      exact find?_id_mem xs hn.2 e

theorem find?_id_perm {l₁ l₂ : List (Obj α)} (p : l₁.Perm l₂) (hn : (l₂.map (·.id)).Nodup) (id : Nat) :
    l₁.find? (·.id == id) = l₂.find? (·.id == id) := by
  have key : ∀ {l : List (Obj α)}, (l.map (·.id)).Nodup → ∀ o, l.find? (·.id == id) = some o ↔ o ∈ l ∧ o.id = id :=
    fun hl o => ⟨fun h => ⟨List.mem_of_find?_eq_some h, by simpa using List.find?_some h⟩,
      fun ⟨hm, e⟩ => e ▸ find?_id_mem _ hl hm⟩
  exact Option.ext fun o => by rw [key ((p.map _).nodup_iff.2 hn), key hn, p.mem_iff]

theorem PermSys.init (p : PermSys sA sB) (hn : (sA.objs.map (·.id)).Nodup) : init sB = init sA := by
  unfold C26.init
  rw [p.grid, p.objs.any_eq]
  split
  · rfl
  · congr 1
    funext v
    unfold findObj
    rw [find?_id_perm p.objs hn]

theorem validate_nil_iff {sys : Sys α} {σ : St} {e : List Nat} : validate sys σ e = some [] ↔
    e = [] ∧ ∀ o ∈ sys.objs, o.id ≠ volId sys → objBad σ (volId sys) o.id = some false := by
  simp only [validate, ne_eq]
  split
  · rename_i hany
    obtain ⟨o, ho, hn⟩ := List.any_eq_true.1 hany
    obtain ⟨hm, hne⟩ := List.mem_filter.1 ho
    refine iff_of_false (by simp) fun h => ?_
    rw [h.2 o hm (by simpa using hne)] at hn
    cases hn
  · rename_i hany
    simp only [Option.some.injEq, List.append_eq_nil_iff, List.map_eq_nil_iff, List.filter_eq_nil_iff,
      List.mem_filter, bne_iff_ne, ne_eq, and_imp]
    rw [and_comm]
    refine and_congr_right fun _ => forall₃_congr fun o ho hne => ?_
    have hsome : (objBad σ (volId sys) o.id).isNone ≠ true := fun hb =>
      hany (List.any_eq_true.2 ⟨o, List.mem_filter.2 ⟨ho, by simpa using hne⟩, hb⟩)
    revert hsome
    rcases objBad σ (volId sys) o.id with _ | _ | _ <;> simp

theorem PermSys.validate_nil (p : PermSys sA sB) (h : OneVol sA) {σ : St} (hv : validate sA σ [] = some []) :
    validate sB σ [] = some [] :=
  validate_nil_iff.2 ⟨rfl, fun o ho => by
    rw [p.volId h]
    exact (validate_nil_iff.1 hv).2 o (p.objs.mem_iff.1 ho)⟩

end Fdtdx.C26
