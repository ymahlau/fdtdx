/- C23 specification vocabulary: face adjacency and reachability inside a mask (the property's "connected
through face-adjacent material").  No reference to the dilation algorithm. -/
import FdtdxModel.C23

namespace Fdtdx.C23

/-- two cells share a face: they differ by exactly one in exactly one coordinate -/
def Adj (i j k i' j' k' : Nat) : Prop :=
  (j = j' ∧ k = k' ∧ (i = i' + 1 ∨ i' = i + 1)) ∨
  (i = i' ∧ k = k' ∧ (j = j' + 1 ∨ j' = j + 1)) ∨
  (i = i' ∧ j = j' ∧ (k = k' + 1 ∨ k' = k + 1))

/-- cells of the mask `m` (inside the index box of `s`) that can be reached from a seed cell lying in the mask
by a path of face-adjacent mask cells -/
inductive Reach (s : Shape) (m seed : Img) : Nat → Nat → Nat → Prop
  | base {i j k : Nat} : inb s i j k = true → m i j k = true → seed i j k = true → Reach s m seed i j k
  | step {i j k i' j' k' : Nat} : Reach s m seed i j k → Adj i j k i' j' k' →
      inb s i' j' k' = true → m i' j' k' = true → Reach s m seed i' j' k'

/-- bottom layer z = 0 -/
def bottomI : Img := fun _ _ k => decide (k = 0)

/-- material connected to the bottom layer -/
def Conn (s : Shape) (m : Img) (i j k : Nat) : Prop := Reach s m bottomI i j k

/-- background connected to the top or to one of the four sides -/
def OpenAir (s : Shape) (m : Img) (i j k : Nat) : Prop := Reach s (fun i j k => !m i j k) (faces s) i j k

theorem Reach.inb {s : Shape} {m seed : Img} {i j k : Nat} (h : Reach s m seed i j k) : inb s i j k = true := by
  cases h <;> assumption

theorem Reach.mask {s : Shape} {m seed : Img} {i j k : Nat} (h : Reach s m seed i j k) : m i j k = true := by
  cases h <;> assumption

theorem Reach.transfer {s : Shape} {m m' seed seed' : Img} (hm : ∀ i j k, Reach s m seed i j k → m' i j k = true)
    (hs : ∀ i j k, Reach s m seed i j k → seed i j k = true → seed' i j k = true) {i j k : Nat}
    (h : Reach s m seed i j k) : Reach s m' seed' i j k := by
  induction h with
  | base hb hm' hs' => exact .base hb (hm _ _ _ (.base hb hm' hs')) (hs _ _ _ (.base hb hm' hs') hs')
  | step hprev hadj hb hm' ih => exact .step ih hadj hb (hm _ _ _ (.step hprev hadj hb hm'))

/-- reachability spreads along a run of mask cells `(ci t, cj t, ck t)`, `t = 0 … n`, each sharing a face with the one
before -/
theorem reach_run {s : Shape} {m seed : Img} (ci cj ck : Nat → Nat) (n : Nat)
    (h0 : Reach s m seed (ci 0) (cj 0) (ck 0))
    (hadj : ∀ t < n, Adj (ci t) (cj t) (ck t) (ci (t + 1)) (cj (t + 1)) (ck (t + 1)))
    (h : ∀ t < n, inb s (ci (t + 1)) (cj (t + 1)) (ck (t + 1)) = true ∧ m (ci (t + 1)) (cj (t + 1)) (ck (t + 1)) = true) :
    Reach s m seed (ci n) (cj n) (ck n) := by
  induction n with
  | zero => exact h0
  | succ n ih =>
    exact .step (ih (fun t ht => hadj t (Nat.lt_succ_of_lt ht)) fun t ht => h t (Nat.lt_succ_of_lt ht))
      (hadj n (Nat.lt_succ_self n)) (h n (Nat.lt_succ_self n)).1 (h n (Nat.lt_succ_self n)).2

end Fdtdx.C23
