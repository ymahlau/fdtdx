/- C24 helper lemmas: array views, window sums, the three separable passes = one box sum. -/
import FdtdxModel.C24
import Mathlib.Tactic.Linarith
import Mathlib.Tactic.Ring

namespace Fdtdx.C24

theorem row_getD {α : Type} (n : Nat) (f : Nat → α) (d : α) (i : Nat) :
    (row n f).getD i d = if i < n then f i else d := by
  unfold row
  by_cases h : i < n <;> simp [Array.getD, h]

theorem look_tab {α : Type} (dflt : α) (d : Dims) (f : Nat → Nat → Nat → α) (i j k : Nat) :
    look dflt (tab d f) i j k = if inb d i j k = true then f i j k else dflt := by
  unfold look tab inb
  by_cases hi : i < d.nx <;> by_cases hj : j < d.ny <;> by_cases hk : k < d.nz <;>
    simp only [row_getD, hi, hj, hk, reduceIte] <;> rfl

theorem inb_iff {d : Dims} {i j k : Nat} : inb d i j k = true ↔ i < d.nx ∧ j < d.ny ∧ k < d.nz := by
  simp only [inb, Bool.and_eq_true, decide_eq_true_eq, and_assoc]

theorem look_oob {α : Type} (dflt : α) (d : Dims) (f : Nat → Nat → Nat → α) (i j k : Nat)
    (h : inb d i j k = false) : look dflt (tab d f) i j k = dflt := by
  rw [look_tab]; simp [h]

/-! ### window sums -/

theorem wsum_congr (k b : Nat) (g g' : Nat → Nat) (i : Nat) (h : ∀ x, g x = g' x) : wsum k b g i = wsum k b g' i := by
  rw [funext h]

theorem sum_map_le (l : List Nat) (f : Nat → Nat) (m : Nat) (h : ∀ x ∈ l, f x ≤ m) : (l.map f).sum ≤ l.length * m := by
  induction l with
  | nil => exact Nat.zero_le _
  | cons a t ih =>
    rw [List.map_cons, List.sum_cons, List.length_cons, Nat.succ_mul, Nat.add_comm]
    exact Nat.add_le_add (ih fun x hx => h x (List.mem_cons_of_mem _ hx)) (h a List.mem_cons_self)

theorem wsum_le (k b : Nat) (g : Nat → Nat) (i m : Nat) (h : ∀ x, g x ≤ m) : wsum k b g i ≤ k * m := by
  have := sum_map_le (List.range k) (fun d => if b ≤ i + d then g (i + d - b) else 0) m
    (fun x _ => by split; exacts [h _, Nat.zero_le m])
  rwa [List.length_range] at this

theorem wsum_zero (k b : Nat) (g : Nat → Nat) (i : Nat) (h : ∀ x, g x = 0) : wsum k b g i = 0 :=
  Nat.le_zero.mp (wsum_le k b g i 0 fun x => Nat.le_of_eq (h x))

/-! ### the three passes -/

/-- box sum of a zero-extended image: Σ over the kx × ky × kz window whose low corner is (i - bx, j - by, k - bz) -/
def boxSum (f : Nat → Nat → Nat → Nat) (kx ky kz : Nat) (i j k : Nat) : Nat :=
  wsum kz (reach kz) (fun c => wsum ky (reach ky) (fun jj => wsum kx (reach kx) (fun ii => f ii jj c) i) j) k

theorem look_tab_of_zero (d : Dims) (F : Nat → Nat → Nat → Nat) (i j k : Nat) (h : inb d i j k = false → F i j k = 0) :
    look 0 (tab d F) i j k = F i j k := by
  rw [look_tab]
  split
  · rfl
  · next hin => exact (h (Eq.mp (Bool.not_eq_true _) hin)).symm

/-- outside the box a pass still gives the window sum, as long as the axis it runs along is in range: the whole line
lies outside and the input vanishes there -/
theorem look_passX (d : Dims) (kx : Nat) (t : Tab Nat) (i j k : Nat) (hi : i < d.nx)
    (hz : ∀ ii jj kk, inb d ii jj kk = false → look 0 t ii jj kk = 0) :
    look 0 (passX d kx t) i j k = wsum kx (reach kx) (fun ii => look 0 t ii j k) i :=
  look_tab_of_zero d _ i j k fun h => wsum_zero _ _ _ _ fun _ => hz _ _ _ <| Bool.eq_false_iff.mpr fun hx =>
    Bool.false_ne_true (h.symm.trans (inb_iff.mpr ⟨hi, (inb_iff.mp hx).2⟩))

theorem look_passY (d : Dims) (ky : Nat) (t : Tab Nat) (i j k : Nat) (hj : j < d.ny)
    (hz : ∀ ii jj kk, inb d ii jj kk = false → look 0 t ii jj kk = 0) :
    look 0 (passY d ky t) i j k = wsum ky (reach ky) (fun jj => look 0 t i jj k) j :=
  look_tab_of_zero d _ i j k fun h => wsum_zero _ _ _ _ fun _ => hz _ _ _ <| Bool.eq_false_iff.mpr fun hx =>
    Bool.false_ne_true (h.symm.trans (inb_iff.mpr ⟨(inb_iff.mp hx).1, hj, (inb_iff.mp hx).2.2⟩))

theorem passX_oob (d : Dims) (kx : Nat) (t : Tab Nat) (i j k : Nat) (h : inb d i j k = false) :
    look 0 (passX d kx t) i j k = 0 := look_oob 0 d _ i j k h
theorem passY_oob (d : Dims) (ky : Nat) (t : Tab Nat) (i j k : Nat) (h : inb d i j k = false) :
    look 0 (passY d ky t) i j k = 0 := look_oob 0 d _ i j k h

/-- the three separable passes compute the box sum of the zero-extended input -/
theorem look_passes (d : Dims) (kx ky kz : Nat) (t : Tab Nat) (i j k : Nat) (hin : inb d i j k = true)
    (hz : ∀ ii jj kk, inb d ii jj kk = false → look 0 t ii jj kk = 0) :
    look 0 (passZ d kz (passY d ky (passX d kx t))) i j k = boxSum (look 0 t) kx ky kz i j k := by
  obtain ⟨hi, hj, _⟩ := inb_iff.mp hin
  unfold passZ boxSum
  rw [look_tab, if_pos hin]
  refine wsum_congr _ _ _ _ _ fun c => ?_
  rw [look_passY d ky _ i j c hj (passX_oob d kx t)]
  exact wsum_congr _ _ _ _ _ fun jj => look_passX d kx t i jj c hi hz

theorem boxSum_le (f : Nat → Nat → Nat → Nat) (kx ky kz i j k : Nat) (h : ∀ a b c, f a b c ≤ 1) :
    boxSum f kx ky kz i j k ≤ kx * ky * kz := by
  unfold boxSum
  have h1 : ∀ jj c, wsum kx (reach kx) (fun ii => f ii jj c) i ≤ kx * 1 := fun jj c => wsum_le _ _ _ _ _ (fun x => h x jj c)
  have h2 : ∀ c, wsum ky (reach ky) (fun jj => wsum kx (reach kx) (fun ii => f ii jj c) i) j ≤ ky * (kx * 1) :=
    fun c => wsum_le _ _ _ _ _ (fun x => h1 x c)
  calc _ ≤ kz * (ky * (kx * 1)) := wsum_le _ _ _ _ _ h2
    _ = kx * ky * kz := by ring

end Fdtdx.C24
