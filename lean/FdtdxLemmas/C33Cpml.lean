/-
C33 helper lemmas for the CPML step (`FdtdxModel/Cpml.lean`): outside every PML box the PML loops of curl_E / curl_H do
nothing, a step leaves the boxes where they are, and the parity predicates only look at the slab of layers around the
plane.  `forwardP_sym` is the one time step behind the step theorems of `FdtdxProps/C33.lean` (no PML objects: the Yee
step) and of `FdtdxProps/C33Cpml.lean`.
-/
import FdtdxLemmas.C33Step
namespace Fdtdx.C33
open Fdtdx Fdtdx.Yee Fdtdx.Cpml

section
variable {K : Type} [Field K]
variable {cf : Cfg K} {m : Nat}

/-- no PML box meets the slab of x-layers `m - r ≤ i < m + r` (the window of `r` pairs around the plane) -/
def Clear (pmls : List (PmlSt K)) (m r : Nat) : Prop :=
  ∀ st ∈ pmls, ∀ i j k, m - r ≤ i → i < m + r → ¬ st.p.box.mem i j k

theorem foldl_clear {α β : Type} (f : α → β → α) (l : List β) (h : ∀ b ∈ l, ∀ a, f a b = a) (a : α) :
    l.foldl f a = a := by
  induction l with
  | nil => rfl
  | cons b tl ih => rw [List.foldl_cons, h b (List.mem_cons_self ..), ih fun c hc => h c (List.mem_cons_of_mem _ hc)]

/-- outside every PML box the curls with PML terms are the plain curls -/
theorem curlHp_clear (sim : Bool) (H : V3 K) (i j k : Nat) (pmls : List (PmlSt K))
    (h : ∀ st ∈ pmls, ¬ st.p.box.mem i j k) :
    (curlHp cf sim pmls H).x i j k = (curlH cf H).x i j k ∧ (curlHp cf sim pmls H).y i j k = (curlH cf H).y i j k ∧
    (curlHp cf sim pmls H).z i j k = (curlH cf H).z i j k :=
  ⟨foldl_clear _ _ (fun st hs _ => if_neg (h st hs)) _, foldl_clear _ _ (fun st hs _ => if_neg (h st hs)) _,
   foldl_clear _ _ (fun st hs _ => if_neg (h st hs)) _⟩

theorem curlEp_clear (sim : Bool) (E : V3 K) (i j k : Nat) (pmls : List (PmlSt K))
    (h : ∀ st ∈ pmls, ¬ st.p.box.mem i j k) :
    (curlEp cf sim pmls E).x i j k = (curlE cf E).x i j k ∧ (curlEp cf sim pmls E).y i j k = (curlE cf E).y i j k ∧
    (curlEp cf sim pmls E).z i j k = (curlE cf E).z i j k :=
  ⟨foldl_clear _ _ (fun st hs _ => if_neg (h st hs)) _, foldl_clear _ _ (fun st hs _ => if_neg (h st hs)) _,
   foldl_clear _ _ (fun st hs _ => if_neg (h st hs)) _⟩

theorem Clear.mono {pmls : List (PmlSt K)} {r r' : Nat} (h : Clear pmls m r) (hr : r' ≤ r) : Clear pmls m r' :=
  fun st hs i j k h1 h2 =>
    h st hs i j k ((Nat.sub_le_sub_left hr m).trans h1) (h2.trans_le (Nat.add_le_add_left hr m))

theorem Clear.map {pmls : List (PmlSt K)} {r : Nat} (h : Clear pmls m r) (f : PmlSt K → PmlSt K)
    (hf : ∀ st, (f st).p = st.p) : Clear (pmls.map f) m r := by
  intro st hs i j k h1 h2
  obtain ⟨s0, hs0, rfl⟩ := List.mem_map.mp hs
  rw [hf]
  exact h s0 hs0 i j k h1 h2

theorem Clear.forwardP {pmls : List (PmlSt K)} {r : Nat} (h : Clear pmls m r) {mt : Mat K} {jE jH E H : V3 K}
    {sim : Bool} : Clear (forwardP cf mt jE jH sim pmls E H).2.2 m r :=
  (h.map (updPsiE cf sim H) fun _ => rfl).map (updPsiH cf sim _) fun _ => rfl

theorem slab_pairs {P : Nat → Prop} {m r d : Nat} (e : ∀ i, m - r ≤ i → i < m + r → P i) (hd : d < r) :
    P (m + d) ∧ P (m - d) ∧ P (m - 1 - d) :=
  ⟨e _ (by omega) (by omega), e _ (by omega) (by omega), e _ (by omega) (by omega)⟩

/-- the parity predicates only look at the slab -/
theorem SymE.congr {r : Nat} {V V' : V3 K} (h : SymE m r V)
    (e : ∀ i j k, m - r ≤ i → i < m + r → V'.x i j k = V.x i j k ∧ V'.y i j k = V.y i j k ∧ V'.z i j k = V.z i j k) :
    SymE m r V' := by
  have p := fun d j k (hd : d < r) => slab_pairs (fun i => e i j k) hd
  refine ⟨fun d j k hd => ?_, fun d j k hd => ?_, fun d j k hd => ?_, fun j k h0 => ?_, fun j k h0 => ?_⟩
  · rw [(p d j k hd).1.1, (p d j k hd).2.2.1]; exact h.x d j k hd
  · rw [(p d j k hd).1.2.1, (p d j k hd).2.1.2.1]; exact h.y d j k hd
  · rw [(p d j k hd).1.2.2, (p d j k hd).2.1.2.2]; exact h.z d j k hd
  · exact (p 0 j k h0).1.2.1.trans (h.y0 j k h0)
  · exact (p 0 j k h0).1.2.2.trans (h.z0 j k h0)

theorem SymH.congr {r : Nat} {V V' : V3 K} (h : SymH m r V)
    (e : ∀ i j k, m - r ≤ i → i < m + r → V'.x i j k = V.x i j k ∧ V'.y i j k = V.y i j k ∧ V'.z i j k = V.z i j k) :
    SymH m r V' := by
  have p := fun d j k (hd : d < r) => slab_pairs (fun i => e i j k) hd
  refine ⟨fun d j k hd => ?_, fun j k h0 => ?_, fun d j k hd => ?_, fun d j k hd => ?_⟩
  · rw [(p d j k hd).1.1, (p d j k hd).2.1.1]; exact h.x d j k hd
  · exact (p 0 j k h0).1.1.trans (h.x0 j k h0)
  · rw [(p d j k hd).1.2.1, (p d j k hd).2.2.2.1]; exact h.y d j k hd
  · rw [(p d j k hd).1.2.2, (p d j k hd).2.2.2.2]; exact h.z d j k hd

theorem Clear.nil {r : Nat} : Clear ([] : List (PmlSt K)) m r := fun _ h => nomatch h

/-! without PML objects the curls are the plain curls and the CPML step is the Yee step -/

theorem curlHp_nil (sim : Bool) (H : V3 K) : curlHp cf sim [] H = curlH cf H := rfl
theorem curlEp_nil (sim : Bool) (E : V3 K) : curlEp cf sim [] E = curlE cf E := rfl

theorem forwardP_nil (mt : Mat K) (jE jH E H : V3 K) (sim : Bool) :
    forwardP cf mt jE jH sim [] E H = ((forward cf mt jE jH E H).1, (forward cf mt jE jH E H).2, []) := by
  simp only [forwardP, List.map_nil, curlHp_nil, curlEp_nil]
  rfl

/-- One CPML step on a window of `r` pairs that no PML box meets.  E keeps its `r` pairs.  H keeps the pairs `d < s`
whose forward difference of E stays inside the window (`d + 1 < r`), and the outermost pair `d + 1 = m` as well when
the far faces are a mirror pair: the far PEC layer has just zeroed tangential E on layer `0`, the image of the zero
right ghost. -/
theorem forwardP_sym {r s : Nat} {mt : Mat K} {jE jH E H : V3 K} {pmls : List (PmlSt K)} (hn : cf.nx = 2 * m)
    (hr : r ≤ m) (hs : s ≤ r) (hpec : r = m → cf.bx.pecHi = false) (hx : XInv mt) (hmet : MetricSym cf m r)
    (sim : Bool) (hc : Clear pmls m r) (sE : SymE m r E) (sH : SymH m r H) (sJE : SymE m r jE) (sJH : SymH m r jH)
    (hout : ∀ d, d < s → d + 1 < r ∨ d + 1 = m ∧ FarSym cf) :
    SymE m r (forwardP cf mt jE jH sim pmls E H).1 ∧ SymH m s (forwardP cf mt jE jH sim pmls E H).2.1 := by
  -- inside the slab the PML loops of curl_H and curl_E do nothing
  have cH : SymE m r (curlHp cf sim pmls H) := (curlH_sym hr hmet sH).congr fun i j k a b =>
    curlHp_clear sim H i j k pmls fun st hst => hc st hst i j k a b
  have eE : SymE m r (updEwith cf mt jE (curlHp cf sim pmls H) E) := updE_sym hn hr hpec hx sE cH sJE
  have cE : SymH m s (curlEp cf sim (pmls.map (updPsiE cf sim H)) (updEwith cf mt jE (curlHp cf sim pmls H) E)) :=
    (curlE_sym hn hr hmet eE hs fun d hd => (hout d hd).imp_right fun ⟨e, hf⟩ =>
      ⟨e, hf.wrap, fun j k => if_pos (pecMask_lo hf.pecLo 1 j k (by decide)),
        fun j k => if_pos (pecMask_lo hf.pecLo 2 j k (by decide))⟩).congr fun i j k a b =>
      curlEp_clear sim _ i j k _ fun st hst => ((hc.mono hs).map (updPsiE cf sim H) fun _ => rfl) st hst i j k a b
  exact ⟨eE, updH_sym hn hx (hs.trans hr) (fun d hd => (hout d hd).imp (·.trans_le hr) (·.2.pmc)) (sH.mono hs) cE
    (sJH.mono hs)⟩

end
end Fdtdx.C33
