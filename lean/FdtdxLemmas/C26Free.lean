/-
The invariant of an axis of an object that nothing constrains: its three slots stay unknown until the extension
step writes `lo = 0`, `hi = volume size`; afterwards only `size := hi - lo` can fire.
-/
import FdtdxLemmas.C26Term

namespace Fdtdx.C26

variable {α : Type} [Add α] [Sub α] [Mul α] [Div α] [Neg α] [LT α] [DecidableLT α]
  [OfNat α 0] [OfNat α 1] [OfNat α 2]

set_option linter.unusedSectionVars false

/-! ### an unconstrained axis -/

/-- the constraint has a rule that writes a slot of object `o` on axis `ax` -/
def Con.touches (c : Con α) (o ax : Nat) : Bool :=
  c.owner == o &&
    (match c with
     | .gridc _ es => es.any fun e => e.1 == ax
     | .realc _ es => es.any fun e => e.1 == ax
     | .pos _ _ es => es.any fun e => e.ax == ax
     | .size _ _ es => es.any fun e => e.ax == ax
     | .ext _ _ ax' _ _ _ _ => ax' == ax)

/-- nothing says anything about axis `ax` of the object(s) named `id`: no static shape or position, no
constraint on that axis -/
def Unconstrained (sys : Sys α) (id ax : Nat) : Prop :=
  (∀ o ∈ sys.objs, o.id = id → o.gshape.getD ax none = none ∧ o.rshape.getD ax none = none ∧
    o.rpos.getD ax none = none) ∧
  ∀ c ∈ sys.cons, c.touches id ax = false

theorem touches_of_mem_axes {c : Con α} {ax : Nat} (h : ax ∈ c.axes) : c.touches c.owner ax = true := by
  cases c with
  | ext => simp [Con.touches, Con.owner, List.mem_singleton.1 h]
  | _ =>
    simpa only [Con.touches, Con.owner, beq_self_eq_true, Bool.true_and, List.any_eq_true, beq_iff_eq, Con.axes,
      List.mem_map] using h

/-- the only atoms that can assign a slot of an unconstrained axis are the three bookkeeping rules -/
theorem free_atoms {sys : Sys α} {id ax : Nat} (hfree : Unconstrained sys id ax) {a : Atom}
    (ha : a ∈ allAtoms (groups sys)) (ho : a.target.o = id) (hax : a.target.ax = ax)
    (hf : ∃ vs x, a.f vs = some x) : a = bookHi id ax ∨ a = bookLo id ax ∨ a = bookSize id ax := by
  rcases mem_atoms_groups.1 ha with ⟨o, hoo, ax', _, p, hp, h⟩ | ⟨o, hoo, ax', _, h⟩ | ⟨o, hoo, ax', _, rfl⟩ |
    ⟨c, hc, h⟩
  · have : o.id = id ∧ ax' = ax := by rcases h with rfl | rfl <;> exact ⟨ho, hax⟩
    rw [this.2, (hfree.1 o hoo this.1).2.2] at hp
    cases hp
  · have : o.id = id ∧ ax' = ax := by rcases h with rfl | rfl <;> exact ⟨ho, hax⟩
    rw [← this.1, ← this.2]
    exact h.imp_right Or.inl
  · cases ho
    cases hax
    exact Or.inr (Or.inr rfl)
  · obtain ⟨_, h1, h2 | ⟨_, h2⟩⟩ := atom_of_con h
    · have := touches_of_mem_axes h2
      rw [← h1, ho, hax, hfree.2 c hc] at this
      cases this
    · obtain ⟨vs, x, hx⟩ := hf
      rw [h2] at hx
      cases hx

/-- state of an unconstrained axis: nothing known yet, or extended over the whole volume -/
def FreeInv (sys : Sys α) (id ax : Nat) (vs : Int) (σ : St) : Prop :=
  σ ⟨volId sys, ax, .size⟩ = some vs ∧
  ((σ ⟨id, ax, .lo⟩ = none ∧ σ ⟨id, ax, .hi⟩ = none ∧ σ ⟨id, ax, .size⟩ = none) ∨
   (σ ⟨id, ax, .lo⟩ = some 0 ∧ σ ⟨id, ax, .hi⟩ = some vs ∧
     (σ ⟨id, ax, .size⟩ = none ∨ σ ⟨id, ax, .size⟩ = some vs)))

theorem freeInv_step {sys : Sys α} {id ax : Nat} {vs : Int} (hfree : Unconstrained sys id ax)
    (a : Atom) (ha : a ∈ allAtoms (groups sys)) (ρ : St) (x : Int) (hP : FreeInv sys id ax vs ρ)
    (he : a.eval ρ = .set x) : FreeInv sys id ax vs (ρ.set a.target (some x)) := by
  obtain ⟨vals, hp, hf, ht⟩ := eval_set_iff.1 he
  obtain ⟨hvol, hst⟩ := hP
  have hvne : (⟨volId sys, ax, .size⟩ : Var) ≠ a.target := by
    intro h; rw [← h, hvol] at ht; cases ht
  by_cases hmine : a.target.o = id ∧ a.target.ax = ax
  · -- one of the three bookkeeping rules
    rcases free_atoms hfree ha hmine.1 hmine.2 ⟨vals, x, hf⟩ with rfl | rfl | rfl
    · -- hi := lo + size: needs lo and size known and hi unknown — impossible in both states
      exfalso
      simp only [bookHi] at hp ht
      rcases hst with ⟨h1, _, _⟩ | ⟨_, h2, _⟩
      · simp [premVals, h1] at hp
      · rw [h2] at ht; cases ht
    · exfalso
      simp only [bookLo] at hp ht
      rcases hst with ⟨_, h2, _⟩ | ⟨h1, _, _⟩
      · simp [premVals, h2] at hp
      · rw [h1] at ht; cases ht
    · -- size := hi - lo
      simp only [bookSize] at hp ht hf ⊢
      rcases hst with ⟨_, h2, _⟩ | ⟨h1, h2, _⟩
      · simp [premVals, h2] at hp
      · simp only [premVals, h1, h2] at hp
        cases hp
        simp only [subF, Option.some.injEq] at hf
        have hvne' : (⟨volId sys, ax, .size⟩ : Var) ≠ ⟨id, ax, .size⟩ := hvne
        refine ⟨by rw [St.set_of_ne _ _ hvne']; exact hvol, Or.inr ⟨?_, ?_, Or.inr ?_⟩⟩
        · rw [St.set_of_ne _ _ (by simp)]; exact h1
        · rw [St.set_of_ne _ _ (by simp)]; exact h2
        · rw [St.set_self, ← hf]; simp
  · -- some other slot
    have hne : ∀ k, (⟨id, ax, k⟩ : Var) ≠ a.target := by
      intro k h
      apply hmine
      rw [← h]
      exact ⟨rfl, rfl⟩
    refine ⟨by rw [St.set_of_ne _ _ hvne]; exact hvol, ?_⟩
    rw [St.set_of_ne _ _ (hne .lo), St.set_of_ne _ _ (hne .hi), St.set_of_ne _ _ (hne .size)]
    exact hst

theorem freeInv_ext {sys : Sys α} {id ax : Nat} {vs : Int} (hfree : Unconstrained sys id ax)
    (hobj : isObj sys id = true) (hax : ax < 3) (ρ : St) (hP : FreeInv sys id ax vs ρ) :
    FreeInv sys id ax vs (extend sys ρ) := by
  obtain ⟨hvol, hst⟩ := hP
  have hv' : extend sys ρ ⟨volId sys, ax, .size⟩ = some vs := extend_mono sys ρ _ _ hvol
  refine ⟨hv', ?_⟩
  rw [extend_eq]
  have hsize : extendPt sys ρ ⟨id, ax, .size⟩ = ρ ⟨id, ax, .size⟩ := by
    simp [extendPt, extends_]
  -- no constraint touches the axis, so none is an extension or a pending position constraint on it
  have hnoext : ∀ hi, hasExt sys id ax hi = false := fun hi =>
    List.any_eq_false.2 fun c hc hcon => by
      have := hfree.2 c hc
      cases c with
      | ext o' t ax' hi' opos off goff =>
        simp only [Bool.and_eq_true] at hcon
        rw [Con.touches, Con.owner, hcon.1.1, hcon.1.2] at this
        cases this
      | _ => cases hcon
  have hnopos : pendingPos sys ρ id ax = false :=
    List.any_eq_false.2 fun c hc hcon => by
      have := hfree.2 c hc
      cases c with
      | pos o' t es =>
        simp only [Bool.and_eq_true] at hcon
        rw [Con.touches, Con.owner, hcon.1.1, hcon.1.2] at this
        cases this
      | _ => cases hcon
  right
  rcases hst with ⟨h1, h2, h3⟩ | ⟨h1, h2, h3⟩
  · have e1 : extends_ sys ρ ⟨id, ax, .lo⟩ = true := by
      simp [extends_, hax, hobj, h1, h2, h3, extensible, hnoext, hnopos]
    have e2 : extends_ sys ρ ⟨id, ax, .hi⟩ = true := by
      simp [extends_, hax, hobj, h1, h2, h3, extensible, hnoext, hnopos]
    refine ⟨by simp [extendPt, e1], by simp [extendPt, e2, hvol], Or.inl (by rw [hsize]; exact h3)⟩
  · have e1 : extends_ sys ρ ⟨id, ax, .lo⟩ = false := by simp [extends_, h1]
    have e2 : extends_ sys ρ ⟨id, ax, .hi⟩ = false := by simp [extends_, h2]
    refine ⟨by simp [extendPt, e1, h1], by simp [extendPt, e2, h2], by rw [hsize]; exact h3⟩

end Fdtdx.C26
