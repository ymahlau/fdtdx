/-
Helper lemmas about the CPML model (`FdtdxModel/Cpml.lean`) shared by C03 and C12: the PML loop of the curls as a
left fold (`foldl_fixed`); a PML cell with zero profile (a = 0, κ-term absent or 1/κ = 1) and ψ = 0 contributes nothing
and keeps ψ = 0 (`stepCpml1_clean`); the geometry of full-face boxes (`faceBox`) and their interface layers
(`ifaceBox`), all read off one normal form (`FaceGeo.slab`): the interface layer is the boundary layer of the box
(`iface_of_adjacent`), and neither depends on a wrapping coordinate (`mem_wrap`); locality of `next1` / `prev1`; the
Yee half steps as the `…with` forms of the CPML model fed with the plain curls.
-/
import FdtdxModel.Cpml
import Mathlib.Algebra.Field.Basic

namespace Fdtdx.Cpml
open Fdtdx Fdtdx.Yee

theorem foldl_fixed {α β : Type} (f : α → β → α) (acc : α) (l : List β) (h : ∀ s ∈ l, f acc s = acc) :
    l.foldl f acc = acc := by
  induction l with
  | nil => rfl
  | cons s t ih =>
    rw [List.foldl_cons, h s List.mem_cons_self]
    exact ih fun s' hs' => h s' (List.mem_cons_of_mem s hs')

section
variable {K : Type} [Field K]

/-- zero profile at offset `o`: both `a` coefficients vanish and the κ term is absent or trivial -/
def CleanAt (p : Pml K) (o : Nat) : Prop :=
  p.aE o = 0 ∧ p.aH o = 0 ∧ (p.kappaDefault = true ∨ (p.ikE o = 1 ∧ p.ikH o = 1))

/-- with zero profile and ψ = 0, `step_cpml` returns correction 0 and ψ' = 0 (for either coefficient set and
either value of `simulate_boundaries`) -/
theorem stepCpml1_clean (p : Pml K) (isE sim : Bool) (o : Nat) (d : K) (h : CleanAt p o) :
    stepCpml1 p isE sim o d 0 = (0, 0) := by
  obtain ⟨h1, h2, h3⟩ := h
  -- the coefficient set `isE` selects has `a = 0`, so ψ' = 0; then the correction is ψ' or `(1/κ - 1) * d + ψ'`
  have ha : (if isE then p.aH o else p.aE o) = 0 := by cases isE <;> assumption
  have hk : p.kappaDefault = true ∨ (if isE then p.ikH o else p.ikE o) = 1 :=
    h3.imp_right fun h => by cases isE; exacts [h.1, h.2]
  simp only [stepCpml1, ha, mul_zero, zero_mul, add_zero, ite_self]
  rcases hk with hk | hk <;> simp only [hk, if_true, sub_self, zero_mul, add_zero, ite_self]

/-! ### geometry -/

def dimOf (cf : Cfg K) (a : Nat) : Nat := match a with | 0 => cf.nx | 1 => cf.ny | _ => cf.nz
def wrapOf (cf : Cfg K) (a : Nat) : Bool := match a with | 0 => cf.bx.wrap | 1 => cf.by_.wrap | _ => cf.bz.wrap

/-- the box of a PML spans a full face of the volume with thickness `1 ≤ th ≤ n` on a non-wrapping axis
(what `boundary_objects_from_config` + placement produce) -/
def FaceGeo (cf : Cfg K) (q : Pml K) : Prop :=
  q.axis < 3 ∧ wrapOf cf q.axis = false ∧
    ∃ th, 1 ≤ th ∧ th ≤ dimOf cf q.axis ∧ q.box = faceBox cf.nx cf.ny cf.nz q.axis q.plus th

/-- the interface box of PML `q` -/
def Pml.iface (q : Pml K) : Box := ifaceBox q.box q.axis q.plus

/-- offset (along the axis) of the interface layer inside the box -/
def Pml.ifOff (q : Pml K) : Nat := if q.plus then 0 else q.box.hi q.axis - q.box.lo q.axis - 1

theorem axis_cases {n : Nat} (h : n < 3) : n = 0 ∨ n = 1 ∨ n = 2 := by omega

/-- cells at most one apart in every coordinate are at most one apart along any axis -/
theorem axIdx_adjacent (a : Nat) {i j k i' j' k' : Nat}
    (h : (i ≤ i' + 1 ∧ i' ≤ i + 1) ∧ (j ≤ j' + 1 ∧ j' ≤ j + 1) ∧ (k ≤ k' + 1 ∧ k' ≤ k + 1)) :
    axIdx a i j k ≤ axIdx a i' j' k' + 1 ∧ axIdx a i' j' k' ≤ axIdx a i j k + 1 := by
  unfold axIdx; split
  exacts [h.1, h.2.1, h.2.2]

/-- A full-face box is a slab across the volume: the in-bounds cells on one side of the coordinate `c` of its
interface layer (`c ≤ ·` for "+", `· ≤ c` for "-"); the interface layer is the in-bounds cells at `c`, at offset
`ifOff`.  Everything below about boxes is read off this form. -/
theorem FaceGeo.slab {cf : Cfg K} {q : Pml K} (hg : FaceGeo cf q) : ∃ c, ∀ i j k,
    (q.box.mem i j k ↔
      (i < cf.nx ∧ j < cf.ny ∧ k < cf.nz) ∧ if q.plus then c ≤ axIdx q.axis i j k else axIdx q.axis i j k ≤ c) ∧
    (q.iface.mem i j k ↔ (i < cf.nx ∧ j < cf.ny ∧ k < cf.nz) ∧ axIdx q.axis i j k = c) ∧
    (axIdx q.axis i j k = c → q.off i j k = q.ifOff) := by
  obtain ⟨ha, -, th, h1, h2, hb⟩ := hg
  refine ⟨if q.plus then dimOf cf q.axis - th else th - 1, fun i j k => ?_⟩
  unfold Pml.iface Pml.off Pml.ifOff
  rw [hb]
  rcases axis_cases ha with h0 | h0 | h0 <;> rw [h0] at h2 ⊢ <;> cases q.plus <;>
    simp only [faceBox, ifaceBox, Box.mem, Box.lo, Box.hi, axIdx, dimOf, if_true, if_false, Bool.false_eq_true,
      Nat.zero_le, true_and, Nat.sub_zero] at h2 ⊢ <;>
    omega

/-- the interface layer lies inside the box, at offset `ifOff` -/
theorem iface_sub (cf : Cfg K) (q : Pml K) (hg : FaceGeo cf q) (i j k : Nat) (h : q.iface.mem i j k) :
    q.box.mem i j k ∧ q.off i j k = q.ifOff := by
  obtain ⟨c, hc⟩ := hg.slab
  obtain ⟨hbox, hif, hoff⟩ := hc i j k
  obtain ⟨hb, he⟩ := hif.1 h
  exact ⟨hbox.2 ⟨hb, by split <;> omega⟩, hoff he⟩

/-- The interface layer is the inner boundary of the slab: a cell of a full-face box at most one cell away, in every
coordinate, from an in-bounds cell outside the box is on its interface layer. -/
theorem iface_of_adjacent {cf : Cfg K} {q : Pml K} (hg : FaceGeo cf q) {i j k i' j' k' : Nat}
    (hadj : (i ≤ i' + 1 ∧ i' ≤ i + 1) ∧ (j ≤ j' + 1 ∧ j' ≤ j + 1) ∧ (k ≤ k' + 1 ∧ k' ≤ k + 1))
    (hb : i' < cf.nx ∧ j' < cf.ny ∧ k' < cf.nz) (hm : q.box.mem i j k) (hn : ¬ q.box.mem i' j' k') :
    q.iface.mem i j k := by
  obtain ⟨c, hc⟩ := hg.slab
  obtain ⟨hin, hside⟩ := (hc _ _ _).1.1 hm
  have hside' : ¬ if q.plus then c ≤ axIdx q.axis i' j' k' else axIdx q.axis i' j' k' ≤ c :=
    fun h => hn ((hc _ _ _).1.2 ⟨hb, h⟩)
  have h := axIdx_adjacent q.axis hadj
  refine (hc _ _ _).2.1.2 ⟨hin, ?_⟩
  -- the two cells lie on different sides of the face of the slab at `c` and are at most one apart along its axis
  cases hp : q.plus <;> simp only [hp, if_true, if_false, Bool.false_eq_true] at hside hside' <;> omega

/-- on a wrapping axis there is no PML, so membership in a box and in its interface layer does not depend on that
coordinate -/
theorem mem_wrap {cf : Cfg K} {q : Pml K} (hg : FaceGeo cf q) {i j k i' j' k' : Nat}
    (hb : i < cf.nx ∧ j < cf.ny ∧ k < cf.nz) (hb' : i' < cf.nx ∧ j' < cf.ny ∧ k' < cf.nz)
    (hx : i = i' ∨ cf.bx.wrap = true) (hy : j = j' ∨ cf.by_.wrap = true) (hz : k = k' ∨ cf.bz.wrap = true) :
    (q.box.mem i j k ↔ q.box.mem i' j' k') ∧ (q.iface.mem i j k ↔ q.iface.mem i' j' k') := by
  have ha : axIdx q.axis i j k = axIdx q.axis i' j' k' := by
    have hw := hg.2.1
    rcases axis_cases hg.1 with h0 | h0 | h0 <;> rw [h0] at hw ⊢
    · exact hx.resolve_right fun h => Bool.noConfusion (h.symm.trans hw)
    · exact hy.resolve_right fun h => Bool.noConfusion (h.symm.trans hw)
    · exact hz.resolve_right fun h => Bool.noConfusion (h.symm.trans hw)
  obtain ⟨c, hc⟩ := hg.slab
  rw [(hc i j k).1, (hc i' j' k').1, (hc i j k).2.1, (hc i' j' k').2.1, ha, iff_of_true hb hb']
  exact ⟨Iff.rfl, Iff.rfl⟩

/-! ### stencil footprint: a difference at a cell reads the cell and one neighbour (or the wrapped cell) -/

theorem next1_congr (n : Nat) (b : AxisBC K) (g g' : Nat → K) (i : Nat) (h1 : i + 1 < n → g (i + 1) = g' (i + 1))
    (h2 : ¬ i + 1 < n → b.wrap = true → g 0 = g' 0) : next1 n b g i = next1 n b g' i := by
  unfold next1
  split_ifs with hc hw
  · exact h1 hc
  · rw [h2 hc hw]
  · rfl

theorem prev1_congr (n : Nat) (b : AxisBC K) (g g' : Nat → K) (i : Nat) (h1 : ∀ i', i = i' + 1 → g i' = g' i')
    (h2 : i = 0 → b.wrap = true → g (n - 1) = g' (n - 1)) : prev1 n b g i = prev1 n b g' i := by
  unfold prev1
  split_ifs with h0 hw
  · rw [h2 h0 hw]
  · rfl
  · exact h1 (i - 1) (by omega)

/-- the Yee steps are the `…with` forms fed with the plain curls (the CPML model extends, does not fork, them) -/
theorem stepE_eq (cf : Cfg K) (m : Mat K) (jE E H : V3 K) : stepE cf m jE E H = updEwith cf m jE (curlH cf H) E := rfl
theorem stepH_eq (cf : Cfg K) (m : Mat K) (jH E H : V3 K) : stepH cf m jH E H = updHwith cf m jH (curlE cf E) H := rfl
theorem revStepH_eq (cf : Cfg K) (m : Mat K) (jH E H : V3 K) :
    revStepH cf m jH E H = revHwith cf m jH (curlE cf E) H := rfl
theorem revStepE_eq (cf : Cfg K) (m : Mat K) (jE E H : V3 K) :
    revStepE cf m jE E H = revEwith cf m jE (curlH cf H) E := rfl

end
end Fdtdx.Cpml
