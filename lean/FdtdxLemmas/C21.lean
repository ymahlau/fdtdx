/-
Generic facts about averaging a function with its composition by an involution (used by C21), for
`P v = (v + v ∘ σ) / 2` in characteristic ≠ 2: wherever `σ (σ i) = i`, `P v` takes the same value at `i` and `σ i`
and `P (P v) = P v`; `P v = v` exactly where `v ∘ σ = v`; and if `σ` maps a finite index set `s` into itself and is
an involution on it, `P` preserves the sum over `s`.
-/
import Mathlib.Algebra.BigOperators.Field
import Mathlib.Algebra.BigOperators.Group.Finset.Basic

namespace Fdtdx.AvgInvol

variable {ι K : Type} [Field K]

/-- `(v + v ∘ σ) / 2` -/
def avg (σ : ι → ι) (v : ι → K) : ι → K := fun i => (v i + v (σ i)) / 2

variable {σ : ι → ι} {s : Finset ι}

theorem avg_invariant (v : ι → K) {i : ι} (hi : σ (σ i) = i) : avg σ v (σ i) = avg σ v i := by
  unfold avg; rw [hi, add_comm]

/-- a function is its own average exactly where it is invariant, so the σ-invariant functions are the image of `avg σ` -/
theorem invariant_iff_fixed (h2 : (2 : K) ≠ 0) (v : ι → K) (i : ι) : avg σ v i = v i ↔ v (σ i) = v i := by
  unfold avg
  rw [div_eq_iff h2, mul_two, add_right_inj]

theorem avg_fixed (h2 : (2 : K) ≠ 0) {v : ι → K} {i : ι} (hv : v (σ i) = v i) : avg σ v i = v i :=
  (invariant_iff_fixed h2 v i).mpr hv

theorem avg_idem (h2 : (2 : K) ≠ 0) (v : ι → K) {i : ι} (hi : σ (σ i) = i) : avg σ (avg σ v) i = avg σ v i :=
  avg_fixed h2 (avg_invariant v hi)

theorem sum_comp_invol (hmap : ∀ i ∈ s, σ i ∈ s) (hinv : ∀ i ∈ s, σ (σ i) = i) (v : ι → K) :
    ∑ i ∈ s, v (σ i) = ∑ i ∈ s, v i :=
  Finset.sum_nbij' σ σ hmap hmap hinv hinv (fun _ _ => rfl)

theorem avg_sum (h2 : (2 : K) ≠ 0) (hmap : ∀ i ∈ s, σ i ∈ s) (hinv : ∀ i ∈ s, σ (σ i) = i) (v : ι → K) :
    ∑ i ∈ s, avg σ v i = ∑ i ∈ s, v i := by
  unfold avg
  rw [← Finset.sum_div, Finset.sum_add_distrib, sum_comp_invol hmap hinv, ← two_mul, mul_div_cancel_left₀ _ h2]

end Fdtdx.AvgInvol
