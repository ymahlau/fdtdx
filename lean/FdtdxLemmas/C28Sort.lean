/-
Two list facts behind the painter's rule of C28: a fold whose step overwrites on covering elements and leaves good
values alone otherwise ends in the target of the LAST covering element, and the last element satisfying `p` in a
stable sort by an integer key is the one with the largest (key, original index).
-/

namespace Fdtdx.C28Lemmas

theorem foldl_fixed {σ O : Type} (f : σ → O → σ) (s : σ) : ∀ L : List O, (∀ o ∈ L, f s o = s) → L.foldl f s = s
  | [], _ => rfl
  | x :: xs, h => by
    rw [List.foldl_cons, h x List.mem_cons_self]
    exact foldl_fixed f s xs fun o ho => h o (List.mem_cons_of_mem _ ho)

/-- painter's rule for an abstract fold: if on the members of the list the step overwrites with `tgt o` on covering
elements and is the identity on good values otherwise, and targets are good, the fold ends in the target of the last
covering element. -/
theorem foldl_last_cover {σ O : Type} (f : σ → O → σ) (cov : O → Bool) (tgt : O → σ) (good : σ → Prop)
    (L : List O) (s : σ) (o : O)
    (hcov : ∀ o ∈ L, ∀ s, cov o = true → f s o = tgt o)
    (hnot : ∀ o ∈ L, ∀ s, cov o = false → good s → f s o = s)
    (hgood : ∀ o ∈ L, cov o = true → good (tgt o))
    (h : (L.filter cov).getLast? = some o) : L.foldl f s = tgt o := by
  -- split the list at `o`: whatever precedes it is overwritten, nothing behind it covers
  obtain ⟨F, hF⟩ := List.getLast?_eq_some_iff.mp h
  obtain ⟨l₁, l₂, rfl, -, h₂⟩ := List.filter_eq_append_iff.mp hF
  obtain ⟨m₁, m₂, rfl, -, ho, hm₂⟩ := List.filter_eq_cons_iff.mp h₂
  have hmem : ∀ z ∈ o :: m₂, z ∈ l₁ ++ (m₁ ++ o :: m₂) := fun z hz =>
    List.mem_append_right _ (List.mem_append_right _ hz)
  rw [List.foldl_append, List.foldl_append, List.foldl_cons, hcov o (hmem o List.mem_cons_self) _ ho]
  exact foldl_fixed f _ m₂ fun z hz => hnot z (hmem z (List.mem_cons_of_mem _ hz)) _
    (Bool.eq_false_iff.mpr (List.filter_eq_nil_iff.mp hm₂ z hz)) (hgood o (hmem o List.mem_cons_self) ho)

theorem pairwise_rel_getLast? {β : Type} {R : β → β → Prop} {l : List β} {z : β}
    (h : l.getLast? = some z) (hp : l.Pairwise R) : ∀ x ∈ l, x = z ∨ R x z := by
  obtain ⟨ys, rfl⟩ := List.getLast?_eq_some_iff.mp h
  intro x hx
  rcases List.mem_append.mp hx with hx | hx
  · exact Or.inr ((List.pairwise_append.mp hp).2.2 x hx z (List.mem_singleton_self z))
  · exact Or.inl (List.mem_singleton.mp hx)

variable {β : Type} (key : β → Int)

theorem keyLE_trans (a b c : β) (h1 : decide (key a ≤ key b) = true) (h2 : decide (key b ≤ key c) = true) :
    decide (key a ≤ key c) = true :=
  decide_eq_true (Int.le_trans (of_decide_eq_true h1) (of_decide_eq_true h2))

theorem keyLE_total (a b : β) : (decide (key a ≤ key b) || decide (key b ≤ key a)) = true := by
  rw [Bool.or_eq_true, decide_eq_true_eq, decide_eq_true_eq]
  exact Int.le_total _ _

/-- stable sort by an integer key: the last element of the sorted list that satisfies `p` is `l[j]` where `j`
maximises (key, index) among the indices whose element satisfies `p`.  Stability is read off the index-tagged
sort `l.zipIdx.mergeSort (zipIdxLE le)`, whose first components are `l.mergeSort le`. -/
theorem mergeSort_filter_getLast? (p : β → Bool) (l : List β) (z : β)
    (h : ((l.mergeSort (fun a b => decide (key a ≤ key b))).filter p).getLast? = some z) :
    ∃ (j : Nat) (hj : j < l.length), z = l[j] ∧ p l[j] = true ∧
      ∀ (k : Nat) (hk : k < l.length), p l[k] = true →
        key l[k] < key l[j] ∨ (key l[k] = key l[j] ∧ k ≤ j) := by
  rw [← List.mergeSort_zipIdx, List.filter_map, List.getLast?_map] at h
  obtain ⟨⟨z', j⟩, hz, rfl⟩ := Option.map_eq_some_iff.mp h
  have hzm := List.mem_filter.mp (List.mem_of_getLast? hz)
  obtain ⟨hj, rfl⟩ : ∃ hj : j < l.length, l[j] = z' := List.getElem?_eq_some_iff.mp
    (List.mem_zipIdx_iff_getElem?.mp (List.mem_mergeSort.mp hzm.1))
  refine ⟨j, hj, rfl, hzm.2, fun k hk hpk => ?_⟩
  rcases pairwise_rel_getLast? hz ((List.pairwise_mergeSort (List.zipIdxLE_trans (keyLE_trans key))
      (List.zipIdxLE_total (keyLE_total key)) l.zipIdx).sublist List.filter_sublist) (l[k], k)
    (List.mem_filter.mpr ⟨List.mem_mergeSort.mpr
      (List.mem_zipIdx_iff_getElem?.mpr (List.getElem?_eq_getElem hk)), hpk⟩) with heq | hrel
  · exact Or.inr ⟨congrArg key (Prod.mk.inj heq).1, Nat.le_of_eq (Prod.mk.inj heq).2⟩
  · simp only [List.zipIdxLE, decide_eq_true_eq] at hrel
    split at hrel
    · split at hrel
      · exact Or.inr ⟨Int.le_antisymm ‹_› ‹_›, of_decide_eq_true hrel⟩
      · exact Or.inl (Int.lt_of_not_ge ‹_›)
    · cases hrel

end Fdtdx.C28Lemmas
