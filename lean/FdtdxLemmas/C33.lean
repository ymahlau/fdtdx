/-
Helper lemmas for C33 (symmetry reduction across an electric plane normal to x): the one-dimensional halo accessors
under index shift, negation and mirroring about the plane; wall layers of a mirrored pair of cells; oddness of the
scalar updates and of one masked cell of a half step.
-/
import FdtdxModel.C33
import FdtdxModel.Cpml
import Mathlib.Tactic.Ring
import Mathlib.Algebra.Field.Basic

namespace Fdtdx.C33
open Fdtdx Fdtdx.Yee

section
variable {K : Type} [Field K]

/-! ### 1-D halo accessors -/

theorem prev1_pos {n : Nat} {b : AxisBC K} {g : Nat → K} {i : Nat} (hi : 0 < i) : prev1 n b g i = g (i - 1) :=
  if_neg (by omega)

theorem next1_lt {n : Nat} {b : AxisBC K} {g : Nat → K} {i : Nat} (hi : i + 1 < n) : next1 n b g i = g (i + 1) :=
  if_pos hi

theorem next1_last {n : Nat} {b : AxisBC K} {g : Nat → K} {i : Nat} (hi : ¬ i + 1 < n) (hb : b.wrap = false) :
    next1 n b g i = 0 := by
  rw [next1, if_neg hi, hb]
  rfl

theorem prev1_shift {n n' : Nat} {b b' : AxisBC K} {g g' : Nat → K} {m i : Nat} (hi : 0 < i)
    (h : g (i - 1) = g' (m + (i - 1))) : prev1 n b g i = prev1 n' b' g' (m + i) := by
  rw [prev1_pos hi, prev1_pos (by omega), h, show m + i - 1 = m + (i - 1) by omega]

theorem next1_shift {m n' : Nat} {b b' : AxisBC K} {g g' : Nat → K} {i : Nat} (hi : i < m) (hn : n' = 2 * m)
    (hb : b.wrap = false) (hb' : b'.wrap = false)
    (h : i + 1 < m → g (i + 1) = g' (m + (i + 1))) : next1 m b g i = next1 n' b' g' (m + i) := by
  by_cases hlt : i + 1 < m
  · rw [next1_lt hlt, next1_lt (by omega), h hlt, show m + i + 1 = m + (i + 1) by omega]
  · rw [next1_last hlt hb, next1_last (by omega) hb']

theorem prev1_neg (n : Nat) (b : AxisBC K) (g : Nat → K) (i : Nat) :
    prev1 n b (fun t => - g t) i = - prev1 n b g i := by
  unfold prev1
  split_ifs
  exacts [neg_mul _ _, neg_zero.symm, rfl]

theorem next1_neg (n : Nat) (b : AxisBC K) (g : Nat → K) (i : Nat) :
    next1 n b (fun t => - g t) i = - next1 n b g i := by
  unfold next1
  split_ifs
  exacts [rfl, neg_mul _ _, neg_zero.symm]

theorem prev1_zero (n : Nat) (b : AxisBC K) (i : Nat) : prev1 n b (fun _ => (0 : K)) i = 0 := by
  unfold prev1
  split_ifs
  exacts [zero_mul _, rfl, rfl]

theorem next1_zero (n : Nat) (b : AxisBC K) (i : Nat) : next1 n b (fun _ => (0 : K)) i = 0 := by
  unfold next1
  split_ifs
  exacts [rfl, zero_mul _, rfl]

theorem sub_one_sub (m d : Nat) : m - 1 - d = m - (d + 1) := by rw [Nat.add_comm, Nat.sub_sub]

/-- a line that is even about the point half a cell below `m`, read at the on-plane pair `m + (d+1) ↔ m - (d+1)` and
one cell below each; hence its backward difference is odd about `m` -/
theorem even_mirror {α : Type} (g : Nat → α) {m r d : Nat} (hr : r ≤ m)
    (hg : ∀ d, d < r → g (m + d) = g (m - 1 - d)) (hd : d + 1 < r) :
    g (m + (d + 1)) = g (m - (d + 1) - 1) ∧ g (m + (d + 1) - 1) = g (m - (d + 1)) ∧ 0 < m - (d + 1) := by
  have e := hg d (Nat.lt_of_succ_lt hd)
  rw [sub_one_sub] at e
  exact ⟨(hg (d + 1) hd).trans (congrArg g (Nat.sub_right_comm m 1 (d + 1))), e, Nat.sub_pos_of_lt (hd.trans_le hr)⟩

theorem prev1_diff_mirror (n : Nat) (b : AxisBC K) (g : Nat → K) {m r d : Nat} (hr : r ≤ m)
    (hg : ∀ d, d < r → g (m + d) = g (m - 1 - d)) (hd : d + 1 < r) :
    g (m + (d + 1)) - prev1 n b g (m + (d + 1)) = -(g (m - (d + 1)) - prev1 n b g (m - (d + 1))) := by
  obtain ⟨e1, e2, hp⟩ := even_mirror g hr hg hd
  rw [prev1_pos (show 0 < m + (d + 1) from Nat.succ_pos _), prev1_pos hp, e1, e2, neg_sub]

/-- the forward difference of a line that is odd about `m` is even about the point half a cell below `m`.  For the
outermost pair `2m - 1 ↔ 0` the zero right ghost beyond `2m - 1` has to be matched by a zero at index `0`. -/
theorem next1_diff_mirror (b : AxisBC K) (g : Nat → K) {m r d : Nat} (hr : r ≤ m)
    (hg : ∀ d, d < r → g (m + d) = - g (m - d)) (hd : d < r)
    (hout : d + 1 < r ∨ d + 1 = m ∧ b.wrap = false ∧ g 0 = 0) :
    next1 (2 * m) b g (m + d) - g (m + d) = next1 (2 * m) b g (m - 1 - d) - g (m - 1 - d) := by
  have hm : d < m := hd.trans_le hr
  have a : m - 1 - d + 1 = m - d := by rw [Nat.sub_right_comm, Nat.sub_add_cancel (Nat.sub_pos_of_lt hm)]
  have a1 : m - 1 - d + 1 < 2 * m := a ▸ (Nat.sub_le m d).trans_lt (by omega)
  rw [next1_lt a1, a, hg d hd]
  rcases hout with h | ⟨h, hw, h0⟩
  · rw [next1_lt (by omega), Nat.add_assoc, hg (d + 1) h, ← sub_one_sub, neg_sub_neg]
  · rw [next1_last (by omega) hw, sub_one_sub, Nat.sub_eq_zero_of_le h.ge, h0, zero_sub, neg_neg, sub_zero]

/-! ### scalar updates are odd (and vanish at zero) -/

theorem updE1_neg (c eta0 e cu ie : K) (sig : Option K) :
    updE1 c eta0 (-e) (-cu) ie sig = - updE1 c eta0 e cu ie sig := by
  cases sig with
  | none => simp only [updE1]; ring
  | some s => simp only [updE1]; ring

theorem updH1_neg (c eta0 h cu im : K) (sig : Option K) :
    updH1 c eta0 (-h) (-cu) im sig = - updH1 c eta0 h cu im sig := by
  cases sig with
  | none => simp only [updH1]; ring
  | some s => simp only [updH1]; ring

theorem updE1_zero (c eta0 ie : K) (sig : Option K) : updE1 c eta0 0 0 ie sig = 0 := by
  cases sig <;> simp only [updE1, mul_zero, zero_mul, add_zero, zero_div]

theorem updH1_zero (c eta0 im : K) (sig : Option K) : updH1 c eta0 0 0 im sig = 0 := by
  cases sig <;> simp only [updH1, mul_zero, zero_mul, sub_zero, zero_div]

/-! ### one masked cell of a half step

Each component of `Cpml.updEwith` / `Cpml.updHwith` (hence of `stepE` / `stepH`, which are these at the plain curl) is, by
unfolding, `if wall then 0 else f field curl material sigma + source` with `f` one of `updE1 c eta0`, `updH1 c eta0`. -/

section cell
variable (f : K → K → K → Option K → K) {w w' : Bool} {e e' cu cu' ie ie' j j' : K} {sig sig' : Option K}

theorem cell_congr (hw : w = w') (he : e = e') (hc : cu = cu') (hi : ie = ie') (hs : sig = sig') (hj : j = j') :
    (if w then 0 else f e cu ie sig + j) = if w' then 0 else f e' cu' ie' sig' + j' := by
  rw [hw, he, hc, hi, hs, hj]

theorem cell_odd (hf : ∀ e cu ie sig, f (-e) (-cu) ie sig = - f e cu ie sig) (hw : w = w') (he : e = -e')
    (hc : cu = -cu') (hi : ie = ie') (hs : sig = sig') (hj : j = -j') :
    (if w then 0 else f e cu ie sig + j) = -(if w' then 0 else f e' cu' ie' sig' + j') := by
  rw [hw, he, hc, hi, hs, hj, hf, ← neg_add, apply_ite Neg.neg, neg_zero]

theorem cell_zero (hf : ∀ ie sig, f 0 0 ie sig = 0) (he : e = 0) (hc : cu = 0) (hj : j = 0) :
    (if w then 0 else f e cu ie sig + j) = 0 := by
  rw [he, hc, hj, hf, add_zero, ite_self]

end cell

end

/-! ### wall layers along the halved axis -/

theorem onWall_inner (lo hi : Bool) {n i : Nat} (h0 : 0 < i) (h1 : i + 1 < n ∨ hi = false) :
    onWall lo hi n i = false := by
  have a : (i == 0) = false := beq_false_of_ne (by omega)
  rcases h1 with h1 | rfl
  · have b : (i + 1 == n) = false := beq_false_of_ne (by omega)
    simp [onWall, a, b]
  · simp [onWall, a]

/-- cell `i` of the upper half against cell `m + i` of the full axis: the low wall of the half (the symmetry wall)
has no counterpart, so it must not act at `i` -/
theorem onWall_upper (lo hi lo' : Bool) (m i : Nat) (hm : 0 < m + i) (hlo : lo = false ∨ 0 < i) :
    onWall lo hi m i = onWall lo' hi (2 * m) (m + i) := by
  have h1 : (lo && i == 0) = false := by
    rcases hlo with rfl | h
    · rfl
    · rw [beq_false_of_ne (by omega), Bool.and_false]
  have h2 : (m + i == 0) = false := beq_false_of_ne (by omega)
  have h3 : (m + i + 1 == 2 * m) = (i + 1 == m) := by
    rw [Bool.eq_iff_iff, beq_iff_eq, beq_iff_eq]
    omega
  rw [onWall, onWall, h1, h2, h3, Bool.and_false, Bool.false_or]

/-- the on-plane pair `m + d ↔ m - d`: only the upper cell can lie in a wall layer, and only when it is the last -/
theorem onWall_mirror_on (lo hi : Bool) {m d : Nat} (hd : d < m) (h : d + 1 < m ∨ hi = false) :
    onWall lo hi (2 * m) (m + d) = onWall lo hi (2 * m) (m - d) := by
  obtain _ | e := d
  · rfl
  rw [onWall_inner lo hi (show 0 < m + (e + 1) from Nat.succ_pos _) (h.imp_left fun h => by omega),
    onWall_inner lo hi (Nat.sub_pos_of_lt hd) (Or.inl ((Nat.succ_le_succ (Nat.sub_le m _)).trans_lt (by omega)))]

/-- the half-offset pair `m + d ↔ m - 1 - d`: the outermost pair consists of the two faces -/
theorem onWall_mirror_off (lo hi : Bool) {m d : Nat} (hd : d < m) (h : d + 1 < m ∨ lo = hi) :
    onWall lo hi (2 * m) (m + d) = onWall lo hi (2 * m) (m - 1 - d) := by
  rw [sub_one_sub]
  by_cases hl : d + 1 < m
  · rw [onWall_inner lo hi (by omega) (Or.inl (by omega)),
      onWall_inner lo hi (Nat.sub_pos_of_lt hl) (Or.inl ((Nat.succ_le_succ (Nat.sub_le m _)).trans_lt (by omega)))]
  · obtain ⟨a1, a2, a3⟩ : m + d ≠ 0 ∧ m + d + 1 = 2 * m ∧ 0 + 1 ≠ 2 * m := by omega
    rw [Nat.sub_eq_zero_of_le (Nat.le_of_not_lt hl), h.resolve_left hl]
    simp [onWall, beq_false_of_ne a1, beq_false_of_ne a3, a2]

end Fdtdx.C33
