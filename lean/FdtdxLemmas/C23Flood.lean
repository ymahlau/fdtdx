/- C23 helper lemmas: function view of materialised arrays and the cell-wise equality test; the planar dilations
as "the cell or a 4-neighbour in the plane"; one masked dilation round on the function view (soundness, growth,
closure under face adjacency); counting argument for the fixpoint loop. -/
import FdtdxLemmas.C23Spec
import Mathlib.Data.Finset.Card
import Mathlib.Data.Finset.Prod
import Mathlib.Tactic.Linarith

namespace Fdtdx.C23

/-! ### arrays as functions -/

theorem row_getD {α : Type} (n : Nat) (f : Nat → α) (d : α) (i : Nat) :
    (row n f).getD i d = if i < n then f i else d := by
  unfold row
  by_cases h : i < n <;> simp [Array.getD, h]

theorem look_tab (s : Shape) (f : Img) (i j k : Nat) :
    look (tab s f) i j k = (inb s i j k && f i j k) := by
  unfold look tab inb
  by_cases hi : i < s.nx <;> by_cases hj : j < s.ny <;> by_cases hk : k < s.nz <;>
    simp only [row_getD, hi, hj, hk, reduceIte] <;> rfl

theorem look_tab' (s : Shape) (f : Img) : look (tab s f) = fun i j k => inb s i j k && f i j k := by
  funext i j k; exact look_tab s f i j k

theorem look_tab_true {s : Shape} {f : Img} {i j k : Nat} :
    look (tab s f) i j k = true ↔ inb s i j k = true ∧ f i j k = true := by
  rw [look_tab, Bool.and_eq_true]

theorem inb_iff {s : Shape} {i j k : Nat} : inb s i j k = true ↔ i < s.nx ∧ j < s.ny ∧ k < s.nz := by
  simp only [inb, Bool.and_eq_true, decide_eq_true_eq, and_assoc]

theorem allCells_iff (s : Shape) (p : Img) :
    allCells s p = true ↔ ∀ i j k, inb s i j k = true → p i j k = true := by
  simp only [allCells, inb_iff, List.all_eq_true, List.mem_range]
  exact ⟨fun h i j k ⟨hi, hj, hk⟩ => h i hi j hj k hk, fun h i hi j hj k hk => h i j k ⟨hi, hj, hk⟩⟩

theorem eqT_iff (s : Shape) (a b : Tab) :
    eqT s a b = true ↔ ∀ i j k, inb s i j k = true → look a i j k = look b i j k := by
  simp only [eqT, allCells_iff, beq_iff_eq]

theorem iterN_succ (f : Tab → Tab) (n : Nat) (a : Tab) : iterN f (n + 1) a = iterN f n (f a) := rfl

theorem iterN_succ' (f : Tab → Tab) : ∀ (n : Nat) (a : Tab), iterN f (n + 1) a = f (iterN f n a)
  | 0, _ => rfl
  | n + 1, a => iterN_succ' f n (f a)

theorem iterN_induction {f : Tab → Tab} {P : Tab → Prop} (hf : ∀ a, P a → P (f a)) :
    ∀ (n : Nat) (a : Tab), P a → P (iterN f n a) := by
  intro n
  induction n with
  | zero => exact fun a h => h
  | succ n ih => exact fun a h => ih (f a) (hf a h)

/-! ### the dilations: a cell is set iff it or one of its four neighbours in the plane was -/

/-- 4-neighbourhood in a plane -/
def Adj4 (i j i' j' : Nat) : Prop :=
  (i = i' ∧ (j = j' + 1 ∨ j' = j + 1)) ∨ (j = j' ∧ (i = i' + 1 ∨ i' = i + 1))

theorem Adj4.symm {i j i' j' : Nat} : Adj4 i j i' j' → Adj4 i' j' i j
  | .inl ⟨h, h'⟩ => .inl ⟨h.symm, h'.symm⟩
  | .inr ⟨h, h'⟩ => .inr ⟨h.symm, h'.symm⟩

theorem Adj4.adj_xy {i j i' j' : Nat} (k : Nat) : Adj4 i j i' j' → Adj i j k i' j' k
  | .inl ⟨h, h'⟩ => .inr (.inl ⟨h, rfl, h'⟩)
  | .inr ⟨h, h'⟩ => .inl ⟨h, rfl, h'⟩

theorem Adj4.adj_xz {i k i' k' : Nat} (j : Nat) : Adj4 i k i' k' → Adj i j k i' j k'
  | .inl ⟨h, h'⟩ => .inr (.inr ⟨h, rfl, h'⟩)
  | .inr ⟨h, h'⟩ => .inl ⟨rfl, h, h'⟩

theorem Adj4.adj_yz {j k j' k' : Nat} (i : Nat) : Adj4 j k j' k' → Adj i j k i j' k'
  | .inl ⟨h, h'⟩ => .inr (.inr ⟨rfl, h, h'⟩)
  | .inr ⟨h, h'⟩ => .inr (.inl ⟨rfl, h, h'⟩)

theorem pred_and_iff (f : Nat → Bool) : ∀ i : Nat,
    (decide (0 < i) && f (i - 1)) = true ↔ ∃ i', i = i' + 1 ∧ f i' = true
  | 0 => ⟨fun h => Bool.noConfusion h, fun ⟨_, h, _⟩ => Nat.noConfusion h⟩
  | n + 1 => by
    rw [decide_eq_true (Nat.succ_pos n), Bool.true_and, Nat.add_sub_cancel]
    exact ⟨fun h => ⟨n, rfl, h⟩, fun ⟨_, h, h'⟩ => Nat.succ.inj h ▸ h'⟩

theorem shifts4_iff (a : Img) (i j k : Nat) :
    shifts4 a i j k = true ↔ ∃ i' j', Adj4 i' j' i j ∧ a i' j' k = true := by
  simp only [shifts4, Bool.or_eq_true, pred_and_iff (fun j => a i j k), pred_and_iff (fun i => a i j k)]
  constructor
  · rintro (((h | ⟨j', rfl, h⟩) | ⟨i', rfl, h⟩) | h)
    · exact ⟨i + 1, j, .inr ⟨rfl, .inl rfl⟩, h⟩
    · exact ⟨i, j', .inl ⟨rfl, .inr rfl⟩, h⟩
    · exact ⟨i', j, .inr ⟨rfl, .inr rfl⟩, h⟩
    · exact ⟨i, j + 1, .inl ⟨rfl, .inl rfl⟩, h⟩
  · rintro ⟨i', j', ⟨rfl, rfl | rfl⟩ | ⟨rfl, rfl | rfl⟩, h⟩
    · exact .inr h
    · exact .inl (.inl (.inr ⟨_, rfl, h⟩))
    · exact .inl (.inl (.inl h))
    · exact .inl (.inr ⟨_, rfl, h⟩)

theorem dilXY_eq (a : Img) (i j k : Nat) : dilXY a i j k = (a i j k || shifts4 a i j k) := by
  unfold dilXY shifts4; ac_rfl

theorem dilXY_iff (a : Img) (i j k : Nat) :
    dilXY a i j k = true ↔ a i j k = true ∨ ∃ i' j', Adj4 i' j' i j ∧ a i' j' k = true := by
  rw [dilXY_eq, Bool.or_eq_true, shifts4_iff]

/-- `dilXZ` and `dilYZ` are `dilXY` with the axes renamed -/
theorem dilXZ_iff (a : Img) (i j k : Nat) :
    dilXZ a i j k = true ↔ a i j k = true ∨ ∃ i' k', Adj4 i' k' i k ∧ a i' j k' = true :=
  dilXY_iff (fun i k j => a i j k) i k j

theorem dilYZ_iff (a : Img) (i j k : Nat) :
    dilYZ a i j k = true ↔ a i j k = true ∨ ∃ j' k', Adj4 j' k' j k ∧ a i j' k' = true :=
  dilXY_iff (fun j k i => a i j k) j k i

/-! ### function view of one dilation round -/

def sub1 (s : Shape) (m a : Img) : Img := fun i j k => inb s i j k && (m i j k && dilXY a i j k)
def sub2 (s : Shape) (m a : Img) : Img := fun i j k => inb s i j k && (m i j k && dilXZ a i j k)
def sub3 (s : Shape) (m a : Img) : Img := fun i j k => inb s i j k && (m i j k && dilYZ a i j k)
def stepI (s : Shape) (m a : Img) : Img := sub3 s m (sub2 s m (sub1 s m a))

theorem look_step (s : Shape) (m a : Tab) : look (step s m a) = stepI s (look m) (look a) := by
  unfold step stepI
  simp only [look_tab']
  rfl

def Sub (a b : Img) : Prop := ∀ i j k, a i j k = true → b i j k = true
def Inside (s : Shape) (m a : Img) : Prop := ∀ i j k, a i j k = true → inb s i j k = true ∧ m i j k = true

theorem Sub.trans {a b c : Img} (h1 : Sub a b) (h2 : Sub b c) : Sub a c := fun i j k h => h2 i j k (h1 i j k h)

/-- the shape shared by `sub1`, `sub2`, `sub3` -/
theorem masked_iff {p q r : Bool} : (p && (q && r)) = true ↔ p = true ∧ q = true ∧ r = true := by
  simp only [Bool.and_eq_true]

section round
variable {s : Shape} {m a : Img}

theorem sub1_inside : Inside s m (sub1 s m a) := fun _ _ _ h => ⟨(masked_iff.mp h).1, (masked_iff.mp h).2.1⟩
theorem sub2_inside : Inside s m (sub2 s m a) := fun _ _ _ h => ⟨(masked_iff.mp h).1, (masked_iff.mp h).2.1⟩
theorem sub3_inside : Inside s m (sub3 s m a) := fun _ _ _ h => ⟨(masked_iff.mp h).1, (masked_iff.mp h).2.1⟩
theorem stepI_inside : Inside s m (stepI s m a) := sub3_inside

theorem sub1_ge (h : Inside s m a) : Sub a (sub1 s m a) := fun i j k ha =>
  masked_iff.mpr ⟨(h i j k ha).1, (h i j k ha).2, (dilXY_iff a i j k).mpr (.inl ha)⟩
theorem sub2_ge (h : Inside s m a) : Sub a (sub2 s m a) := fun i j k ha =>
  masked_iff.mpr ⟨(h i j k ha).1, (h i j k ha).2, (dilXZ_iff a i j k).mpr (.inl ha)⟩
theorem sub3_ge (h : Inside s m a) : Sub a (sub3 s m a) := fun i j k ha =>
  masked_iff.mpr ⟨(h i j k ha).1, (h i j k ha).2, (dilYZ_iff a i j k).mpr (.inl ha)⟩

theorem sub2_le_stepI : Sub (sub2 s m (sub1 s m a)) (stepI s m a) :=
  sub3_ge sub2_inside

theorem sub1_le_stepI : Sub (sub1 s m a) (stepI s m a) :=
  (sub2_ge sub1_inside).trans sub2_le_stepI

theorem stepI_ge (h : Inside s m a) : Sub a (stepI s m a) :=
  (sub1_ge h).trans sub1_le_stepI

/-! soundness: a dilation only adds cells that are face-adjacent to present ones and lie in the mask -/

variable {seed : Img}

theorem masked_sound {d : Img}
    (hd : ∀ i j k, d i j k = true → a i j k = true ∨ ∃ i' j' k', Adj i' j' k' i j k ∧ a i' j' k' = true)
    (h : ∀ i j k, a i j k = true → Reach s m seed i j k) (i j k : Nat)
    (hs : (inb s i j k && (m i j k && d i j k)) = true) : Reach s m seed i j k := by
  obtain ⟨hin, hm, hd'⟩ := masked_iff.mp hs
  rcases hd i j k hd' with h0 | ⟨i', j', k', hadj, h1⟩
  · exact h _ _ _ h0
  · exact .step (h _ _ _ h1) hadj hin hm

theorem sub1_sound (h : ∀ i j k, a i j k = true → Reach s m seed i j k) :
    ∀ i j k, sub1 s m a i j k = true → Reach s m seed i j k :=
  masked_sound (fun i j k hd => ((dilXY_iff a i j k).mp hd).imp_right
    fun ⟨i', j', hadj, h'⟩ => ⟨i', j', k, hadj.adj_xy k, h'⟩) h

theorem sub2_sound (h : ∀ i j k, a i j k = true → Reach s m seed i j k) :
    ∀ i j k, sub2 s m a i j k = true → Reach s m seed i j k :=
  masked_sound (fun i j k hd => ((dilXZ_iff a i j k).mp hd).imp_right
    fun ⟨i', k', hadj, h'⟩ => ⟨i', j, k', hadj.adj_xz j, h'⟩) h

theorem sub3_sound (h : ∀ i j k, a i j k = true → Reach s m seed i j k) :
    ∀ i j k, sub3 s m a i j k = true → Reach s m seed i j k :=
  masked_sound (fun i j k hd => ((dilYZ_iff a i j k).mp hd).imp_right
    fun ⟨j', k', hadj, h'⟩ => ⟨i, j', k', hadj.adj_yz i, h'⟩) h

theorem stepI_sound (h : ∀ i j k, a i j k = true → Reach s m seed i j k) :
    ∀ i j k, stepI s m a i j k = true → Reach s m seed i j k :=
  sub3_sound (sub2_sound (sub1_sound h))

end round

/-! ### closure: a set inside the mask that one round does not enlarge is closed under face adjacency -/

/-- x- and y-neighbours come in with the xy-dilation, z-neighbours with the xz-dilation that follows it -/
theorem closed_of_fix {s : Shape} {m r : Img} (hin : Inside s m r) (hfix : Sub (stepI s m r) r)
    {i j k i' j' k' : Nat} (hr : r i j k = true) (hadj : Adj i j k i' j' k')
    (hb : inb s i' j' k' = true) (hm : m i' j' k' = true) : r i' j' k' = true := by
  apply hfix
  rcases hadj with ⟨rfl, rfl, h⟩ | ⟨rfl, rfl, h⟩ | ⟨rfl, rfl, h⟩
  · exact sub1_le_stepI _ _ _
      (masked_iff.mpr ⟨hb, hm, (dilXY_iff r _ _ _).mpr (.inr ⟨i, j, .inr ⟨rfl, h⟩, hr⟩)⟩)
  · exact sub1_le_stepI _ _ _
      (masked_iff.mpr ⟨hb, hm, (dilXY_iff r _ _ _).mpr (.inr ⟨i, j, .inl ⟨rfl, h⟩, hr⟩)⟩)
  · exact sub2_le_stepI _ _ _
      (masked_iff.mpr ⟨hb, hm, (dilXZ_iff _ _ _ _).mpr (.inr ⟨i, k, .inl ⟨rfl, h⟩, sub1_ge hin _ _ _ hr⟩)⟩)

theorem reach_le_fix {s : Shape} {m seed r : Img} (hin : Inside s m r) (hfix : Sub (stepI s m r) r)
    (hseed : ∀ i j k, inb s i j k = true → m i j k = true → seed i j k = true → r i j k = true) :
    ∀ i j k, Reach s m seed i j k → r i j k = true := by
  intro i j k h
  induction h with
  | base hb hm hs => exact hseed _ _ _ hb hm hs
  | step _ hadj hb hm ih => exact closed_of_fix hin hfix ih hadj hb hm

/-! ### counting cells: a strictly growing chain inside the index box has at most `cells s` links -/

def box (s : Shape) : Finset (Nat × Nat × Nat) := Finset.range s.nx ×ˢ Finset.range s.ny ×ˢ Finset.range s.nz

def count (s : Shape) (a : Img) : Nat := ((box s).filter fun c => a c.1 c.2.1 c.2.2 = true).card

theorem mem_box (s : Shape) (c : Nat × Nat × Nat) : c ∈ box s ↔ inb s c.1 c.2.1 c.2.2 = true := by
  simp [box, inb_iff]

theorem count_le (s : Shape) (a : Img) : count s a ≤ cells s := by
  refine (Finset.card_filter_le _ _).trans ?_
  simp [box, cells, Nat.mul_assoc]

theorem count_lt {s : Shape} {a b : Img} (hab : Sub a b)
    (hne : ∃ i j k, inb s i j k = true ∧ a i j k ≠ b i j k) : count s a < count s b := by
  obtain ⟨i, j, k, hin, hne⟩ := hne
  apply Finset.card_lt_card
  rw [Finset.ssubset_iff_of_subset fun c hc =>
    Finset.mem_filter.mpr ⟨(Finset.mem_filter.mp hc).1, hab _ _ _ (Finset.mem_filter.mp hc).2⟩]
  have ha : a i j k = false := Bool.eq_false_iff.mpr fun ha => hne (ha.trans (hab i j k ha).symm)
  have hb : b i j k = true := (Bool.not_eq_false _).mp fun hb => hne (ha.trans hb.symm)
  exact ⟨(i, j, k), Finset.mem_filter.mpr ⟨(mem_box s _).mpr hin, hb⟩, fun h =>
    Bool.false_ne_true (ha.symm.trans (Finset.mem_filter.mp h).2)⟩

/-! ### the loop `iterate_until_unchanged` -/

structure FixSpec (s : Shape) (m a r : Img) : Prop where
  ge : Sub a r
  inside : Inside s m r
  fix : stepI s m r = r
  sound : ∀ seed : Img, (∀ i j k, a i j k = true → Reach s m seed i j k) →
    ∀ i j k, r i j k = true → Reach s m seed i j k

/-- arrays that vanish outside the index box are determined by the cells `eqT` compares -/
theorem eq_of_eqT {s : Shape} {a b : Tab} (h : eqT s a b = true)
    (ha : ∀ i j k, look a i j k = true → inb s i j k = true)
    (hb : ∀ i j k, look b i j k = true → inb s i j k = true) : look a = look b := by
  funext i j k
  by_cases hin : inb s i j k = true
  · exact (eqT_iff s a b).mp h i j k hin
  · rw [Bool.eq_iff_iff]
    exact ⟨fun h => absurd (ha i j k h) hin, fun h => absurd (hb i j k h) hin⟩

/-- `iterate_until_unchanged` from any array in the index box. After one round the iterates lie in the mask and grow, so
`cells s` minus the number of set cells bounds the rounds left; a start outside the mask needs one round more. -/
theorem fixFrom_spec (s : Shape) (m : Tab) : ∀ (fuel : Nat) (a : Tab),
    (∀ i j k, look a i j k = true → inb s i j k = true) →
    (cells s + 1 < fuel ∨ Inside s (look m) (look a) ∧ cells s < fuel + count s (look a)) →
    FixSpec s (look m) (stepI s (look m) (look a)) (look (fixFrom s (step s m) fuel a)) := by
  intro fuel
  induction fuel with
  | zero =>
    intro a _ hc
    have := count_le s (look a)
    rcases hc with hc | ⟨_, hc⟩ <;> omega
  | succ fuel ih =>
    intro a hbox hc
    have hb : look (step s m a) = stepI s (look m) (look a) := look_step s m a
    have hbin : Inside s (look m) (look (step s m a)) := by rw [hb]; exact stepI_inside
    simp only [fixFrom]
    split
    · next heq =>
      have hab : look a = look (step s m a) := eq_of_eqT heq hbox (fun i j k h => (hbin i j k h).1)
      rw [← hb]
      exact ⟨fun _ _ _ h => h, hbin, by rw [← hab]; exact hb.symm.trans hab.symm, fun _ h => h⟩
    · next heq =>
      have hfuel : cells s < fuel + count s (look (step s m a)) := by
        rcases hc with hc | ⟨hin, hc⟩
        · omega
        · have hge : Sub (look a) (look (step s m a)) := by rw [hb]; exact stepI_ge hin
          have := count_lt hge (by rw [eqT_iff] at heq; push Not at heq; exact heq)
          omega
      have := ih (step s m a) (fun i j k h => (hbin i j k h).1) (.inr ⟨hbin, hfuel⟩)
      rw [← hb]
      refine ⟨(stepI_ge hbin).trans this.ge, this.inside, this.fix, fun seed h => this.sound seed (stepI_sound h)⟩

end Fdtdx.C23
