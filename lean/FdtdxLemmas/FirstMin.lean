/-
The left-to-right scan for the FIRST minimum (`np.argmin`, `jnp.argmin`), as the models of C19, C24, C26 and C37 each
write it: `go xs i b bv` with `i` the next index, `b` the best index so far, `bv` its key, and a strict `<` so that the
earlier index wins a tie.  The facts are stated for any `am`, `go` that satisfy the recursion equations (`IsScan`; for
each model's copy they hold by `rfl`), with a key `g` applied to the entries (`id`, or `|· - c|` where the model fuses it
into the scan), over any linear order.
-/
import Mathlib.Order.Defs.LinearOrder

namespace Fdtdx

variable {α β : Type} [LinearOrder α]

/-- `r` is the first minimum of `d` on `0, …, n-1` -/
def FirstMinOn (d : Nat → α) (n r : Nat) : Prop :=
  r < n ∧ (∀ j, j < n → d r ≤ d j) ∧ ∀ j, j < r → d r < d j

namespace FirstMinOn
variable {d : Nat → α} {n r : Nat}

theorem unique {r' : Nat} (h : FirstMinOn d n r) (h' : FirstMinOn d n r') : r = r' := by
  rcases Nat.lt_trichotomy r r' with hlt | heq | hgt
  · exact absurd (h'.2.2 r hlt) (not_lt.mpr (h.2.1 r' h'.1))
  · exact heq
  · exact absurd (h.2.2 r' hgt) (not_lt.mpr (h'.2.1 r h.1))

/-- one more entry, strictly smaller than the minimum so far: it is the new first minimum -/
theorem succ_lt (h : FirstMinOn d n r) (hx : d n < d r) : FirstMinOn d (n + 1) n :=
  ⟨Nat.lt_succ_self n,
    fun j hj => (Nat.lt_succ_iff_lt_or_eq.mp hj).elim (fun hj => le_of_lt (lt_of_lt_of_le hx (h.2.1 j hj)))
      fun e => e ▸ le_rfl,
    fun j hj => lt_of_lt_of_le hx (h.2.1 j hj)⟩

/-- one more entry, not smaller: the first minimum stays -/
theorem succ_ge (h : FirstMinOn d n r) (hx : ¬d n < d r) : FirstMinOn d (n + 1) r :=
  ⟨Nat.lt_succ_of_lt h.1,
    fun j hj => (Nat.lt_succ_iff_lt_or_eq.mp hj).elim (h.2.1 j) fun e => e ▸ not_lt.mp hx,
    h.2.2⟩

/-- `am`, `go` have the recursion equations of the scan on the keys `g x` -/
structure IsScan (g : β → α) (am : List β → Nat) (go : List β → Nat → Nat → α → Nat) : Prop where
  start : ∀ x xs, am (x :: xs) = go xs 1 0 (g x)
  nil : ∀ i b bv, go [] i b bv = b
  cons : ∀ x xs i b bv, go (x :: xs) i b bv = if g x < bv then go xs (i + 1) i (g x) else go xs (i + 1) b bv

variable {am : List β → Nat} {go : List β → Nat → Nat → α → Nat} {g : β → α}

/-- invariant of the scan: `d` lists the keys of all entries (`d (i + k)` for the `k`-th entry still to come), `b` is
the first minimum among the `i` entries read -/
theorem scan (hs : IsScan g am go) (xs : List β) : ∀ (i b : Nat), (∀ k (hk : k < xs.length), g xs[k] = d (i + k)) →
    FirstMinOn d i b → FirstMinOn d (i + xs.length) (go xs i b (d b)) := by
  induction xs with
  | nil => intro i b _ h; rw [hs.nil]; exact h
  | cons x xs ih =>
    intro i b hd h
    have hd' : ∀ k (hk : k < xs.length), g xs[k] = d (i + 1 + k) := fun k hk => by
      rw [Nat.add_right_comm]; exact hd (k + 1) (Nat.succ_lt_succ hk)
    have hx : g x = d i := hd 0 (Nat.succ_pos _)
    rw [hs.cons, hx, List.length_cons, ← Nat.add_assoc, Nat.add_right_comm]
    split
    · next hlt => exact ih (i + 1) i hd' (h.succ_lt hlt)
    · next hge => exact ih (i + 1) b hd' (h.succ_ge hge)

/-- what the scan returns on a non-empty list, in terms of any `d` that lists the keys -/
theorem of_scan (hs : IsScan g am go) (l : List β) (hl : l ≠ []) (hd : ∀ k (hk : k < l.length), g l[k] = d k) :
    FirstMinOn d l.length (am l) := by
  cases l with
  | nil => exact absurd rfl hl
  | cons x xs =>
    have h0 : FirstMinOn d 1 0 :=
      ⟨Nat.one_pos, fun j hj => Nat.lt_one_iff.mp hj ▸ le_rfl, fun j hj => absurd hj (Nat.not_lt_zero j)⟩
    have hx : g x = d 0 := hd 0 (Nat.succ_pos _)
    rw [hs.start, hx, List.length_cons, Nat.add_comm]
    exact scan hs xs 1 0 (fun k hk => by rw [Nat.add_comm]; exact hd (k + 1) (Nat.succ_lt_succ hk)) h0

/-- the same in terms of the entries themselves -/
theorem exists_getElem (hs : IsScan g am go) (l : List β) (hl : l ≠ []) :
    ∃ (h : am l < l.length), (∀ j (hj : j < l.length), g l[am l] ≤ g l[j]) ∧
      ∀ j (hj : j < l.length), j < am l → g l[am l] < g l[j] := by
  -- any total `d` that lists the keys will do; beyond the end take the key of the head
  have hd : ∀ k (hk : k < l.length), g l[k] = (fun j => if hj : j < l.length then g l[j] else g (l.head hl)) k :=
    fun k hk => by simp only [dif_pos hk]
  obtain ⟨h, h1, h2⟩ := of_scan hs l hl hd
  refine ⟨h, fun j hj => ?_, fun j hj hlt => ?_⟩
  · rw [hd _ h, hd j hj]; exact h1 j hj
  · rw [hd _ h, hd j hj]; exact h2 j hlt

end FirstMinOn

end Fdtdx
