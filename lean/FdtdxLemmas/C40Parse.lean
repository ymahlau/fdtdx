/-
Lemmas for the path-parser round trip of C40: `parseChars (renderChars ops) = some ops`.
-/
import FdtdxModel.C40
import Mathlib.Tactic.Common

namespace Fdtdx.C40

/-! ### digits -/

theorem digitChar_spec : ∀ d, d < 10 → isDigitC (digitChar d) = true ∧ (digitChar d).toNat - '0'.toNat = d := by decide

theorem digitsVal_append (xs : List Char) (c : Char) :
    digitsVal (xs ++ [c]) = digitsVal xs * 10 + (c.toNat - '0'.toNat) := by
  rw [digitsVal, List.foldl_append]
  rfl

theorem natDigits_spec (n : Nat) :
    (natDigits n).all isDigitC = true ∧ digitsVal (natDigits n) = n ∧ natDigits n ≠ [] := by
  induction n using natDigits.induct with
  | case1 n h =>
    obtain ⟨h1, h2⟩ := digitChar_spec n h
    rw [natDigits, if_pos h]
    refine ⟨by rw [List.all_cons, h1]; rfl, ?_, List.cons_ne_nil _ _⟩
    rw [← List.nil_append [_], digitsVal_append, h2]
    exact Nat.zero_add n
  | case2 n h ih =>
    obtain ⟨a, b, _⟩ := ih
    obtain ⟨h1, h2⟩ := digitChar_spec (n % 10) (Nat.mod_lt n (by decide))
    rw [natDigits, if_neg h]
    refine ⟨by rw [List.all_append, a, List.all_cons, h1]; rfl, ?_, List.append_ne_nil_of_right_ne_nil _ (List.cons_ne_nil _ _)⟩
    rw [digitsVal_append, b, h2]
    exact Nat.div_add_mod' n 10

theorem allDigits_natDigits (n : Nat) : allDigits (natDigits n) = true := by
  obtain ⟨a, _, c⟩ := natDigits_spec n
  rw [allDigits, a, List.isEmpty_eq_false_iff.mpr c]
  rfl

theorem digit_not_special (c : Char) (h : isDigitC c = true) : isSpace c = false ∧ c ≠ ']' ∧ c ≠ '-' := by
  have hh : '0' ≤ c ∧ c ≤ '9' := by simpa [isDigitC] using h
  have h1 : 48 ≤ c.toNat := hh.1
  have h2 : c.toNat ≤ 57 := hh.2
  refine ⟨?_, fun e => absurd (e ▸ h2) (by decide), fun e => absurd (e ▸ h1) (by decide)⟩
  simp only [isSpace, Bool.or_eq_false_iff, Bool.and_eq_false_iff, decide_eq_false_iff_not]
  exact ⟨Or.inr (by omega), Or.inr (by omega)⟩

/-- what the scanner needs to know of the characters of a rendered integer -/
theorem intChars_mem (i : Int) (c : Char) (hc : c ∈ intChars i) : isSpace c = false ∧ c ≠ ']' := by
  have hn : ∀ n, ∀ c ∈ natDigits n, isSpace c = false ∧ c ≠ ']' := fun n c hc =>
    have h := digit_not_special c (List.all_eq_true.mp (natDigits_spec n).1 c hc)
    ⟨h.1, h.2.1⟩
  unfold intChars at hc
  split_ifs at hc
  · rcases List.mem_cons.mp hc with rfl | hc
    · decide
    · exact hn _ c hc
  · exact hn _ c hc

/-! ### strip -/

theorem strip_id (cs : List Char) (hne : cs ≠ []) (hh : isSpace (cs.head hne) = false)
    (hl : isSpace (cs.getLast hne) = false) : strip cs = cs := by
  have stripL_id : ∀ l : List Char, (hl : l ≠ []) → isSpace (l.head hl) = false → stripL l = l
    | c :: l, _, h => by rw [stripL, if_neg (by simpa using h)]
  rw [strip, stripL_id cs hne hh, stripL_id cs.reverse (by simpa using hne) (by simpa using hl), List.reverse_reverse]

/-! ### the bracket contents produced by the renderer -/

theorem bracket_int (i : Int) : bracketOp (strip (intChars i)) = some (.idx i) := by
  have hne : intChars i ≠ [] := by
    unfold intChars
    split_ifs
    · exact List.cons_ne_nil _ _
    · exact (natDigits_spec _).2.2
  rw [strip_id _ hne (intChars_mem i _ (List.head_mem hne)).1 (intChars_mem i _ (List.getLast_mem hne)).1, intChars]
  split_ifs with h
  · -- '-' is not a digit: the first test fails, the second branch reads the digits
    unfold bracketOp
    rw [if_neg (by simp [allDigits, isDigitC])]
    simp only [allDigits_natDigits, if_true, (natDigits_spec _).2.1]
    rw [Int.ofNat_natAbs_of_nonpos (Int.le_of_lt h), Int.neg_neg]
  · unfold bracketOp
    rw [if_pos (allDigits_natDigits _), (natDigits_spec _).2.1, Int.toNat_of_nonneg (Int.not_lt.mp h)]

theorem key_chars (k : List Char) (hk : k.all (fun c => !(c == '\'' || c == '[' || c == ']')) = true) :
    ∀ c ∈ k, c ≠ '\'' ∧ c ≠ '[' ∧ c ≠ ']' := fun c hc => by
  simpa only [Bool.not_eq_true', Bool.or_eq_false_iff, beq_eq_false_iff_ne, and_assoc] using List.all_eq_true.mp hk c hc

theorem bracket_key (k : List Char) (hk : k.all (fun c => !(c == '\'' || c == '[' || c == ']')) = true) :
    bracketOp (strip ('\'' :: k ++ ['\''])) = some (.key (String.ofList k)) := by
  have hc : k.contains '\'' = false ∧ k.contains '[' = false ∧ k.contains ']' = false := by
    simp only [List.contains_eq_mem, decide_eq_false_iff_not]
    exact ⟨fun h => (key_chars k hk _ h).1 rfl, fun h => (key_chars k hk _ h).2.1 rfl, fun h => (key_chars k hk _ h).2.2 rfl⟩
  have hlast : ('\'' :: (k ++ ['\''])).getLast? = some '\'' := List.getLast?_concat (l := '\'' :: k)
  have hlen : ¬ ('\'' :: (k ++ ['\''])).length < 2 := by simp
  rw [strip_id ('\'' :: k ++ ['\'']) (by simp) rfl (by rw [List.getLast_concat]; rfl), List.cons_append]
  unfold bracketOp
  rw [if_neg (by simp [allDigits, isDigitC])]
  simp only [hlast, hlen, if_true, if_false, List.drop_succ_cons, List.drop_zero, List.dropLast_concat,
    hc.1, hc.2.1, hc.2.2, Bool.or_self, Bool.false_eq_true]

/-! ### scanning -/

/-- a bracket whose content has no `]` is read as what `bracketOp` makes of the content -/
theorem stepOp_bracket (content t : List Char) (op : Op) (hno : ∀ c ∈ content, c ≠ ']')
    (hb : bracketOp (strip content) = some op) : stepOp ('[' :: (content ++ ']' :: t)) = some (op, t) := by
  have hp : ∀ a ∈ content, (fun x => decide (x ≠ ']')) a = true := fun a ha => by simpa using hno a ha
  simp only [stepOp, List.takeWhile_append_of_pos hp, List.dropWhile_append_of_pos hp]
  simp [hb]

/-- a name without `-` is scanned up to the separator in front of the next rendered operation, or to the end -/
theorem untilArrow_ident (name : List Char) (hn : ∀ c ∈ name, c ≠ '-') (rest : List Op) :
    untilArrow (name ++ renderTail rest) = (name, renderTail rest) := by
  induction name with
  | nil => cases rest <;> simp [untilArrow, renderTail]
  | cons c cs ih =>
    have hc : c ≠ '-' := hn c List.mem_cons_self
    rw [List.cons_append]
    unfold untilArrow
    split
    · rename_i heq; cases heq
    · rename_i heq; exact absurd (List.cons.inj heq).1 hc
    · rename_i heq
      obtain ⟨rfl, rfl⟩ := List.cons.inj heq
      rw [ih fun x hx => hn x (List.mem_cons_of_mem _ hx)]

theorem ident_chars (name : List Char) (h : isIdent name = true) :
    ∃ c cs, name = c :: cs ∧ c ≠ '[' ∧ ∀ x ∈ name, x ≠ '-' := by
  have alpha_ne : ∀ x, isAlphaU x = true → x ≠ '-' ∧ x ≠ '[' := fun x hx => by
    constructor <;> (intro e; subst e; revert hx; decide)
  cases name with
  | nil => cases h
  | cons c cs =>
    simp only [isIdent, Bool.and_eq_true, List.all_eq_true, Bool.or_eq_true] at h
    refine ⟨c, cs, rfl, (alpha_ne c h.1).2, fun x hx => ?_⟩
    rcases List.mem_cons.mp hx with rfl | hx
    · exact (alpha_ne _ h.1).1
    · exact (h.2 x hx).elim (fun h => (alpha_ne x h).1) fun h => (digit_not_special x h).2.2

theorem renderOp_ne_nil (op : Op) (hw : wfOp op = true) : renderOp op ≠ [] := by
  cases op with
  | attr n =>
    obtain ⟨c, cs, hl, -⟩ := ident_chars _ hw
    rw [renderOp, hl]
    exact List.cons_ne_nil c cs
  | idx i => exact List.cons_ne_nil _ _
  | key k => exact List.cons_ne_nil _ _

/-- an identifier in front of the rendered operations that follow is read as an attribute name -/
theorem stepOp_name (name : List Char) (hid : isIdent name = true) (rest : List Op) :
    stepOp (name ++ renderTail rest) = some (.attr (String.ofList name), renderTail rest) := by
  obtain ⟨c, cs, rfl, hc, h2⟩ := ident_chars name hid
  have hu := untilArrow_ident (c :: cs) h2 rest
  unfold stepOp
  split
  · rename_i heq; cases heq
  · rename_i heq; exact absurd (List.cons.inj heq).1 hc
  · rw [hu]
    simp only [List.isEmpty_cons, Bool.false_eq_true, if_false, hid, Bool.not_true]

/-- one rendered operation is read back, leaving exactly what follows it -/
theorem stepOp_render (op : Op) (hw : wfOp op = true) (rest : List Op) :
    stepOp (renderOp op ++ renderTail rest) = some (op, renderTail rest) := by
  cases op with
  | attr n => exact (stepOp_name n.toList hw rest).trans (by rw [String.ofList_toList])
  | idx i =>
    rw [show renderOp (.idx i) ++ renderTail rest = '[' :: (intChars i ++ ']' :: renderTail rest) by simp [renderOp]]
    exact stepOp_bracket _ _ _ (fun c hc => (intChars_mem i c hc).2) (bracket_int i)
  | key k =>
    rw [show renderOp (.key k) ++ renderTail rest = '[' :: (('\'' :: k.toList ++ ['\'']) ++ ']' :: renderTail rest) by
      simp [renderOp]]
    refine (stepOp_bracket _ _ _ ?_ (bracket_key k.toList hw)).trans (by rw [String.ofList_toList])
    simp only [List.cons_append, List.mem_cons, List.mem_append, List.not_mem_nil, or_false]
    rintro c (rfl | hc | rfl)
    · decide
    · exact (key_chars _ hw c hc).2.2
    · decide

end Fdtdx.C40
