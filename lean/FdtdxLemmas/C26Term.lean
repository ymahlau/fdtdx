/-
Termination of the solver loop: every iteration that does not stop assigns at least one of the finitely many
object slots, so a run cannot use more than `9 * #objects` productive passes (provided the volume's size is
known, which is what the extension step writes).
-/
import FdtdxLemmas.C26Sys

namespace Fdtdx.C26

variable {α : Type} [Add α] [Sub α] [Mul α] [Div α] [Neg α] [LT α] [DecidableLT α]
  [OfNat α 0] [OfNat α 1] [OfNat α 2]

set_option linter.unusedSectionVars false

/-- number of still unknown slots among `vars` -/
def unk (vars : List Var) (σ : St) : Nat := vars.countP fun v => (σ v).isNone

theorem unk_le_of_le {σ σ' : St} (h : σ.le σ') (vars : List Var) : unk vars σ' ≤ unk vars σ :=
  List.countP_mono_left fun v _ hv => by
    cases hσ : σ v with
    | none => rfl
    | some x => rw [h v x hσ] at hv; cases hv

theorem unk_lt_of_le {σ σ' : St} (h : σ.le σ') (vars : List Var) (v : Var) (hv : v ∈ vars) (hn : σ v = none)
    (hs : ∃ x, σ' v = some x) : unk vars σ' < unk vars σ := by
  -- split the list at `v`: the two parts do not grow, `v` itself is no longer counted
  obtain ⟨l₁, l₂, rfl⟩ := List.append_of_mem hv
  obtain ⟨x, hx⟩ := hs
  have h1 := unk_le_of_le h l₁
  have h2 := unk_le_of_le h l₂
  simp only [unk, List.countP_append, List.countP_cons, hn, hx, Option.isNone_none, Option.isNone_some, if_true,
    Bool.false_eq_true, if_false] at h1 h2 ⊢
  omega

/-! ### a pass that reports a change assigns a slot -/

def TargetsIn (gs : List Group) (vars : List Var) : Prop := ∀ a ∈ allAtoms gs, a.target ∈ vars

theorem pass_decreases {gs : List Group} {vars : List Var} (ht : TargetsIn gs vars) {σ : St} {e : List Nat} {s : PS}
    (h : runGroups gs ⟨σ, e, false⟩ = some s) (hc : s.chg = true) : unk vars s.σ < unk vars σ := by
  rcases runGroups_chg gs h hc with h1 | ⟨a, ha, hn, hx⟩
  · cases h1
  · exact unk_lt_of_le (runGroups_mono h) vars a.target (ht a ha) hn hx

/-! ### an extension step that reports a change assigned a slot (when the volume's size is known) -/

def VolSized (sys : Sys α) (σ : St) : Prop := ∀ ax, ax < 3 → ∃ x, σ ⟨volId sys, ax, .size⟩ = some x

theorem VolSized.mono {sys : Sys α} {σ σ' : St} (h : VolSized sys σ) (hle : σ.le σ') : VolSized sys σ' :=
  fun ax hax => let ⟨x, hx⟩ := h ax hax; ⟨x, hle _ _ hx⟩

theorem ext_decreases {sys : Sys α} {σ : St} (hv : VolSized sys σ) (hc : extChanged sys σ = true) :
    unk (objVars sys) (extend sys σ) < unk (objVars sys) σ := by
  have key : ∀ v : Var, extends_ sys σ v = true → unk (objVars sys) (extend sys σ) < unk (objVars sys) σ := by
    intro v hext
    obtain ⟨hmem, hnone⟩ := extends_true hext
    refine unk_lt_of_le (extend_mono sys σ) _ v hmem hnone ?_
    rw [extend_eq, extendPt, if_pos hext]
    cases hk : v.k with
    | lo => exact ⟨0, rfl⟩
    | hi => exact hv v.ax (mem_objVars.1 hmem).2
    | size => rw [extends_, hk] at hext; cases hext
  simp only [extChanged, List.any_eq_true, Bool.or_eq_true] at hc
  obtain ⟨o, _, ax, _, hx | hx⟩ := hc
  · exact key _ hx
  · exact key _ hx

/-- a run that exhausts `n` passes assigned at least `n` slots -/
theorem exhausts_le {sys : Sys α} {gs : List Group} (ht : TargetsIn gs (objVars sys)) :
    ∀ {n : Nat} {σ : St} {e : List Nat}, Exhausts sys gs n σ e → VolSized sys σ → n ≤ unk (objVars sys) σ := by
  intro n σ e h
  induction h with
  | zero σ e => intro _; exact Nat.zero_le _
  | pass hrun hc _ ih =>
    intro hv
    have := ih (hv.mono (runGroups_mono hrun))
    have := pass_decreases ht hrun hc
    omega
  | ext hrun hc hx _ ih =>
    intro hv
    have hm := runGroups_mono hrun
    have hv1 := hv.mono hm
    have := ih (hv1.mono (extend_mono sys _))
    have h1 := ext_decreases hv1 hx
    have h2 := unk_le_of_le hm (objVars sys)
    simp only at h2
    omega

theorem length_objVars (sys : Sys α) : (objVars sys).length = 9 * sys.objs.length := by
  unfold objVars
  induction sys.objs with
  | nil => simp
  | cons o os ih =>
    rw [List.flatMap_cons, List.length_append, ih]
    show 9 + 9 * os.length = 9 * (os.length + 1)
    omega

theorem not_exhausts {sys : Sys α} {gs : List Group} (ht : TargetsIn gs (objVars sys)) {n : Nat} {σ : St}
    {e : List Nat} (hv : VolSized sys σ) (hn : 9 * sys.objs.length < n) : ¬ Exhausts sys gs n σ e := by
  intro h
  have h1 := exhausts_le ht h hv
  have h2 : unk (objVars sys) σ ≤ (objVars sys).length := List.countP_le_length
  rw [length_objVars] at h2
  omega

/-! ### the targets of compiled atoms are object slots -/

def Con.axesOK : Con α → Bool
  | .gridc _ es => es.all fun e => decide (e.1 < 3)
  | .realc _ es => es.all fun e => decide (e.1 < 3)
  | .pos _ _ es => es.all fun e => decide (e.ax < 3)
  | .size _ _ es => es.all fun e => decide (e.ax < 3)
  | .ext _ _ ax _ _ _ _ => decide (ax < 3)

/-- every constraint names axes 0, 1, 2 only (anything else is an IndexError in the code) -/
def axesOK (sys : Sys α) : Bool := sys.cons.all Con.axesOK

theorem axesOK_iff (c : Con α) : c.axesOK = true ↔ ∀ ax ∈ c.axes, ax < 3 := by
  cases c <;>
    simp only [Con.axesOK, Con.axes, List.all_eq_true, decide_eq_true_eq, List.forall_mem_map, List.mem_singleton,
      forall_eq]

theorem targetsIn_groups {sys : Sys α} (hwf : wellFormed sys = true) (hax : axesOK sys = true) :
    TargetsIn (groups sys) (objVars sys) := by
  intro a ha
  rw [mem_objVars]
  rcases mem_atoms_groups.1 ha with ⟨o, ho, ax, hax3, _, _, rfl | rfl⟩ | ⟨o, ho, ax, hax3, rfl | rfl⟩ |
    ⟨o, ho, ax, hax3, rfl⟩ | ⟨c, hc, h⟩
  iterate 5 exact ⟨isObj_iff.2 ⟨o, ho, rfl⟩, hax3⟩
  obtain ⟨_, h1, h2⟩ := atom_of_con h
  refine ⟨h1 ▸ (wellFormed_con hwf hc).1, ?_⟩
  rcases h2 with h2 | ⟨h2, _⟩
  · exact (axesOK_iff c).1 (List.all_eq_true.1 hax c hc) _ h2
  · omega

theorem PermSys.axesOK {sA sB : Sys α} (p : PermSys sA sB) : axesOK sB = axesOK sA := p.cons.all_eq

/-- the volume's size is known before the first pass (it declares `partial_grid_shape` or `partial_real_shape`
on every axis — what `_resolve_grid_from_volume` demands for every grid policy) -/
def volSizedInit (sys : Sys α) : Bool :=
  match init sys with
  | some σ₀ => axes3.all fun ax => (σ₀ ⟨volId sys, ax, .size⟩).isSome
  | none => true

theorem volSizedInit_spec {sys : Sys α} (h : volSizedInit sys = true) {σ₀ : St} (hi : init sys = some σ₀) :
    VolSized sys σ₀ := by
  unfold volSizedInit at h
  rw [hi] at h
  simp only [List.all_eq_true] at h
  exact fun ax hax => Option.isSome_iff_exists.1 (h ax (mem_axes3.2 hax))

theorem PermSys.volSizedInit {sA sB : Sys α} (p : PermSys sA sB) (hwf : C26.wellFormed sA = true) :
    volSizedInit sB = volSizedInit sA := by
  unfold C26.volSizedInit
  rw [p.init (wellFormed_nodup hwf), p.volId (wellFormed_oneVol hwf)]

end Fdtdx.C26
