/-
Concrete systems (integer scalars, 8×8×8 uniform grid with edges -4 … 4) used by the non-vacuity examples and
by the refutation witnesses of the pinned tree in `FdtdxProps/C26.lean` and `FdtdxProps/C27.lean`.
They are the inputs replayed on the real code by `harness/place_common.py`
(`witness_early_exit`, `witness_real_position_skip`, `witness_volume_bound`).
The outcomes that both property files quote are evaluated once, at the end of this file.
-/
import FdtdxModel.C26
namespace Fdtdx.C26.W

/-- placement succeeded and the final slices satisfy `p` -/
def okAnd (o : Outcome) (p : St → Bool) : Bool :=
  match o with
  | .done σ [] => p σ
  | _ => false

theorem okAnd_exists {o : Outcome} {p : St → Bool} (h : okAnd o p = true) : ∃ r, o = .done r [] ∧ p r = true := by
  cases o with
  | raised => simp [okAnd] at h
  | done σ e =>
    cases e with
    | nil => exact ⟨σ, rfl, by simpa [okAnd] using h⟩
    | cons x xs => simp [okAnd] at h

theorem okAnd_mono {o : Outcome} {p q : St → Bool} (h : okAnd o p = true) (hpq : ∀ σ, p σ = true → q σ = true) :
    okAnd o q = true := by
  obtain ⟨r, rfl, hr⟩ := okAnd_exists h
  exact hpq r hr

def e9 : List Int := [-4, -3, -2, -1, 0, 1, 2, 3, 4]
def gInt : Grid Int := ⟨e9, e9, e9, true, 1, 0, id⟩
def box (id : Nat) (vol : Bool) (g : List (Option Int)) : Obj Int :=
  ⟨id, vol, g, [none, none, none], [none, none, none]⟩
def vol8 : Obj Int := box 0 true [some 8, some 8, some 8]
def cube (id : Nat) : Obj Int := box id false [some 2, some 2, some 2]

/-- `set_grid_coordinates` of all six sides: x from `x0` to `x0+2`, y and z from 0 to 2 -/
def full (o : Nat) (x0 : Int) : Con Int :=
  .gridc o [(0, false, x0), (0, true, x0 + 2), (1, false, 0), (1, true, 2), (2, false, 0), (2, true, 2)]

/-! defect 1: `A.place_relative_to(B)` (A's lower side on B's upper side, x axis) -/
def posAB : Con Int := .pos 1 2 [⟨0, -1, 1, some 0, some 0⟩]
def sysW (cons : List (Con Int)) : Sys Int := ⟨gInt, [vol8, cube 1, cube 2], cons⟩

/-! defect 2: A has `partial_real_position = -2` on x (⇒ slice (1,3) for 2 cells) and gets its size from B -/
def boxA : Obj Int := ⟨1, false, [none, some 2, some 2], [none, none, none], [some (-2), none, none]⟩
def sysR (cons : List (Con Int)) : Sys Int := ⟨gInt, [vol8, boxA, cube 2, cube 3], cons⟩
def sizeAB : Con Int := .size 1 2 [⟨0, 0, 1, some 0, some 0⟩]
def gridA : Con Int := .gridc 1 [(0, false, 3), (1, false, 0), (1, true, 2), (2, false, 0), (2, true, 2)]
def extAC : Con Int := .ext 1 (some 3) 0 true (-1) (some 0) (some 0)

/-! defect 3: the volume declares no x shape; its upper x bound comes from a constraint -/
def sysV (cons : List (Con Int)) : Sys Int :=
  ⟨gInt, [box 0 true [none, some 8, some 8], box 1 false [none, some 2, some 2]], cons⟩
def xA : Con Int := .ext 1 none 0 true (-1) (some 0) (some 0)
def gV : Con Int := .gridc 0 [(0, true, 8)]
def gA : Con Int := .gridc 1 [(0, false, 3)]

/-! outcomes of the solver on these systems (kernel evaluation) -/

theorem solve_posAB : okAnd (solve (sysW [posAB, full 2 1, full 1 3]) 10)
    (fun σ => σ ⟨1, 0, .lo⟩ == some 3 && σ ⟨1, 0, .hi⟩ == some 5 && σ ⟨2, 0, .lo⟩ == some 1) = true := by decide +kernel

theorem solve_posAB_one : okAnd (solve (sysW [posAB, full 2 1, full 1 3]) 1) (fun _ => true) = false := by
  decide +kernel

theorem solve_conflict : okAnd (solve (sysW [posAB, full 2 1, full 1 5]) 1000) (fun _ => true) = false := by
  decide +kernel

theorem solve_skip : okAnd (solve (sysR [full 3 5, full 2 0, sizeAB, gridA, extAC]) 1000) (fun _ => true) = false := by
  decide +kernel

theorem asFound_early : okAnd (AsFound.solve (sysW [posAB, full 2 1, full 1 5]) 1000)
    (fun σ => σ ⟨1, 0, .lo⟩ == some 5 && σ ⟨2, 0, .hi⟩ == some 3) = true := by decide +kernel

theorem asFound_skip : okAnd (AsFound.solve (sysR [full 3 5, full 2 0, sizeAB, gridA, extAC]) 1000)
    (fun σ => σ ⟨1, 0, .lo⟩ == some 3 && σ ⟨1, 0, .hi⟩ == some 5) = true := by decide +kernel

end Fdtdx.C26.W
