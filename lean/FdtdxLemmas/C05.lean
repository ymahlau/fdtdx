/-
Helper lemmas for C04 – C07: Python's `round` of a rational and the slice boundaries built from it, and the bounded
while loop of `FdtdxModel/C05.lean` as an iterate of its body.
-/
import FdtdxModel.C05
import Mathlib.Tactic.Ring
import Mathlib.Tactic.Linarith
import Mathlib.Logic.Function.Iterate

namespace Fdtdx.C05

/-! ### Python `round` of a rational -/

/-- the rounding is the quotient or its successor, according to the side of the half on which the remainder lies -/
theorem roundHalfEven_cases (n d : Nat) :
    (roundHalfEven n d = n / d ∧ 2 * (n % d) ≤ d) ∨ (roundHalfEven n d = n / d + 1 ∧ d ≤ 2 * (n % d)) := by
  unfold roundHalfEven
  split_ifs with h1 h2 h3
  · exact Or.inl ⟨rfl, Nat.le_of_lt h1⟩
  · exact Or.inr ⟨rfl, Nat.le_of_lt h2⟩
  · exact Or.inl ⟨rfl, Nat.le_of_not_lt h2⟩
  · exact Or.inr ⟨rfl, Nat.le_of_not_lt h1⟩

/-- `|round(n/d) - n/d| ≤ 1/2`, multiplied out -/
theorem roundHalfEven_bounds (n d : Nat) (hd : 0 < d) :
    2 * (d * roundHalfEven n d) ≤ 2 * n + d ∧ 2 * n ≤ 2 * (d * roundHalfEven n d) + d := by
  have h := Nat.div_add_mod n d
  have hr := Nat.mod_lt n hd
  rcases roundHalfEven_cases n d with ⟨e, hc⟩ | ⟨e, hc⟩ <;> rw [e]
  · omega
  · rw [Nat.mul_succ]; omega

theorem roundHalfEven_mul (q d : Nat) (hd : 0 < d) : roundHalfEven (d * q) d = q := by
  unfold roundHalfEven
  rw [Nat.mul_mod_right, if_pos hd, Nat.mul_div_cancel_left _ hd]

theorem roundHalfEven_zero (d : Nat) (hd : 0 < d) : roundHalfEven 0 d = 0 :=
  roundHalfEven_mul 0 d hd

/-- `round` is monotone (weakly) in the numerator: were `round m < round n` for `n < m`, the two bounds would give
`2d·round n ≤ 2n + d < 2m + d ≤ 2d·(round m + 1) ≤ 2d·round n` -/
theorem roundHalfEven_mono (n m d : Nat) (hd : 0 < d) (h : n ≤ m) : roundHalfEven n d ≤ roundHalfEven m d := by
  rcases Nat.eq_or_lt_of_le h with rfl | hlt
  · exact Nat.le_refl _
  · by_contra hc
    have hmul : d * (roundHalfEven m d + 1) ≤ d * roundHalfEven n d := Nat.mul_le_mul_left d (Nat.lt_of_not_le hc)
    have hn := (roundHalfEven_bounds n d hd).1
    have hm := (roundHalfEven_bounds m d hd).2
    rw [Nat.mul_succ] at hmul
    omega

/-! ### the slice boundaries `s_i = round(i*T/k)` -/

theorem boundary_zero (T k : Nat) (hk : 1 ≤ k) : boundary T k 0 = 0 := by
  unfold boundary; rw [Nat.zero_mul]; exact roundHalfEven_zero k hk

theorem boundary_last (T k : Nat) (hk : 1 ≤ k) : boundary T k k = T :=
  roundHalfEven_mul T k hk

theorem boundary_mono (T k : Nat) (hk : 1 ≤ k) (i j : Nat) (hij : i ≤ j) : boundary T k i ≤ boundary T k j :=
  roundHalfEven_mono _ _ k hk (Nat.mul_le_mul_right T hij)

/-- consecutive boundaries differ by at least one when there are at most as many slices as steps:
`2k·s_{i+1} ≥ 2(i+1)T - k` and `2k·s_i ≤ 2iT + k` are `2T - 2k ≥ 0` apart, and for `T = k` both are exact -/
theorem boundary_strict_step (T k : Nat) (hk : 1 ≤ k) (hkT : k ≤ T) (i : Nat) :
    boundary T k i < boundary T k (i + 1) := by
  unfold boundary
  rcases Nat.eq_or_lt_of_le hkT with rfl | hlt
  · rw [Nat.mul_comm i k, Nat.mul_comm (i + 1) k, roundHalfEven_mul _ _ hk, roundHalfEven_mul _ _ hk]
    exact Nat.lt_succ_self i
  · have hb1 := (roundHalfEven_bounds (i * T) k hk).1
    have hb2 := (roundHalfEven_bounds ((i + 1) * T) k hk).2
    rw [Nat.succ_mul i T] at hb2 ⊢
    exact Nat.lt_of_mul_lt_mul_left (a := k) (by omega)

/-! ### the bounded while loop -/

section loop
variable {τ : Type}

theorem whileLoop_zero (cond : τ → Bool) (body : τ → τ) (s : τ) : whileLoop cond body 0 s = s := rfl

theorem whileLoop_succ (cond : τ → Bool) (body : τ → τ) (m : Nat) (s : τ) :
    whileLoop cond body (m + 1) s = if cond s then whileLoop cond body m (body s) else s := rfl

theorem whileLoop_of_false (cond : τ → Bool) (body : τ → τ) (m : Nat) (s : τ) (h : cond s = false) :
    whileLoop cond body m s = s := by
  cases m with
  | zero => rfl
  | succ m => rw [whileLoop_succ, h]; simp

/-- the loop is `body` iterated `n` times for the `n` with: `n ≤ m`, the condition holds at the first `n` states, and
`n = m` (the bound was reached) or the condition fails at state `n` -/
theorem whileLoop_eq_iterate (cond : τ → Bool) (body : τ → τ) (m : Nat) (s : τ) (n : Nat) (hn : n ≤ m)
    (htrue : ∀ j, j < n → cond (body^[j] s) = true) (hstop : n = m ∨ cond (body^[n] s) = false) :
    whileLoop cond body m s = body^[n] s := by
  induction m generalizing n s with
  | zero => rw [Nat.le_zero.mp hn]; rfl
  | succ m ih =>
    cases n with
    | zero => exact whileLoop_of_false cond body _ s (hstop.resolve_left (Nat.succ_ne_zero m).symm)
    | succ n =>
      have h0 : cond s = true := htrue 0 (Nat.succ_pos n)
      rw [whileLoop_succ, if_pos h0, Function.iterate_succ_apply]
      exact ih (body s) n (Nat.le_of_succ_le_succ hn) (fun j hj => htrue (j + 1) (Nat.succ_lt_succ hj))
        (hstop.imp Nat.succ.inj id)

/-- … and there is such an `n` -/
theorem whileLoop_spec (cond : τ → Bool) (body : τ → τ) (m : Nat) (s : τ) :
    ∃ n, n ≤ m ∧ whileLoop cond body m s = body^[n] s ∧ (∀ j, j < n → cond (body^[j] s) = true)
      ∧ (n = m ∨ cond (body^[n] s) = false) := by
  induction m generalizing s with
  | zero => exact ⟨0, Nat.le_refl 0, rfl, fun _ hj => absurd hj (Nat.not_lt_zero _), Or.inl rfl⟩
  | succ m ih =>
    rw [whileLoop_succ]
    cases hc : cond s with
    | false => exact ⟨0, Nat.zero_le _, rfl, fun _ hj => absurd hj (Nat.not_lt_zero _), Or.inr hc⟩
    | true =>
      obtain ⟨n, hn, he, htrue, hstop⟩ := ih (body s)
      refine ⟨n + 1, Nat.succ_le_succ hn, he, fun j hj => ?_, hstop.imp (congrArg Nat.succ) id⟩
      cases j with
      | zero => exact hc
      | succ j => exact htrue j (Nat.lt_of_succ_lt_succ hj)

/-- loops on a counter: if the condition is `0 < μ` for a `μ` that every execution of the body lowers by one, the loop
is `body` iterated `μ s` times, as long as the bound allows that many -/
theorem whileLoop_countdown (cond : τ → Bool) (body : τ → τ) (μ : τ → Nat) (hc : ∀ s, cond s = true ↔ 0 < μ s)
    (hb : ∀ s, μ (body s) = μ s - 1) (m : Nat) (s : τ) (hm : μ s ≤ m) :
    whileLoop cond body m s = body^[μ s] s := by
  have hμ : ∀ j, μ (body^[j] s) = μ s - j := fun j => by
    induction j with
    | zero => rfl
    | succ j ih => rw [Function.iterate_succ_apply', hb, ih]; rfl
  refine whileLoop_eq_iterate cond body m s (μ s) hm (fun j hj => (hc _).mpr ?_) (Or.inr ?_)
  · rw [hμ]; exact Nat.sub_pos_of_lt hj
  · rw [← Bool.not_eq_true, hc, hμ, Nat.sub_self]; exact Nat.lt_irrefl 0

end loop

/-! ### time loops: the condition only looks at the step counter -/

section time
variable {σ : Type}

theorem step_iterate_fst (body : Nat → σ → σ) (n : Nat) (s : Nat × σ) : ((step body)^[n] s).1 = s.1 + n := by
  induction n generalizing s with
  | zero => rfl
  | succ n ih => rw [Function.iterate_succ_apply, ih]; exact Nat.add_right_comm _ _ _

theorem whileLoop_until (body : Nat → σ → σ) (hi m : Nat) (s : Nat × σ) (hm : hi - s.1 ≤ m) :
    whileLoop (fun s => decide (hi > s.1)) (step body) m s = (step body)^[hi - s.1] s :=
  whileLoop_countdown _ (step body) (fun s => hi - s.1) (fun _ => decide_eq_true_iff.trans Nat.sub_pos_iff_lt.symm)
    (fun s => Nat.sub_add_eq hi s.1 1) m s hm

end time

end Fdtdx.C05
