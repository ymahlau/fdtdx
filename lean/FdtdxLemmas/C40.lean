/-
The pure specification of C40 (`Tree`, `updTree`, `deref`, `WF`, `Ext`) and the lemmas below the property theorems:
association lists, the one-level primitives `descend`/`setChild` (naturality in the child type, children and
constructor of the rebuilt node), heap extension and allocation, `deref` on well-formed heaps.
-/
import FdtdxModel.C40
import Mathlib.Tactic.Common

namespace Fdtdx.C40

/-! ### the pure specification: trees and the update of a tree at a path -/

/-- a value: a node whose children are values -/
inductive Tree where
  | mk (n : NodeF Tree)

def Tree.node : Tree → NodeF Tree
  | .mk n => n

/-- pure update of a tree at a path — the meaning of "only the addressed path changed".  Built from the same
one-level primitives as the heap model; their get/put laws are `C40_put_get`, `C40_put_other`, `C40_put_ctor`. -/
def updTree (v : Tree) (create : Bool) : List Op → Tree → Option Tree
  | [], _ => none
  | [op], t =>
    match descend t.node op create with
    | .err => none
    | _ => (setChild t.node op v).map Tree.mk
  | op :: op2 :: rest, t =>
    match descend t.node op false with
    | .child c =>
      match updTree v create (op2 :: rest) c with
      | some c' => (setChild t.node op c').map Tree.mk
      | none => none
    | _ => none

/-- the value reachable from an address, with fuel -/
def derefF (h : Heap) : Nat → Addr → Tree
  | 0, _ => .mk (.leaf "")
  | f + 1, a => .mk ((h.node a).map (derefF h f))

/-- the value reachable from an address (on a well-formed heap fuel `a+1` is enough, `derefF_eq`) -/
def deref (h : Heap) (a : Nat) : Tree := derefF h (a + 1) a

/-- children are allocated before their parents: no cycles, no dangling references -/
def WF (h : Heap) : Prop := ∀ a : Nat, a < h.size → ∀ k : Nat, k ∈ (h.node a).kids → k < a

/-- `h'` is `h` plus newly allocated cells -/
def Ext (h h' : Heap) : Prop := ∃ extra, h'.cells = h.cells ++ extra

/-! ### association lists -/

section assoc
variable {κ β γ : Type} [DecidableEq κ]

theorem assocGet_map (g : β → γ) : ∀ (l : List (κ × β)) (k : κ),
    assocGet (l.map fun p => (p.1, g p.2)) k = (assocGet l k).map g
  | [], _ => rfl
  | (k', b) :: rest, k => by
    simp only [List.map_cons, assocGet]
    split_ifs
    · rfl
    · exact assocGet_map g rest k

theorem assocSet_map (g : β → γ) : ∀ (l : List (κ × β)) (k : κ) (b : β),
    (assocSet l k b).map (fun p => (p.1, g p.2)) = assocSet (l.map fun p => (p.1, g p.2)) k (g b)
  | [], _, _ => rfl
  | (k', b') :: rest, k, b => by
    simp only [List.map_cons, assocSet]
    split_ifs
    · rfl
    · exact congrArg _ (assocSet_map g rest k b)

theorem assocGet_set_same : ∀ (l : List (κ × β)) (k : κ) (b : β), assocGet (assocSet l k b) k = some b
  | [], k, b => if_pos rfl
  | (k', b') :: rest, k, b => by
    rw [assocSet]
    split_ifs with h
    · exact if_pos h
    · exact (if_neg h).trans (assocGet_set_same rest k b)

theorem assocGet_set_other (k k' : κ) (b : β) (hne : k' ≠ k) : ∀ l : List (κ × β),
    assocGet (assocSet l k b) k' = assocGet l k'
  | [] => if_neg hne.symm
  | (k'', b') :: rest => by
    rw [assocSet]
    split_ifs with h
    · rw [assocGet, assocGet, if_neg (h ▸ hne.symm), if_neg (h ▸ hne.symm)]
    · rw [assocGet, assocGet, assocGet_set_other k k' b hne rest]

theorem assocGet_mem : ∀ (l : List (κ × β)) (k : κ) (b : β), assocGet l k = some b → b ∈ l.map (·.2)
  | (k', b') :: rest, k, b, h => by
    rw [assocGet] at h
    split_ifs at h
    · exact Option.some.inj h ▸ List.mem_cons_self
    · exact List.mem_cons_of_mem _ (assocGet_mem rest k b h)

theorem assocSet_mem : ∀ (l : List (κ × β)) (k : κ) (b x : β), x ∈ (assocSet l k b).map (·.2) → x ∈ l.map (·.2) ∨ x = b
  | [], _, _, _, h => Or.inr (List.mem_singleton.mp h)
  | (k', b') :: rest, k, b, x, h => by
    rw [assocSet] at h
    split_ifs at h
    · exact (List.mem_cons.mp h).symm.imp_left (List.mem_cons_of_mem _)
    · rcases List.mem_cons.mp h with h | h
      · exact Or.inl (h ▸ List.mem_cons_self)
      · exact (assocSet_mem rest k b x h).imp_left (List.mem_cons_of_mem _)

end assoc

/-! ### the one-level primitives: naturality in the child type, children and constructor of the rebuilt node -/

section nat
variable {β γ : Type}

theorem pyIndex_lt {len : Nat} {i : Int} {j : Nat} (h : pyIndex len i = some j) : j < len := by
  unfold pyIndex at h
  split_ifs at h with h1 h2
  · exact Option.some.inj h ▸ (Int.toNat_lt h1.1).mpr h1.2
  · exact Option.some.inj h ▸ (Int.toNat_lt (by omega)).mpr (by omega)

theorem descend_map (g : β → γ) (n : NodeF β) (op : Op) (m : Bool) :
    descend (n.map g) op m = (descend n op m).map g := by
  cases n with
  | leaf v => cases op <;> rfl
  | obj _ fs | dict fs =>
    cases op <;> simp only [NodeF.map, descend, Res.map, assocGet_map] <;> cases assocGet fs _ <;> cases m <;> rfl
  | list xs | tuple xs =>
    cases op <;> simp only [NodeF.map, descend, Res.map, List.length_map]
    cases pyIndex xs.length _ with
    | none => rfl
    | some j => simp only [List.getElem?_map]; cases xs[j]? <;> rfl

theorem setChild_map (g : β → γ) (n : NodeF β) (op : Op) (b : β) :
    setChild (n.map g) op (g b) = (setChild n op b).map (NodeF.map g) := by
  cases n <;> cases op <;> simp only [NodeF.map, setChild, Option.map, assocSet_map, List.length_map]
  cases pyIndex _ _ <;> simp only [List.map_set]

theorem NodeF.map_congr {g g' : β → γ} {n : NodeF β} (h : ∀ k ∈ n.kids, g k = g' k) : n.map g = n.map g' := by
  cases n with
  | leaf v => rfl
  | obj c fs | dict fs =>
    exact congrArg _ (List.map_congr_left fun p hp => congrArg _ (h p.2 (List.mem_map_of_mem hp)))
  | list xs | tuple xs => exact congrArg _ (List.map_congr_left h)

theorem descend_kid {n : NodeF β} {op : Op} {m : Bool} {c : β} (h : descend n op m = .child c) : c ∈ n.kids := by
  cases n with
  | leaf v => cases op <;> cases h
  | obj _ fs | dict fs =>
    cases op <;> simp only [descend, reduceCtorEq] at h
    all_goals
      cases hg : assocGet fs _ with
      | none => rw [hg] at h; cases m <;> cases h
      | some b => rw [hg] at h; exact Res.child.inj h ▸ assocGet_mem _ _ _ hg
  | list xs | tuple xs =>
    cases op <;> simp only [descend, reduceCtorEq] at h
    split at h
    · split at h
      · exact Res.child.inj h ▸ List.mem_of_getElem? ‹_›
      · cases h
    · cases h

/-- the four ways in which `setChild` succeeds -/
theorem setChild_cases {b : β} {motive : NodeF β → Op → NodeF β → Prop}
    (obj : ∀ c fs nm, motive (.obj c fs) (.attr nm) (.obj c (assocSet fs nm b)))
    (list : ∀ xs i j, pyIndex xs.length i = some j → motive (.list xs) (.idx i) (.list (xs.set j b)))
    (dictIdx : ∀ es i, motive (.dict es) (.idx i) (.dict (assocSet es (.i i) b)))
    (dictKey : ∀ es k, motive (.dict es) (.key k) (.dict (assocSet es (.s k) b)))
    {n n' : NodeF β} {op : Op} (h : setChild n op b = some n') : motive n op n' := by
  cases n <;> cases op <;> simp only [setChild, Option.map_eq_some_iff, Option.some.injEq, reduceCtorEq] at h
  · exact h ▸ obj _ _ _
  · obtain ⟨j, hp, rfl⟩ := h
    exact list _ _ j hp
  · exact h ▸ dictIdx _ _
  · exact h ▸ dictKey _ _

/-- the rebuilt node has the constructor and class of the original, and no child but the old ones and the new one -/
theorem setChild_spec {n n' : NodeF β} {op : Op} {b : β} (h : setChild n op b = some n') :
    n'.ctor = n.ctor ∧ ∀ k ∈ n'.kids, k ∈ n.kids ∨ k = b := by
  apply setChild_cases (h := h) <;> intros
  · exact ⟨rfl, assocSet_mem _ _ _⟩
  · exact ⟨rfl, fun k hk => List.mem_or_eq_of_mem_set hk⟩
  · exact ⟨rfl, assocSet_mem _ _ _⟩
  · exact ⟨rfl, assocSet_mem _ _ _⟩

end nat

/-! ### heaps -/

theorem Ext.refl (h : Heap) : Ext h h := ⟨[], (List.append_nil _).symm⟩

theorem Ext.trans {h1 h2 h3 : Heap} (a : Ext h1 h2) (b : Ext h2 h3) : Ext h1 h3 := by
  obtain ⟨e1, h1e⟩ := a
  obtain ⟨e2, h2e⟩ := b
  exact ⟨e1 ++ e2, by rw [h2e, h1e, List.append_assoc]⟩

theorem Ext.size_le {h h' : Heap} (e : Ext h h') : h.size ≤ h'.size := by
  obtain ⟨ex, he⟩ := e
  simp only [Heap.size, he, List.length_append, Nat.le_add_right]

theorem Ext.node {h h' : Heap} (e : Ext h h') (a : Nat) (ha : a < h.size) : h'.node a = h.node a := by
  obtain ⟨ex, he⟩ := e
  unfold Heap.node Heap.size at *
  rw [he, List.getD_eq_getElem?_getD, List.getD_eq_getElem?_getD, List.getElem?_append_left ha]

theorem alloc_ext (h : Heap) (n : Node) : Ext h (h.alloc n).1 := ⟨[n], rfl⟩

theorem alloc_size (h : Heap) (n : Node) : (h.alloc n).1.size = h.size + 1 := List.length_append

theorem alloc_addr (h : Heap) (n : Node) : (h.alloc n).2 = h.size := rfl

theorem alloc_node (h : Heap) (n : Node) : (h.alloc n).1.node h.size = n := by
  simp [Heap.alloc, Heap.node, Heap.size, List.getD_eq_getElem?_getD]

theorem alloc_wf (h : Heap) (n : Node) (hwf : WF h) (hn : ∀ k ∈ n.kids, k < h.size) : WF (h.alloc n).1 := by
  intro a ha k hk
  rw [alloc_size] at ha
  by_cases hlt : a < h.size
  · rw [(alloc_ext h n).node a hlt] at hk
    exact hwf a hlt k hk
  · obtain rfl : a = h.size := Nat.le_antisymm (Nat.le_of_lt_succ ha) (Nat.le_of_not_lt hlt)
    rw [alloc_node] at hk
    exact hn k hk

/-! ### deref on well-formed heaps -/

/-- any fuel above the address gives the same value: the children of `a` have smaller addresses -/
theorem derefF_fuel (h : Heap) (hwf : WF h) : ∀ f f' a, a < f → a < f' → a < h.size → derefF h f a = derefF h f' a
  | f + 1, f' + 1, a, hf, hf', ha =>
    congrArg Tree.mk (NodeF.map_congr fun k hk =>
      have hka := hwf a ha k hk
      derefF_fuel h hwf f f' k (Nat.lt_of_lt_of_le hka (Nat.le_of_lt_succ hf)) (Nat.lt_of_lt_of_le hka (Nat.le_of_lt_succ hf')) (Nat.lt_trans hka ha))

theorem derefF_eq (h : Heap) (hwf : WF h) (f a : Nat) (haf : a < f) (ha : a < h.size) : derefF h f a = deref h a :=
  derefF_fuel h hwf f (a + 1) a haf (Nat.lt_succ_self a) ha

theorem deref_unfold (h : Heap) (hwf : WF h) (a : Nat) (ha : a < h.size) :
    deref h a = .mk ((h.node a).map (deref h)) :=
  congrArg Tree.mk (NodeF.map_congr fun k hk =>
    have hka := hwf a ha k hk
    derefF_eq h hwf a k hka (Nat.lt_trans hka ha))

theorem node_deref (h : Heap) (hwf : WF h) (a : Nat) (ha : a < h.size) :
    (deref h a).node = (h.node a).map (deref h) :=
  congrArg Tree.node (deref_unfold h hwf a ha)

/-- values of old addresses are the same in an extended heap -/
theorem derefF_ext {h h' : Heap} (hwf : WF h) (e : Ext h h') : ∀ f a, a < h.size → derefF h' f a = derefF h f a
  | 0, _, _ => rfl
  | f + 1, a, ha => by
    rw [derefF, derefF, e.node a ha]
    exact congrArg Tree.mk (NodeF.map_congr fun k hk => derefF_ext hwf e f k (Nat.lt_trans (hwf a ha k hk) ha))

theorem deref_ext {h h' : Heap} (hwf : WF h) (e : Ext h h') (a : Nat) (ha : a < h.size) : deref h' a = deref h a :=
  derefF_ext hwf e (a + 1) a ha

/-- the value of a freshly allocated node whose children are old addresses -/
theorem deref_alloc (h : Heap) (hwf : WF h) (n : Node) (hk : ∀ k : Nat, k ∈ n.kids → k < h.size) :
    deref (h.alloc n).1 h.size = .mk (n.map (deref h)) := by
  rw [deref_unfold _ (alloc_wf h n hwf hk) h.size ((alloc_size h n).symm ▸ Nat.lt_succ_self _), alloc_node]
  exact congrArg Tree.mk (NodeF.map_congr fun k hkk => deref_ext hwf (alloc_ext h n) k (hk k hkk))

end Fdtdx.C40
