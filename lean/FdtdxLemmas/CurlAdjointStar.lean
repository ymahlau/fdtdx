/-
Sesquilinear curl adjointness for Bloch-periodic halos:  ⟨H, curlE G⟩ = ⟨curlH H, G⟩ with ⟨A,B⟩ = Σ w · star A · B,
for self-adjoint (real) metric scales: `curl_adjoint_hom` at `σ = star`.
The right ghost cell is the first cell times `pp`, the left ghost the last cell times `pm`; the code sets
`pp = exp(i k L)` and `pm = conj pp`.  Only `star pm = pp` is needed.
-/
import FdtdxLemmas.CurlAdjoint
import Mathlib.Algebra.Star.Basic

open Finset
namespace Fdtdx
open Fdtdx.Yee Fdtdx.C01

section
variable {K : Type} [Field K] [StarRing K]

/-- zero halo, or wrap with conjugate ghost multipliers (periodic: pp = pm = 1; Bloch: pp = phase, pm = conj phase) -/
def BlochHalo (b : AxisBC K) : Prop := b.wrap = true → star b.pm = b.pp

def pairHs (cf : Cfg K) (W : Widths K) (A B : V3 K) : K :=
  sum3 cf.nx cf.ny cf.nz fun i j k =>
    W.dx i * W.wy j * W.wz k * (star (A.x i j k) * B.x i j k)
    + W.wx i * W.dy j * W.wz k * (star (A.y i j k) * B.y i j k)
    + W.wx i * W.wy j * W.dz k * (star (A.z i j k) * B.z i j k)

def pairEs (cf : Cfg K) (W : Widths K) (A B : V3 K) : K :=
  sum3 cf.nx cf.ny cf.nz fun i j k =>
    W.wx i * W.dy j * W.dz k * (star (A.x i j k) * B.x i j k)
    + W.dx i * W.wy j * W.dz k * (star (A.y i j k) * B.y i j k)
    + W.dx i * W.dy j * W.wz k * (star (A.z i j k) * B.z i j k)

theorem pairHs_eq (cf : Cfg K) (W : Widths K) (A B : V3 K) :
    pairHs cf W A B = pairW (starRingEnd K) cf (volH W) A B := rfl

theorem pairEs_eq (cf : Cfg K) (W : Widths K) (A B : V3 K) :
    pairEs cf W A B = pairW (starRingEnd K) cf (volE W) A B := rfl

structure ScalesReal (cf : Cfg K) : Prop where
  bx : ∀ i, star (cf.sbx i) = cf.sbx i
  by_ : ∀ j, star (cf.sby j) = cf.sby j
  bz : ∀ k, star (cf.sbz k) = cf.sbz k

structure HalosBloch (cf : Cfg K) : Prop where
  x : BlochHalo cf.bx
  y : BlochHalo cf.by_
  z : BlochHalo cf.bz

theorem curl_adjoint_star (cf : Cfg K) (W : Widths K) (ref : K) (hm : MetricOK cf W ref) (hh : HalosBloch cf)
    (hr : ScalesReal cf) (H G : V3 K) :
    pairHs cf W H (curlE cf G) = pairEs cf W (curlH cf H) G :=
  curl_adjoint_hom (starRingEnd K) cf W ref hm hh.x hh.y hh.z hr.bx hr.by_ hr.bz H G

end
end Fdtdx
