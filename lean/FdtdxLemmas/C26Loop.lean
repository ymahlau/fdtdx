/-
The solver loop of `FdtdxModel/C26.lean`: the tabulated extension step equals its pointwise definition, a
predicate kept by every assignment and by the extension step is kept by the loop (`loop_inv`; set-once is the
instance `loop_mono`), a successful run ends in a state on which every atom is stable, and the confluence
argument behind C27 (two runs over the same atoms and the same extension function reach the same quiescent
states).
-/
import FdtdxLemmas.C26Engine

namespace Fdtdx.C26

variable {α : Type}

theorem mem_axes3 {ax : Nat} : ax ∈ axes3 ↔ ax < 3 := by
  simp only [axes3, List.mem_cons, List.not_mem_nil, or_false]
  omega

/-! ### the extension step -/

theorem lookup_map_self {β : Type} (F : Var → β) : ∀ (ks : List Var) (v : Var),
    (ks.map fun w => (w, F w)).lookup v = if v ∈ ks then some (F v) else none
  | [], v => by simp
  | k :: ks, v => by
    simp only [List.map_cons, List.lookup_cons, List.mem_cons]
    by_cases h : v = k
    · subst h; simp
    · rw [beq_false_of_ne h, lookup_map_self F ks v]
      simp [h]

theorem isObj_iff {sys : Sys α} {id : Nat} : isObj sys id = true ↔ ∃ o ∈ sys.objs, o.id = id := by
  simp [isObj]

theorem mem_objVars {sys : Sys α} {v : Var} : v ∈ objVars sys ↔ isObj sys v.o = true ∧ v.ax < 3 := by
  rcases v with ⟨vo, vax, vk⟩
  simp only [objVars, isObj_iff, List.mem_flatMap, mem_axes3, List.mem_cons, Var.mk.injEq, List.not_mem_nil,
    or_false]
  constructor
  · rintro ⟨o, ho, ax, hax, ⟨rfl, rfl, _⟩ | ⟨rfl, rfl, _⟩ | ⟨rfl, rfl, _⟩⟩ <;> exact ⟨⟨o, ho, rfl⟩, hax⟩
  · rintro ⟨⟨o, ho, rfl⟩, hax⟩
    exact ⟨o, ho, vax, hax, by cases vk <;> simp⟩

theorem extends_true {sys : Sys α} {σ : St} {v : Var} (h : extends_ sys σ v = true) :
    v ∈ objVars sys ∧ σ v = none := by
  rw [mem_objVars]
  unfold extends_ at h
  split at h
  · cases h
  all_goals
    simp only [Bool.and_eq_true, decide_eq_true_eq, Option.isNone_iff_eq_none] at h
    exact ⟨⟨h.1.1.2, h.1.1.1⟩, h.1.2⟩

theorem extend_eq (sys : Sys α) (σ : St) : extend sys σ = extendPt sys σ := by
  funext v
  unfold extend stOfTbl extendTbl
  rw [lookup_map_self]
  by_cases h : v ∈ objVars sys
  · simp [h]
  · have : extends_ sys σ v = false := Bool.eq_false_iff.2 fun he => h (extends_true he).1
    simp [h, extendPt, this]

theorem stOfTbl_extendTbl (sys : Sys α) (σ : St) : stOfTbl (extendTbl sys σ) σ = extend sys σ := rfl

theorem extend_mono (sys : Sys α) (σ : St) : σ.le (extend sys σ) := by
  rw [extend_eq]
  intro v x hv
  unfold extendPt
  split
  · rename_i h; rw [(extends_true h).2] at hv; cases hv
  · exact hv

/-! ### the loop -/

theorem loop_succ (sys : Sys α) (gs : List Group) (n : Nat) (σ : St) (e : List Nat) :
    loop sys gs (n + 1) σ e =
      match runGroups gs ⟨σ, e, false⟩ with
      | none => none
      | some s =>
        if s.chg then loop sys gs n s.σ s.errs
        else if extChanged sys s.σ then loop sys gs n (extend sys s.σ) s.errs
        else some (s.σ, unresolved sys s.σ ++ s.errs) := by
  rfl

theorem loop_succ_some {sys : Sys α} {gs : List Group} {n : Nat} {σ : St} {e : List Nat} {r : St × List Nat}
    (h : loop sys gs (n + 1) σ e = some r) :
    ∃ s, runGroups gs ⟨σ, e, false⟩ = some s ∧
      ((s.chg = true ∧ loop sys gs n s.σ s.errs = some r) ∨
       (s.chg = false ∧ extChanged sys s.σ = true ∧ loop sys gs n (extend sys s.σ) s.errs = some r) ∨
       (s.chg = false ∧ extChanged sys s.σ = false ∧ (s.σ, unresolved sys s.σ ++ s.errs) = r)) := by
  rw [loop_succ] at h
  split at h
  · cases h
  · rename_i s hs
    refine ⟨s, hs, ?_⟩
    cases hc : s.chg
    · cases hx : extChanged sys s.σ
      · exact Or.inr (Or.inr ⟨rfl, rfl, by simpa [hc, hx] using h⟩)
      · exact Or.inr (Or.inl ⟨rfl, rfl, by simpa [hc, hx] using h⟩)
    · exact Or.inl ⟨rfl, by simpa [hc] using h⟩

theorem loop_inv (P : St → Prop) (sys : Sys α) (gs : List Group)
    (hstep : ∀ a ∈ allAtoms gs, ∀ ρ x, P ρ → a.eval ρ = .set x → P (ρ.set a.target (some x)))
    (hext : ∀ ρ, P ρ → P (extend sys ρ)) :
    ∀ (n : Nat) {σ : St} {e : List Nat} {r : St × List Nat}, P σ → loop sys gs n σ e = some r → P r.1
  | 0, _, _, _, hP, h => by rw [loop] at h; cases h; exact hP
  | n + 1, _, _, _, hP, h => by
    obtain ⟨s, hs, h⟩ := loop_succ_some h
    have h1 : P s.σ := runGroups_inv P gs hstep hP hs
    rcases h with ⟨_, h⟩ | ⟨_, _, h⟩ | ⟨_, _, rfl⟩
    · exact loop_inv P sys gs hstep hext n h1 h
    · exact loop_inv P sys gs hstep hext n (hext _ h1) h
    · exact h1

/-- set-once: whatever is known at some point of the loop keeps its value until the end -/
theorem loop_mono {sys : Sys α} {gs : List Group} {n : Nat} {σ : St} {e : List Nat} {r : St × List Nat}
    (h : loop sys gs n σ e = some r) : σ.le r.1 :=
  loop_inv σ.le sys gs (fun _ _ _ _ => le_step) (fun ρ hP => St.le_trans hP (extend_mono sys ρ)) n (St.le_refl σ) h

theorem loop_errs (sys : Sys α) (gs : List Group) : ∀ (n : Nat) {σ : St} {e : List Nat} {r : St × List Nat},
    loop sys gs n σ e = some r → ∃ l, r.2 = l ++ e
  | 0, _, _, _, h => by rw [loop] at h; cases h; exact ⟨_, rfl⟩
  | n + 1, _, _, _, h => by
    obtain ⟨s, hs, h⟩ := loop_succ_some h
    obtain ⟨⟨l, hl⟩, _⟩ := runGroups_flags gs hs
    rcases h with ⟨_, h⟩ | ⟨_, _, h⟩ | ⟨_, _, rfl⟩
    · obtain ⟨l2, h2⟩ := loop_errs sys gs n h
      exact ⟨l2 ++ l, by rw [h2, hl, List.append_assoc]⟩
    · obtain ⟨l2, h2⟩ := loop_errs sys gs n h
      exact ⟨l2 ++ l, by rw [h2, hl, List.append_assoc]⟩
    · exact ⟨unresolved sys s.σ ++ l, by rw [hl, List.append_assoc]⟩

theorem loop_errs_nil {sys : Sys α} {gs : List Group} {n : Nat} {σ τ : St} {e : List Nat}
    (h : loop sys gs n σ e = some (τ, [])) : e = [] := by
  obtain ⟨l, hl⟩ := loop_errs sys gs n h
  exact (List.append_eq_nil_iff.1 hl.symm).2

/-- out of fuel every object is flagged, so the run did not succeed -/
theorem loop_zero_ne {sys : Sys α} (hne : sys.objs ≠ []) (gs : List Group) (σ τ : St) (e : List Nat) :
    loop sys gs 0 σ e ≠ some (τ, []) := fun h =>
  hne (List.map_eq_nil_iff.1 (List.append_eq_nil_iff.1 (Prod.mk.inj (Option.some.inj h)).2).1)

def StableAll (gs : List Group) (τ : St) : Prop := ∀ a ∈ allAtoms gs, Stable a τ

theorem quiet_pass {gs : List Group} {σ : St} {s : PS} (hs : runGroups gs ⟨σ, [], false⟩ = some s)
    (hc : s.chg = false) (he : s.errs = []) : s.σ = σ ∧ StableAll gs σ :=
  runGroups_quiet gs hs hc (by rw [he])

theorem loop_sound (sys : Sys α) (gs : List Group) (hne : sys.objs ≠ []) :
    ∀ (n : Nat) (σ : St) (e : List Nat) (τ : St),
    loop sys gs n σ e = some (τ, []) →
      StableAll gs τ ∧ extChanged sys τ = false ∧ unresolved sys τ = []
  | 0, σ, e, τ, h => absurd h (loop_zero_ne hne gs σ τ e)
  | n + 1, σ, e, τ, h => by
    cases loop_errs_nil h
    obtain ⟨s, hs, h⟩ := loop_succ_some h
    rcases h with ⟨_, h⟩ | ⟨_, _, h⟩ | ⟨hc, hx, h⟩
    · exact loop_sound sys gs hne n _ _ τ h
    · exact loop_sound sys gs hne n _ _ τ h
    · obtain ⟨h1, h2⟩ := Prod.mk.inj h
      obtain ⟨hu, he⟩ := List.append_eq_nil_iff.1 h2
      obtain ⟨hσ, hst⟩ := quiet_pass hs hc he
      rw [hσ] at h1 hx hu
      subst h1
      exact ⟨hst, hx, hu⟩

/-! ### confluence -/

/-- the run runs out of fuel (`max_iter`) before it settles -/
inductive Exhausts (sys : Sys α) (gs : List Group) : Nat → St → List Nat → Prop
  | zero (σ e) : Exhausts sys gs 0 σ e
  | pass {n σ e s} : runGroups gs ⟨σ, e, false⟩ = some s → s.chg = true →
      Exhausts sys gs n s.σ s.errs → Exhausts sys gs (n + 1) σ e
  | ext {n σ e s} : runGroups gs ⟨σ, e, false⟩ = some s → s.chg = false → extChanged sys s.σ = true →
      Exhausts sys gs n (extend sys s.σ) s.errs → Exhausts sys gs (n + 1) σ e

/-- two descriptions of the same system: same atoms, same extension step, same notion of "unresolved" -/
structure SameSys (sA sB : Sys α) (gA gB : List Group) : Prop where
  atoms : ∀ a, a ∈ allAtoms gA ↔ a ∈ allAtoms gB
  ext : ∀ σ, extend sA σ = extend sB σ
  extc : ∀ σ, extChanged sA σ = extChanged sB σ
  unres : ∀ σ, unresolved sA σ = [] ↔ unresolved sB σ = []
  objsA : sA.objs ≠ []
  noStrict : NoStrict gB

/-- the two runs have the same stable states above them -/
def SameClosure (gs : List Group) (a b : St) : Prop := ∀ q, StableAll gs q → (a.le q ↔ b.le q)

/-- a pass does not change which stable states lie above -/
theorem pass_le_iff {gs : List Group} {s s' : PS} {q : St} (hq : StableAll gs q)
    (hs : runGroups gs s = some s') : s'.σ.le q ↔ s.σ.le q :=
  ⟨St.le_trans (runGroups_mono hs), fun h => runGroups_le hq h hs⟩

theorem SameClosure.symm {gs : List Group} {a b : St} (h : SameClosure gs a b) : SameClosure gs b a :=
  fun q hq => (h q hq).symm

theorem SameClosure.refl (gs : List Group) (a : St) : SameClosure gs a a := fun _ _ => Iff.rfl

theorem stableAll_congr {gA gB : List Group} (h : ∀ a, a ∈ allAtoms gA ↔ a ∈ allAtoms gB) (q : St) :
    StableAll gA q ↔ StableAll gB q :=
  ⟨fun hq a ha => hq a ((h a).2 ha), fun hq a ha => hq a ((h a).1 ha)⟩

/-- B's run from a state `b` below A's quiescent state `a` with the same stable states above it: every pass of B
succeeds without error and stays below `a`; once B is quiet its state is stable, hence above `a`, hence `a`,
and B continues as A does (`hA`: the extension round or the end of the run) -/
theorem confluent_inner {sA sB : Sys α} {gA gB : List Group} (hs : SameSys sA sB gA gB) {τ : St} {nA : Nat} {a : St}
    (IH : ∀ (a b : St) (nB : Nat), SameClosure gA a b → loop sA gA nA a [] = some (τ, []) →
      loop sB gB nB b [] = some (τ, []) ∨ Exhausts sB gB nB b [])
    (hqa : StableAll gA a)
    (hA : (extChanged sA a = true ∧ loop sA gA nA (extend sA a) [] = some (τ, [])) ∨
      (extChanged sA a = false ∧ (a, unresolved sA a ++ []) = (τ, []))) :
    ∀ (nB : Nat) (b : St), b.le a → SameClosure gA a b →
      loop sB gB nB b [] = some (τ, []) ∨ Exhausts sB gB nB b []
  | 0, b, _, _ => Or.inr (Exhausts.zero _ _)
  | nB + 1, b, hle, hcl => by
    have hqaB : StableAll gB a := (stableAll_congr hs.atoms a).1 hqa
    obtain ⟨s, hrun, herr⟩ := runGroups_ok gB ⟨b, [], false⟩ hqaB hs.noStrict hle
    have herr : s.errs = [] := herr
    have hle' : s.σ.le a := runGroups_le hqaB hle hrun
    have hcl' : SameClosure gA a s.σ := fun q hq =>
      (hcl q hq).trans (pass_le_iff ((stableAll_congr hs.atoms q).1 hq) hrun).symm
    rw [loop_succ, hrun]
    dsimp only
    cases hc : s.chg
    · obtain ⟨hσ, hst⟩ := quiet_pass hrun hc herr
      cases St.le_antisymm ((hcl b ((stableAll_congr hs.atoms b).2 hst)).2 (St.le_refl b)) hle
      simp only [Bool.false_eq_true, if_false, hσ, herr, ← hs.extc a, ← hs.ext a]
      rcases hA with ⟨hx, hA⟩ | ⟨hx, hA⟩
      · rw [hx, if_pos rfl]
        refine (IH _ _ nB (SameClosure.refl gA _) hA).imp id fun h => Exhausts.ext hrun hc ?_ ?_
        · rw [hσ, ← hs.extc a]; exact hx
        · rw [hσ, herr, ← hs.ext a]; exact h
      · obtain ⟨rfl, hu⟩ := Prod.mk.inj hA
        rw [hx, if_neg Bool.false_ne_true, (hs.unres a).1 (List.append_eq_nil_iff.1 hu).1]
        exact Or.inl rfl
    · simp only [if_true, herr]
      exact (confluent_inner hs IH hqa hA nB s.σ hle' hcl').imp id
        fun h => Exhausts.pass hrun hc (by rw [herr]; exact h)

/-- **confluence**: if run A succeeds, run B (same atoms in any order, same extension function) ends in the
same state without errors — unless B's `max_iter` is too small for it to settle -/
theorem confluent {sA sB : Sys α} {gA gB : List Group} (hs : SameSys sA sB gA gB) {τ : St} :
    ∀ (nA : Nat) (a b : St) (nB : Nat), SameClosure gA a b → loop sA gA nA a [] = some (τ, []) →
      loop sB gB nB b [] = some (τ, []) ∨ Exhausts sB gB nB b []
  | 0, a, b, nB, _, h => absurd h (loop_zero_ne hs.objsA gA a τ [])
  | nA + 1, a, b, nB, hcl, h => by
    have IH := confluent hs (τ := τ) nA
    obtain ⟨s, hrun, h⟩ := loop_succ_some h
    have he : s.errs = [] := by
      rcases h with ⟨_, h⟩ | ⟨_, _, h⟩ | ⟨_, _, h⟩
      · exact loop_errs_nil h
      · exact loop_errs_nil h
      · exact (List.append_eq_nil_iff.1 (Prod.mk.inj h).2).2
    rw [he] at h
    rcases h with ⟨_, h⟩ | hq
    · -- A's pass changed something: same closure, continue with less fuel for A
      exact IH s.σ b nB (fun q hq => (pass_le_iff hq hrun).trans (hcl q hq)) h
    · -- A is quiet: its state is stable, so B's start lies below it
      have hc : s.chg = false := by rcases hq with ⟨hc, _⟩ | ⟨hc, _⟩ <;> exact hc
      obtain ⟨hσ, hst⟩ := quiet_pass hrun hc he
      rw [hσ] at hq
      exact confluent_inner hs IH hst (hq.imp And.right And.right) nB b ((hcl a hst).1 (St.le_refl a)) hcl

end Fdtdx.C26
